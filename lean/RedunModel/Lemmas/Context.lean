/-
Helper lemmas for the context model (C26): key order and grouped values of `merge_dicts`, its equations on two
and three arguments, induction over contexts; contexts read as functions from paths to values.
-/
import RedunModel.Model.Context
import RedunModel.Lemmas.AssocList
namespace RedunModel.Context
open Assoc

theorem mergeKvs_eq_map (da db : List (String × Ctx)) :
    mergeKvs da db = da.map fun p => (p.1, match db.lookup p.1 with
                                          | some w => deepMerge p.2 w
                                          | none => p.2) := by
  induction da with
  | nil => rfl
  | cons p t ih => obtain ⟨k, v⟩ := p; simp only [mergeKvs, List.map_cons, ih]; rfl

theorem lookup_mergeKvs (da db : List (String × Ctx)) (k : String) :
    (mergeKvs da db).lookup k = (da.lookup k).map fun v => match db.lookup k with
                                                          | some w => deepMerge v w
                                                          | none => v := by
  rw [mergeKvs_eq_map]
  exact lookup_map (fun k v => match db.lookup k with | some w => deepMerge v w | none => v) k da

/-- merging two mappings, with the entries only `db` has selected by membership in `da`'s key list -/
theorem deepMerge_obj (da db : List (String × Ctx)) :
    deepMerge (.obj da) (.obj db) = .obj (mergeKvs da db ++ db.filter fun p => decide (p.1 ∉ da.map (·.1))) := by
  rw [deepMerge]
  exact congrArg (fun l => Ctx.obj (_ ++ l)) (List.filter_congr fun p _ => by rw [any_key_eq, decide_not])

/-- `keyOrder` is a left fold: the keys seen after `l1` are where `l2` starts -/
theorem keyOrder_append (l1 l2 : List String) : ∀ seen, keyOrder seen (l1 ++ l2) = keyOrder (keyOrder seen l1).reverse l2 := by
  induction l1 with
  | nil => intro seen; simp [keyOrder]
  | cons k t ih => intro seen; simp only [List.cons_append, keyOrder]; split <;> exact ih _

theorem keyOrder_nodup (l : List String) : ∀ (seen : List String), l.Nodup →
    keyOrder seen l = seen.reverse ++ l.filter (fun x => decide (x ∉ seen)) := by
  induction l with
  | nil => intro seen _; simp [keyOrder]
  | cons k t ih =>
    intro seen hn
    have ⟨hk, ht⟩ := List.nodup_cons.mp hn
    by_cases hs : k ∈ seen
    · simp only [keyOrder, hs, if_true]
      rw [ih seen ht]; simp [hs]
    · simp only [keyOrder, hs, if_false]
      rw [ih (k :: seen) ht]
      simp only [List.reverse_cons, List.append_assoc, List.singleton_append, List.filter_cons, hs,
        not_false_eq_true, decide_true, if_true]
      congr 2
      apply List.filter_congr
      intro x hx
      have : x ≠ k := fun h => hk (h ▸ hx)
      simp [this]

theorem keyOrder_pair (l1 l2 : List String) (h1 : l1.Nodup) (h2 : l2.Nodup) :
    keyOrder [] (l1 ++ l2) = l1 ++ l2.filter (fun x => decide (x ∉ l1)) := by
  rw [keyOrder_append, keyOrder_nodup l1 _ h1, keyOrder_nodup l2 _ h2]
  simp

theorem valuesFor_append (k : String) (a b : List (String × Ctx)) :
    valuesFor k (a ++ b) = valuesFor k a ++ valuesFor k b := by
  simp [valuesFor, List.filterMap_append]

theorem valuesFor_nodup (k : String) (a : List (String × Ctx)) (h : (a.map (·.1)).Nodup) :
    valuesFor k a = (a.lookup k).toList := by
  induction a with
  | nil => rfl
  | cons p t ih =>
    obtain ⟨k', v⟩ := p
    have ⟨hk, ht⟩ := List.nodup_cons.mp h
    rw [lookup_cons, valuesFor, List.filterMap_cons, ← valuesFor, ih ht]
    by_cases e : k' = k
    · subst e; simp [lookup_eq_none_iff.2 hk]
    · simp [e, Ne.symm e]

theorem Ctx.WF_obj {kvs : List (String × Ctx)} : (Ctx.obj kvs).WF ↔ (∀ p ∈ kvs, p.2.WF) ∧ (kvs.map (·.1)).Nodup := by
  rw [Ctx.WF]
  refine and_congr_left' ?_
  induction kvs with
  | nil => simp [wfKvs]
  | cons q t ih => obtain ⟨qk, qv⟩ := q; simp [wfKvs, ih]

mutual
/-- Structural induction on the nested type `Ctx` with a single motive (the generated recursor wants a second one for
the list of entries). -/
theorem Ctx.ind {P : Ctx → Prop} (leaf : ∀ v, P (.leaf v)) (obj : ∀ kvs, (∀ p ∈ kvs, P p.2) → P (.obj kvs)) :
    (c : Ctx) → P c
  | .leaf v => leaf v
  | .obj kvs => obj kvs (Ctx.indKvs leaf obj kvs)
theorem Ctx.indKvs {P : Ctx → Prop} (leaf : ∀ v, P (.leaf v)) (obj : ∀ kvs, (∀ p ∈ kvs, P p.2) → P (.obj kvs)) :
    (kvs : List (String × Ctx)) → ∀ p ∈ kvs, P p.2
  | [], _, h => nomatch h
  | (_, v) :: t, p, h => by
    rcases List.mem_cons.1 h with rfl | h
    · exact Ctx.ind leaf obj v
    · exact Ctx.indKvs leaf obj t p h
end

/-- the result of `merge_dicts` once every argument is a dict, from the concatenated items -/
def groupItems (its : List (String × Ctx)) : Ctx :=
  .obj ((keyOrder [] (its.map (·.1))).map fun k => (k, mergeDicts (valuesFor k its)))

theorem mergeDicts_single (d : Ctx) : mergeDicts [d] = d := by rw [mergeDicts]

theorem mergeDicts_pair_obj (da db : List (String × Ctx)) : mergeDicts [.obj da, .obj db] = groupItems (da ++ db) := by
  rw [mergeDicts]; simp [isObj, items, groupItems]

theorem mergeDicts_triple_obj (a b c : List (String × Ctx)) :
    mergeDicts [.obj a, .obj b, .obj c] = groupItems (a ++ (b ++ c)) := by
  rw [mergeDicts]; simp [isObj, items, groupItems]

theorem mergeDicts_pair_leaf_right (a : Ctx) (w : String) : mergeDicts [a, .leaf w] = .leaf w := by
  rw [mergeDicts]; simp [isObj]

theorem mergeDicts_pair_leaf_left (v : String) (b : Ctx) : mergeDicts [.leaf v, b] = b := by
  rw [mergeDicts]; simp [isObj]

def shape : Ctx → Option String
  | .leaf v => some v
  | .obj _ => none

/-- what a path denotes in a context: `none` = nothing there, `some none` = a mapping, `some (some v)` = the
non-mapping `v` -/
def sem (c : Ctx) (ps : List String) : Option (Option String) := (getPath c ps).map shape

/-- The merged context as a function of paths, computed from the two contexts as functions of paths only. -/
def mergeSem (fa fb : List String → Option (Option String)) : List String → Option (Option String)
  | [] => fb []
  | k :: r =>
    match fa [], fb [] with
    | some none, some none =>
      match fa [k], fb [k] with
      | some _, some _ => mergeSem (fun q => fa (k :: q)) (fun q => fb (k :: q)) r
      | some _, none => fa (k :: r)
      | none, some _ => fb (k :: r)
      | none, none => none
    | _, _ => fb (k :: r)

theorem getPath_obj (kvs : List (String × Ctx)) (p : String) (ps : List String) :
    getPath (.obj kvs) (p :: ps) = (kvs.lookup p).bind (getPath · ps) := by
  rw [getPath]; cases kvs.lookup p <;> rfl

theorem getPath_append (c : Ctx) (ps qs : List String) :
    getPath c (ps ++ qs) = (getPath c ps).bind (getPath · qs) := by
  induction ps generalizing c with
  | nil => rfl
  | cons p ps ih =>
    cases c with
    | leaf v => rfl
    | obj kvs =>
      rw [List.cons_append, getPath_obj, getPath_obj]
      cases kvs.lookup p with
      | none => rfl
      | some v => exact ih v

theorem sem_obj (kvs : List (String × Ctx)) (k : String) (r : List String) :
    sem (.obj kvs) (k :: r) = (kvs.lookup k).bind (sem · r) := by
  rw [sem, getPath_obj]; cases kvs.lookup k <;> rfl

def ExtEq (a b : Ctx) : Prop := ∀ ps, sem a ps = sem b ps

end RedunModel.Context
