/-
Lemmas about EvalCore: which terms of a list decide its outcome (`eval_list_err`, `Eval.list_ok_mem`); the
executable evaluator is sound for the relation (`evalAll_sound`, `evalFuel_sound`) and, where it reports no
"unknown", complete (`evalAll_complete`, `evalFuel_unique`); concrete values evaluate to themselves and only to
themselves (`value_iff`), results of evaluations are concrete values (`result_isValue`); a test that lets the kernel
compare a computed outcome with an expected one (`evalFuel_eq`).

Soundness and completeness are proved layer by layer: `evalAll lib (n + 1)` is `step lib (evalAll lib n)`, and
`step_sound` / `step_finds` show that `step` is sound / complete whenever the evaluator it calls is; induction on the
fuel does the rest.  `evalFuel` answers `some r` only when `evalAll` returns `[r]` with `r` not "unknown": soundness
then says that the rules prescribe `r`, completeness that they prescribe nothing else (`evalFuel_unique`).
-/
import RedunModel.Model.EvalCore
namespace RedunModel.EvalCore

variable {cx : Ctx}

theorem mem_single {o : Out} : o ∈ [o] := by simp

theorem eval_list_err {lib : Lib} {x : Err} {es : List Expr} :
    Eval lib cx (L es) (.err x) ↔ ∃ e ∈ es, Eval lib cx e (.err x) := by
  induction es with
  | nil => exact ⟨fun h => by cases h with | contErr hk => exact absurd rfl hk, fun ⟨_, hm, _⟩ => nomatch hm⟩
  | cons e es ih =>
    simp only [List.mem_cons, or_and_right, exists_or, exists_eq_left]
    constructor
    · intro h
      cases h with
      | consErrHd h1 => exact .inl h1
      | consErrTl h2 => exact .inr (ih.mp h2)
      | contErr hk => exact absurd rfl hk
    · rintro (he | he)
      · exact .consErrHd he
      · exact .consErrTl (ih.mpr he)

theorem Eval.list_ok_mem {lib : Lib} {es : List Expr} {w : Expr} (h : Eval lib cx (L es) (.ok w)) :
    ∀ e ∈ es, ∃ v, Eval lib cx e (.ok v) := by
  induction es generalizing w with
  | nil => intro _ hm; cases hm
  | cons e es ih =>
    cases h with
    | leaf h => cases h
    | cont hk => exact absurd rfl hk
    | cons h1 h2 => exact List.forall_mem_cons.mpr ⟨⟨_, h1⟩, ih h2⟩

theorem mem_bindO {rs : Outs} {k : Expr → Outs} {r : Out} :
    r ∈ bindO rs k ↔ (∃ v, .ok v ∈ rs ∧ r ∈ k v) ∨ (∃ x, r = .err x ∧ .err x ∈ rs) ∨ (r = .unk ∧ .unk ∈ rs) := by
  unfold bindO
  rw [List.mem_flatMap]
  constructor
  · rintro ⟨o, ho, hr⟩
    cases o with
    | ok v => exact .inl ⟨v, ho, hr⟩
    | err x => cases List.mem_singleton.mp hr; exact .inr (.inl ⟨x, rfl, ho⟩)
    | unk => cases List.mem_singleton.mp hr; exact .inr (.inr ⟨rfl, ho⟩)
  · rintro (⟨v, hv, hr⟩ | ⟨x, rfl, hx⟩ | ⟨rfl, hu⟩)
    · exact ⟨_, hv, hr⟩
    · exact ⟨_, hx, mem_single⟩
    · exact ⟨_, hu, mem_single⟩

/-! ## Soundness of the evaluator

`Known rs P`: every outcome in `rs` other than "unknown" satisfies `P`; `RecSound lib cx rec` is
`∀ e, Known (rec e) (Eval lib cx e)` written out.  What is known of a combinator's result follows from what is known of
its parts; the continuations handed to the lemmas below are the reduction rules. -/

def Known (rs : Outs) (P : Out → Prop) : Prop := ∀ r ∈ rs, r ≠ .unk → P r

def RecSound (lib : Lib) (cx : Ctx) (rec : Expr → Outs) : Prop := ∀ e r, r ∈ rec e → r ≠ .unk → Eval lib cx e r

theorem known_unk {P : Out → Prop} : Known [.unk] P := fun _ h hk => absurd (List.mem_singleton.mp h) hk

theorem known_single {P : Out → Prop} {o : Out} (h : P o) : Known [o] P := fun _ hr _ => List.mem_singleton.mp hr ▸ h

theorem known_nil {P : Out → Prop} : Known [] P := fun _ h => nomatch h

theorem ite_known {P : Out → Prop} {c : Prop} [Decidable c] {o : Out} (h : c → P o) :
    Known (if c then [o] else [.unk]) P := by
  split
  · exact known_single (h ‹c›)
  · exact known_unk

theorem flatMap_known {R P : Out → Prop} {rs : Outs} {f : Out → Outs} (hs : Known rs R) (hu : Known (f .unk) P)
    (hf : ∀ o, R o → Known (f o) P) : Known (rs.flatMap f) P := by
  intro r h hk
  obtain ⟨o, ho, hr⟩ := List.mem_flatMap.mp h
  by_cases hou : o = .unk
  · exact hu r (hou ▸ hr) hk
  · exact hf o (hs o ho hou) r hr hk

theorem bindO_known {R P : Out → Prop} {rs : Outs} {k : Expr → Outs} (hs : Known rs R)
    (hok : ∀ v, R (.ok v) → Known (k v) P) (herr : ∀ x, R (.err x) → P (.err x)) : Known (bindO rs k) P :=
  flatMap_known hs known_unk fun
    | .ok v, ho => hok v ho
    | .err x, ho => known_single (herr x ho)
    | .unk, _ => known_unk

theorem bindL_known {R P : Out → Prop} {rs : Outs} {k : List Expr → Outs} (hs : Known rs R)
    (hok : ∀ vs, R (.ok (L vs)) → Known (k vs) P) (herr : ∀ x, R (.err x) → P (.err x)) : Known (bindL rs k) P :=
  bindO_known hs (fun v hv => by
    unfold onList
    split
    · exact hok _ hv
    · exact known_unk) herr

theorem thenEval_known {lib : Lib} {rec : Expr → Outs} (hrec : RecSound lib cx rec) {P : Out → Prop} {o : Out}
    (hok : ∀ e, o = .ok e → ∀ r, Eval lib cx e r → P r) (herr : ∀ x, o = .err x → P (.err x)) :
    Known (thenEval rec o) P :=
  match o with
  | .ok e => fun r h hk => hok e rfl r (hrec e r h hk)
  | .err x => known_single (herr x rfl)
  | .unk => known_unk

theorem consJoin_known {R T P : Out → Prop} {rs tails : Outs} (hs : Known rs R) (ht : Known tails T)
    (hok : ∀ v vs, R (.ok v) → T (.ok (L vs)) → P (.ok (L (v :: vs)))) (hl : ∀ x, R (.err x) → P (.err x))
    (hr : ∀ x, T (.err x) → P (.err x)) : Known (consJoin rs tails) P := by
  have herr : ∀ {Q : Out → Prop} {os : Outs}, Known os Q → (∀ x, Q (.err x) → P (.err x)) →
      Known (os.filter fun r => !r.isOk) P := by
    intro Q os hos hq r h hk
    rw [List.mem_filter] at h
    cases r with
    | ok v => cases h.2
    | err x => exact hq x (hos _ h.1 hk)
    | unk => exact absurd rfl hk
  intro r h hk
  rcases List.mem_append.mp h with h | h
  · rcases List.mem_append.mp h with h | h
    · refine flatMap_known hs known_nil (fun o ho => ?_) r h hk
      cases o with
      | ok v =>
        refine flatMap_known ht known_nil fun t ht' => ?_
        split
        · exact known_single (hok _ _ ho ht')
        · exact known_unk
        · exact known_nil
      | err x => exact known_nil
      | unk => exact known_nil
    · exact herr hs hl r h hk
  · exact herr ht hr r h hk

theorem bind2_known {R T P : Out → Prop} {xs ys : Outs} {k : List Expr → List Expr → Outs} (hx : Known xs R)
    (hy : Known ys T) (hok : ∀ a d, R (.ok (L a)) → T (.ok (L d)) → Known (k a d) P)
    (hl : ∀ x, R (.err x) → P (.err x)) (hr : ∀ x, T (.err x) → P (.err x)) : Known (bind2 xs ys k) P := by
  -- the pair `[xs, ys]` is joined as `evalList` joins a list: both values, or the error of either side; what is known
  -- of a joined outcome is said by cases on it
  have hj : Known (consJoin xs (consJoin ys [.ok (L [])])) fun
      | .ok j => ∃ v w, j = L [v, w] ∧ R (.ok v) ∧ T (.ok w)
      | .err x => P (.err x)
      | .unk => True :=
    consJoin_known hx
      (consJoin_known hy (known_single rfl)
        (P := fun | .ok j => ∃ w, j = L [w] ∧ T (.ok w) | .err x => P (.err x) | .unk => True)
        (fun w _ hw h => ⟨w, by cases h; rfl, hw⟩) hr nofun)
      (fun v _ hv ⟨w, he, hw⟩ => ⟨v, w, by cases he; rfl, hv, hw⟩) hl fun _ h => h
  refine bindL_known hj (fun vs ⟨v, w, he, hv, hw⟩ => ?_) fun _ h => h
  cases he
  split
  · rename_i heq; cases heq; exact hok _ _ hv hw
  · exact known_unk

theorem evalList_sound {lib : Lib} {rec : Expr → Outs} (hrec : RecSound lib cx rec) :
    ∀ es, Known (evalList rec es) (Eval lib cx (L es))
  | [] => known_single .nil
  | e :: es =>
    consJoin_known (hrec e) (evalList_sound hrec es) (fun _ _ => .cons) (fun _ => .consErrHd)
      fun _ => .consErrTl

theorem cond_sound {lib : Lib} {rec : Expr → Outs} (hrec : RecSound lib cx rec) {c t : Expr} {rest : List Expr} {els : Outs}
    (hels : ∀ cv, Eval lib cx c (.ok cv) → truthy cv = false → Known els (Eval lib cx (.cond (c :: t :: rest)))) :
    Known (bindO (rec c) fun cv => if truthy cv = true then rec t else els) (Eval lib cx (.cond (c :: t :: rest))) := by
  refine bindO_known (hrec c) (fun cv hcv => ?_) fun x hx => .condErr hx
  by_cases ht : truthy cv = true
  · rw [if_pos ht]
    exact fun r hr hk => .condThen hcv ht (hrec t r hr hk)
  · rw [if_neg ht]
    exact hels cv hcv (by simpa using ht)

theorem condGo_sound {lib : Lib} {rec : Expr → Outs} (hrec : RecSound lib cx rec) :
    ∀ exprs : List Expr, Known (condGo rec exprs) (Eval lib cx (.cond exprs))
  | [] | [_] => known_unk
  | [_, _] => cond_sound hrec fun _ hc ht => known_single (.condNoElse hc ht)
  | [_, _, _] => cond_sound hrec fun _ hc ht r hr hk => .condElse hc ht (hrec _ r hr hk)
  | _ :: _ :: c2 :: t2 :: rest =>
    cond_sound hrec fun _ hc ht r hr hk => .condElif hc ht (condGo_sound hrec (c2 :: t2 :: rest) r hr hk)

theorem seqGo_sound {lib : Lib} {rec : Expr → Outs} (hrec : RecSound lib cx rec) :
    ∀ es : List Expr, Known (seqGo rec es) (Eval lib cx (.seq es))
  | [] => known_single .seqNil
  | e :: es =>
    bindO_known (hrec e)
      (fun _ hv => bindL_known (seqGo_sound hrec es) (fun _ hvs => known_single (.seqCons hv hvs)) fun _ => .seqErrTl hv)
      fun _ => .seqErrHd

theorem settle_not_err {lib : Lib} {e : Expr} {x : Err} : ¬ Eval lib cx (.settle e) (.err x) := by
  intro h; cases h

theorem settleList_not_err {lib : Lib} {x : Err} (items : List Expr) : ¬ Eval lib cx (L (items.map .settle)) (.err x) := by
  intro h
  obtain ⟨_, hm, he⟩ := eval_list_err.mp h
  obtain ⟨_, _, rfl⟩ := List.mem_map.mp hm
  exact settle_not_err he

theorem rebuild_ne_err {s : Shape} {vs : List Expr} {y : Err} : rebuild s vs ≠ .err y := by
  unfold rebuild
  split <;> (try split) <;> simp

theorem rebuild_known {s : Shape} {vs : List Expr} {P : Out → Prop} (h : ∀ v, rebuild s vs = .ok v → P (.ok v)) :
    Known [rebuild s vs] P := by
  intro r hr hk
  cases List.mem_singleton.mp hr
  cases hb : rebuild s vs with
  | ok v => exact h v hb
  | err y => exact absurd hb rebuild_ne_err
  | unk => exact absurd hb hk

theorem iterOf_ok {v w : Expr} (h : iterOf v = .ok w) : ∃ xs, w = L xs := by
  unfold iterOf at h
  split at h
  any_goals exact ⟨_, (Out.ok.inj h).symm⟩
  split at h <;> simp [typeName] at h

theorem step_leaf {lib : Lib} {recC : Ctx → Expr → Outs} {e : Expr} (h : isLeaf e = true) :
    step lib recC cx e = [.ok e] := by
  unfold isLeaf at h
  split at h <;> first | rfl | cases h

theorem step_cont {lib : Lib} {recC : Ctx → Expr → Outs} {k : CKind} {es : List Expr} (hk : k ≠ .list) :
    step lib recC cx (.cont k es)
      = bindL (evalList (recC cx) es) fun vs => if contOk k vs then [.ok (.cont k vs)] else [.unk] := by
  cases k <;> first | rfl | exact absurd rfl hk

theorem step_sound {lib : Lib} {recC : Ctx → Expr → Outs} (hrecAll : ∀ cx, RecSound lib cx (recC cx)) :
    ∀ cx, RecSound lib cx (step lib recC cx) := by
  intro cx e
  have hrec := hrecAll cx
  have hlist := fun c => evalList_sound (hrecAll c)
  show Known (step lib recC cx e) (Eval lib cx e)
  cases e with
  | none | bool | int | str | errv | cls | pyfunc | taskv | partialv | threadv | objv => exact known_single (.leaf rfl)
  | vexpr v => exact ite_known .vexpr
  | cont k es =>
    by_cases hkl : k = .list
    · subst hkl
      exact hlist _ _
    · rw [step_cont hkl]
      exact bindL_known (hlist _ _) (fun _ hvs => ite_known (.cont hkl hvs)) fun _ => .contErr hkl
  | dict ks vs => exact bindL_known (hlist _ _) (fun _ hall => ite_known (.dict hall)) fun _ => .dictErr
  | call t args kwn kwv ovn ovv =>
    simp only [step]
    split
    · exact known_unk
    · rename_i td htd
      exact bind2_known (hlist _ _) (hlist _ _)
        (fun _ _ ha hd =>
          thenEval_known (hrecAll _) (fun _ he' _ => .call htd ha hd he') fun _ => .callRaise htd ha hd)
        (fun _ => .callArgErr htd) fun _ => .callDefaultErr htd
  | op name args =>
    exact bindL_known (hlist _ _)
      (fun _ hvs => thenEval_known hrec (fun _ he' _ => .op hvs he') fun _ => .opRaise hvs)
      fun _ => .opArgErr
  | cond exprs => exact condGo_sound hrec _
  | seq exprs => exact seqGo_sound hrec _
  | «catch» e clss recs =>
    refine flatMap_known (hrec e) known_unk fun o ho => ?_
    cases o with
    | ok v => exact known_single (.catchOk ho)
    | unk => exact known_unk
    | err x =>
      simp only
      split
      · rename_i hm; exact known_single (.catchMiss ho hm)
      · exact known_unk
      · rename_i rc hm
        exact thenEval_known hrec (fun _ he' _ => .catchHit ho hm he') fun _ => .catchHitRaise ho hm
  | catchAll exprs cls recover =>
    simp only [step]
    split
    · exact known_unk
    · rename_i shape items hterms
      refine bindL_known (hlist _ _) (fun outs houts => ?_) fun _ hx => absurd hx (settleList_not_err items)
      split
      · exact known_unk
      · rename_i vals hun
        exact rebuild_known fun _ => .catchAllOk hterms houts hun
      · rename_i vals x errs hun
        split
        · exact known_unk
        · rename_i hv
          have hv' : isValue recover = true := by simpa using hv
          split
          · rename_i ht
            exact known_single (.catchAllFirst hterms houts hun hv' (by simpa using ht))
          · rename_i ht
            have ht' : truthy recover = true := by simpa using ht
            refine bindL_known (hlist _ _) (fun cr hcr => ?_) fun _ => .catchAllArgErr hterms houts hun hv' ht'
            split
            · rename_i cv rv
              split
              · exact known_unk
              · rename_i y hm
                exact known_single (.catchAllNoMatch hterms houts hun hv' ht' hcr hm)
              · rename_i hm
                split
                · rename_i nv hb
                  exact thenEval_known hrec
                    (fun _ he' _ => .catchAllRecover hterms houts hun hv' ht' hcr hm hb he')
                    fun _ => .catchAllRecoverRaise hterms houts hun hv' ht' hcr hm hb
                · rename_i o hno
                  exact rebuild_known fun v hb => absurd hb (hno v)
            · exact known_unk
  | map_ f values =>
    refine bindO_known (hrec _) (fun av hA => ?_) fun _ => .mapTaskErr
    split
    · rename_i items hraw
      exact thenEval_known hrec (fun _ he' _ => .mapRaw hA hraw he') fun _ => .mapRawRaise hA hraw
    · rename_i hraw
      refine bindO_known (hrec _) (fun vv hV => ?_) fun _ => .mapValuesErr hA hraw
      split
      · rename_i items hit
        exact thenEval_known hrec (fun _ he' _ => .mapEval hA hraw hV hit he')
          fun _ => .mapEvalRaise hA hraw hV hit
      · exact known_unk
      · rename_i o hno1 hno2
        intro r hr hk
        cases List.mem_singleton.mp hr
        cases hi : iterOf vv with
        | ok w => exact absurd hi (hno2 w)
        | err y => exact .mapNotIter hA hraw hV hi
        | unk => exact absurd hi hk
  | applyTags v tags jtags etags =>
    refine bindL_known (hlist _ _) (fun all hall => ?_) fun _ => .applyTagsErr
    split
    · refine ite_known fun hc => ?_
      simp only [Bool.and_eq_true] at hc
      exact .applyTags hall hc.1.1 hc.1.2 hc.2
    · exact known_unk
  | fork e => exact known_single .fork
  | join th =>
    simp only [step]
    split
    · exact fun r h hk => .join (hrec _ r h hk)
    · exact known_unk
  | subrun e ne =>
    refine flatMap_known (hrecAll _ e) known_unk fun o ho => ?_
    cases o with
    | ok v =>
      refine bindO_known (hrec _) (fun d hd => ?_) fun _ => .subrunOkErr ho
      split
      · exact known_single (.subrunOk ho hd)
      · exact known_unk
    | unk => exact known_unk
    | err x => exact known_single (.subrunErr ho)
  | getCtx key dflt =>
    simp only [step]
    split
    · exact known_unk
    · rename_i hc
      simp only [Bool.or_eq_true, Bool.not_eq_eq_eq_not, Bool.not_true, not_or] at hc
      have hk1 : key.toList.contains '.' = false := by simpa using hc.1
      have hd : isValue dflt = true := by simpa using hc.2
      split
      · rename_i v hv
        exact ite_known (.getCtxHit hk1 hd hv)
      · rename_i hv
        exact known_single (.getCtxMiss hk1 hd hv)
  | settle e =>
    intro r h hk
    obtain ⟨o, ho, hr⟩ := List.mem_map.mp h
    cases o with
    | ok v => exact hr ▸ .settleOk (hrec _ _ ho nofun)
    | err x => exact hr ▸ .settleErr (hrec _ _ ho nofun)
    | unk => exact absurd hr.symm hk

theorem evalAll_sound {lib : Lib} : ∀ (n : Nat) (cx : Ctx), RecSound lib cx (evalAll lib n cx)
  | 0 => fun _ _ => known_unk
  | n + 1 => fun cx e => step_sound (evalAll_sound n) cx e

theorem evalFuel_eq_some {lib : Lib} {n : Nat} {e : Expr} {r : Out} (h : evalFuel lib n cx e = some r) :
    evalAll lib n cx e = [r] ∧ r ≠ .unk := by
  unfold evalFuel at h
  split at h
  · cases h; exact ⟨‹_›, nofun⟩
  · cases h; exact ⟨‹_›, nofun⟩
  · cases h

theorem evalFuel_sound {lib : Lib} {n : Nat} {e : Expr} {r : Out} (h : evalFuel lib n cx e = some r) : Eval lib cx e r :=
  have ⟨h1, h2⟩ := evalFuel_eq_some h
  evalAll_sound n cx e r (h1 ▸ mem_single) h2

/-! ## Completeness of the evaluator (when it reports no unknown)

`Finds rs r`: the outcome `r` is among `rs`, unless `rs` reports "unknown".  `RecComplete lib cx rec` amounts to
`∀ e r, Eval lib cx e r → Finds (rec e) r`, with the side condition `NoUnk` moved into the disjunction.  In this form
completeness composes: what each combinator of the evaluator finds follows from what its parts find, with no side
condition to carry along. -/

def NoUnk (rs : Outs) : Prop := Out.unk ∉ rs

def RecComplete (lib : Lib) (cx : Ctx) (rec : Expr → Outs) : Prop := ∀ e r, NoUnk (rec e) → Eval lib cx e r → r ∈ rec e

def Finds (rs : Outs) (r : Out) : Prop := r ∈ rs ∨ .unk ∈ rs

theorem finds_single {r : Out} : Finds [r] r := .inl mem_single

theorem flatMap_finds {rs : Outs} {f : Out → Outs} {o r : Out} (ho : Finds rs o) (hf : f .unk = [.unk])
    (hr : Finds (f o) r) : Finds (rs.flatMap f) r := by
  rcases ho with ho | hu
  · exact hr.imp (List.mem_flatMap.mpr ⟨o, ho, ·⟩) (List.mem_flatMap.mpr ⟨o, ho, ·⟩)
  · exact .inr (List.mem_flatMap.mpr ⟨_, hu, hf ▸ mem_single⟩)

theorem bindO_finds {rs : Outs} {k : Expr → Outs} {r : Out} {v : Expr} (hv : Finds rs (.ok v)) (hr : Finds (k v) r) :
    Finds (bindO rs k) r := flatMap_finds hv rfl hr

theorem bindO_finds_err {rs : Outs} {k : Expr → Outs} {x : Err} (hx : Finds rs (.err x)) : Finds (bindO rs k) (.err x) :=
  flatMap_finds hx rfl finds_single

theorem bindL_finds {rs : Outs} {k : List Expr → Outs} {r : Out} {vs : List Expr} (hv : Finds rs (.ok (L vs)))
    (hr : Finds (k vs) r) : Finds (bindL rs k) r := flatMap_finds hv rfl hr

theorem thenEval_finds {rec : Expr → Outs} {o r : Out} {e : Expr} (ho : o = .ok e) (hr : Finds (rec e) r) :
    Finds (thenEval rec o) r := ho ▸ hr

theorem thenEval_finds_err {rec : Expr → Outs} {o : Out} {x : Err} (ho : o = .err x) : Finds (thenEval rec o) (.err x) := by
  subst ho; exact finds_single

theorem consJoin_left {rs tails : Outs} {o : Out} (h : o ∈ rs) (hn : o.isOk = false) : o ∈ consJoin rs tails :=
  List.mem_append_left _ (List.mem_append_right _ (List.mem_filter.mpr ⟨h, by rw [hn]; rfl⟩))

theorem consJoin_right {rs tails : Outs} {o : Out} (h : o ∈ tails) (hn : o.isOk = false) : o ∈ consJoin rs tails :=
  List.mem_append_right _ (List.mem_filter.mpr ⟨h, by rw [hn]; rfl⟩)

theorem consJoin_ok {rs tails : Outs} {v : Expr} {vs : List Expr} (hv : .ok v ∈ rs) (ht : .ok (L vs) ∈ tails) :
    .ok (L (v :: vs)) ∈ consJoin rs tails :=
  List.mem_append_left _ (List.mem_append_left _
    (List.mem_flatMap.mpr ⟨_, hv, List.mem_flatMap.mpr ⟨_, ht, mem_single⟩⟩))

theorem consJoin_finds {rs tails : Outs} {v : Expr} {vs : List Expr} (hv : Finds rs (.ok v))
    (ht : Finds tails (.ok (L vs))) : Finds (consJoin rs tails) (.ok (L (v :: vs))) := by
  rcases hv with hv | hu
  · exact ht.imp (consJoin_ok hv) (consJoin_right · rfl)
  · exact .inr (consJoin_left hu rfl)

theorem consJoin_finds_left {rs tails : Outs} {x : Err} (hx : Finds rs (.err x)) : Finds (consJoin rs tails) (.err x) :=
  hx.imp (consJoin_left · rfl) (consJoin_left · rfl)

theorem consJoin_finds_right {rs tails : Outs} {x : Err} (hx : Finds tails (.err x)) :
    Finds (consJoin rs tails) (.err x) :=
  hx.imp (consJoin_right · rfl) (consJoin_right · rfl)

theorem bind2_finds {xs ys : Outs} {k : List Expr → List Expr → Outs} {r : Out} {a d : List Expr}
    (ha : Finds xs (.ok (L a))) (hd : Finds ys (.ok (L d))) (hr : Finds (k a d) r) : Finds (bind2 xs ys k) r :=
  bindL_finds (consJoin_finds ha (consJoin_finds hd finds_single)) hr

theorem bind2_finds_left {xs ys : Outs} {k : List Expr → List Expr → Outs} {x : Err} (hx : Finds xs (.err x)) :
    Finds (bind2 xs ys k) (.err x) := bindO_finds_err (consJoin_finds_left hx)

theorem bind2_finds_right {xs ys : Outs} {k : List Expr → List Expr → Outs} {x : Err} (hx : Finds ys (.err x)) :
    Finds (bind2 xs ys k) (.err x) := bindO_finds_err (consJoin_finds_right (consJoin_finds_left hx))

theorem step_finds {lib : Lib} {recC : Ctx → Expr → Outs} (hrecAll : ∀ cx, RecComplete lib cx (recC cx))
    {e : Expr} {r : Out} (h : Eval lib cx e r) : Finds (step lib recC cx e) r := by
  have hrec {c e r} (h : Eval lib c e r) : Finds (recC c e) r :=
    Classical.byCases (fun hu => .inr hu) fun hu => .inl (hrecAll c e r hu h)
  -- Induction on the derivation: a premise about a term the evaluator hands to `recC` is answered by `hrec`; a premise
  -- it works out in the same layer (a list of arguments, the tail of a list or `seq`, the `elif` chain) by its induction
  -- hypothesis, because `step lib recC cx (L es)` unfolds to `evalList (recC cx) es`, `.seq` to `seqGo`, `.cond` to `condGo`.
  induction h with
  | leaf hl => rw [step_leaf hl]; exact finds_single
  | vexpr hv => simp only [step, hv, if_true]; exact finds_single
  | nil => exact finds_single
  | cons h1 _ _ ih2 => exact consJoin_finds (hrec h1) ih2
  | consErrHd h1 => exact consJoin_finds_left (hrec h1)
  | consErrTl _ ih2 => exact consJoin_finds_right ih2
  | cont hkl _ hc ih =>
    rw [step_cont hkl]
    exact bindL_finds ih (by simp only [hc, if_true]; exact finds_single)
  | contErr hkl _ ih =>
    rw [step_cont hkl]
    exact bindO_finds_err ih
  | dict _ hc ih => exact bindL_finds ih (by simp only [hc, if_true]; exact finds_single)
  | dictErr _ ih => exact bindO_finds_err ih
  | call htd _ _ hb h2 iha ihd =>
    simp only [step, htd]
    exact bind2_finds iha ihd (thenEval_finds hb (hrec h2))
  | callRaise htd _ _ hb iha ihd =>
    simp only [step, htd]
    exact bind2_finds iha ihd (thenEval_finds_err hb)
  | callArgErr htd _ iha =>
    simp only [step, htd]
    exact bind2_finds_left iha
  | callDefaultErr htd _ ihd =>
    simp only [step, htd]
    exact bind2_finds_right ihd
  | op _ ho h2 ih => exact bindL_finds ih (thenEval_finds ho (hrec h2))
  | opRaise _ ho ih => exact bindL_finds ih (thenEval_finds_err ho)
  | opArgErr _ ih => exact bindO_finds_err ih
  | @condErr _ _ _ rest _ h1 => rcases rest with _ | ⟨_, _ | _⟩ <;> exact bindO_finds_err (hrec h1)
  | @condThen _ _ _ rest _ _ h1 ht h2 =>
    rcases rest with _ | ⟨_, _ | _⟩ <;> exact bindO_finds (hrec h1) (by rw [if_pos ht]; exact hrec h2)
  | condElse h1 ht h2 => exact bindO_finds (hrec h1) (by simp only [ht, Bool.false_eq_true, if_false]; exact hrec h2)
  | condElif h1 ht _ _ ih2 => exact bindO_finds (hrec h1) (by simp only [ht, Bool.false_eq_true, if_false]; exact ih2)
  | condNoElse h1 ht =>
    exact bindO_finds (hrec h1) (by simp only [ht, Bool.false_eq_true, if_false]; exact finds_single)
  | seqNil => exact finds_single
  | seqCons h1 _ _ ih2 => exact bindO_finds (hrec h1) (bindL_finds ih2 finds_single)
  | seqErrHd h1 => exact bindO_finds_err (hrec h1)
  | seqErrTl h1 _ _ ih2 => exact bindO_finds (hrec h1) (bindO_finds_err ih2)
  | catchOk h1 => exact flatMap_finds (hrec h1) rfl finds_single
  | catchMiss h1 hm => exact flatMap_finds (hrec h1) rfl (by simp only [hm]; exact finds_single)
  | catchHit h1 hm ha h2 => exact flatMap_finds (hrec h1) rfl (by simp only [hm]; exact thenEval_finds ha (hrec h2))
  | catchHitRaise h1 hm ha => exact flatMap_finds (hrec h1) rfl (by simp only [hm]; exact thenEval_finds_err ha)
  | settleOk h1 => exact (hrec h1).imp (List.mem_map.mpr ⟨_, ·, rfl⟩) (List.mem_map.mpr ⟨_, ·, rfl⟩)
  | settleErr h1 => exact (hrec h1).imp (List.mem_map.mpr ⟨_, ·, rfl⟩) (List.mem_map.mpr ⟨_, ·, rfl⟩)
  | catchAllOk hterms _ hun hb ih =>
    simp only [step, hterms]
    exact bindL_finds ih (by simp only [hun, hb]; exact finds_single)
  | catchAllFirst hterms _ hun hv ht ih =>
    simp only [step, hterms]
    exact bindL_finds ih (by simp [hun, hv, ht, finds_single])
  | catchAllArgErr hterms _ hun hv ht _ ih ih2 =>
    simp only [step, hterms]
    refine bindL_finds ih ?_
    simp only [hun, hv, ht, Bool.not_true, Bool.false_eq_true, if_false]
    exact bindO_finds_err ih2
  | catchAllNoMatch hterms _ hun hv ht _ hm ih ih2 =>
    simp only [step, hterms]
    refine bindL_finds ih ?_
    simp only [hun, hv, ht, Bool.not_true, Bool.false_eq_true, if_false]
    exact bindL_finds ih2 (by simp only [hm]; exact finds_single)
  | catchAllRecover hterms _ hun hv ht _ hm hb ha h3 ih ih2 =>
    simp only [step, hterms]
    refine bindL_finds ih ?_
    simp only [hun, hv, ht, Bool.not_true, Bool.false_eq_true, if_false]
    exact bindL_finds ih2 (by simp only [hm, hb]; exact thenEval_finds ha (hrec h3))
  | catchAllRecoverRaise hterms _ hun hv ht _ hm hb ha ih ih2 =>
    simp only [step, hterms]
    refine bindL_finds ih ?_
    simp only [hun, hv, ht, Bool.not_true, Bool.false_eq_true, if_false]
    exact bindL_finds ih2 (by simp only [hm, hb]; exact thenEval_finds_err ha)
  | mapTaskErr h1 => exact bindO_finds_err (hrec h1)
  | mapRaw h1 hraw hc h2 => exact bindO_finds (hrec h1) (by simp only [hraw]; exact thenEval_finds hc (hrec h2))
  | mapRawRaise h1 hraw hc => exact bindO_finds (hrec h1) (by simp only [hraw]; exact thenEval_finds_err hc)
  | mapValuesErr h1 hraw h2 => exact bindO_finds (hrec h1) (by simp only [hraw]; exact bindO_finds_err (hrec h2))
  | mapNotIter h1 hraw h2 hi =>
    refine bindO_finds (hrec h1) ?_
    simp only [hraw]
    exact bindO_finds (hrec h2) (by simp only [hi]; exact finds_single)
  | mapEval h1 hraw h2 hi hc h3 =>
    refine bindO_finds (hrec h1) ?_
    simp only [hraw]
    exact bindO_finds (hrec h2) (by simp only [hi]; exact thenEval_finds hc (hrec h3))
  | mapEvalRaise h1 hraw h2 hi hc =>
    refine bindO_finds (hrec h1) ?_
    simp only [hraw]
    exact bindO_finds (hrec h2) (by simp only [hi]; exact thenEval_finds_err hc)
  | applyTags _ ht hj he ih => exact bindL_finds ih (by simp [ht, hj, he, finds_single])
  | applyTagsErr _ ih => exact bindO_finds_err ih
  | fork => exact finds_single
  | join h1 => exact hrec h1
  | subrunOk h1 h2 => exact flatMap_finds (hrec h1) rfl (bindO_finds (hrec h2) finds_single)
  | subrunOkErr h1 h2 => exact flatMap_finds (hrec h1) rfl (bindO_finds_err (hrec h2))
  | subrunErr h1 => exact flatMap_finds (hrec h1) rfl finds_single
  | getCtxHit hk1 hd hv hvv => simp [step, (by simpa using hk1 : '.' ∉ _), hd, hv, hvv, finds_single]
  | getCtxMiss hk1 hd hv => simp [step, (by simpa using hk1 : '.' ∉ _), hd, hv, finds_single]

theorem evalAll_complete {lib : Lib} : ∀ (n : Nat) (cx : Ctx), RecComplete lib cx (evalAll lib n cx)
  | 0 => fun _ _ _ hn _ => absurd mem_single hn
  | n + 1 => fun _ _ _ hn h => (step_finds (evalAll_complete n) h).resolve_right hn

theorem evalFuel_unique {lib : Lib} {n : Nat} {e : Expr} {r : Out} (h : evalFuel lib n cx e = some r) :
    ∀ r', Eval lib cx e r' → r' = r := by
  obtain ⟨h1, h2⟩ := evalFuel_eq_some h
  intro r' h'
  have := evalAll_complete n cx e r' (h1 ▸ fun hu => h2 (List.mem_singleton.mp hu).symm) h'
  rwa [h1, List.mem_singleton] at this

theorem list_self {lib : Lib} : ∀ xs : List Expr, (∀ x ∈ xs, Eval lib cx x (.ok x)) → Eval lib cx (L xs) (.ok (L xs)) := by
  intro xs h
  induction xs with
  | nil => exact .nil
  | cons x xs ih => exact .cons (h x List.mem_cons_self) (ih fun y hy => h y (List.mem_cons_of_mem _ hy))

theorem allValues_iff {xs : List Expr} : allValues xs = true ↔ ∀ x ∈ xs, isValue x = true := by
  induction xs with
  | nil => simp [allValues]
  | cons y ys ih => simp [allValues, ih]

theorem allValues_append {xs ys : List Expr} : allValues (xs ++ ys) = (allValues xs && allValues ys) := by
  induction xs with
  | nil => rfl
  | cons x xs ih => simp [allValues, ih, Bool.and_assoc]

/-! `isValue` on the three container forms, in terms of the list of parts the rules evaluate -/

theorem isValue_L {xs : List Expr} : isValue (L xs) = allValues xs := by
  simp [isValue, contOk]

theorem isValue_cons {e : Expr} {es : List Expr} :
    isValue (L (e :: es)) = true ↔ isValue e = true ∧ isValue (L es) = true := by
  simp [isValue, allValues, contOk]

theorem isValue_cont {k : CKind} {es : List Expr} :
    isValue (.cont k es) = true ↔ isValue (L es) = true ∧ contOk k es = true := by
  simp [isValue, contOk]

theorem isValue_dict {ks vs : List Expr} :
    isValue (.dict ks vs) = true ↔ isValue (L (ks ++ vs)) = true ∧ keysOk ks = true := by
  simp [isValue, contOk, allValues_append]

mutual
  theorem value_self {lib : Lib} : ∀ v : Expr, isValue v = true → Eval lib cx v (.ok v)
    | .cont k items, hv => by
      simp only [isValue, Bool.and_eq_true] at hv
      have hl : Eval lib cx (L items) (.ok (L items)) := list_self items (values_self_mem items hv.1)
      by_cases hk : k = .list
      · exact hk ▸ hl
      · exact .cont hk hl hv.2
    | .dict ks vs, hv => by
      simp only [isValue, Bool.and_eq_true] at hv
      have hl := list_self (lib := lib) (cx := cx) (ks ++ vs) fun x hx =>
        (List.mem_append.mp hx).elim (values_self_mem ks hv.1.1 x) (values_self_mem vs hv.1.2 x)
      simpa using Eval.dict hl (by simpa using hv.2)
    | .none, _ | .bool _, _ | .int _, _ | .str _, _ | .errv _, _ | .cls _, _ | .pyfunc _, _
    | .taskv _, _ | .partialv .., _ | .threadv _, _ | .objv .., _ => .leaf rfl
  theorem values_self_mem {lib : Lib} : ∀ xs : List Expr, allValues xs = true → ∀ x ∈ xs, Eval lib cx x (.ok x)
    | y :: ys, h, x, hx => by
      simp only [allValues, Bool.and_eq_true] at h
      rcases List.mem_cons.mp hx with heq | hx
      · exact heq ▸ value_self y h.1
      · exact values_self_mem ys h.2 x hx
end

/-- a concrete value has no other outcome: only the rules for leaves and containers apply to it, and their premises
are about values again -/
theorem value_unique {lib : Lib} {v : Expr} {r : Out} (h : Eval lib cx v r) : isValue v = true → r = .ok v := by
  induction h with
  | leaf | nil => intro _; rfl
  | cons _ _ ih1 ih2 =>
    intro hv
    cases ih1 (isValue_cons.mp hv).1
    cases ih2 (isValue_cons.mp hv).2
    rfl
  | consErrHd _ ih => exact fun hv => nomatch ih (isValue_cons.mp hv).1
  | consErrTl _ ih => exact fun hv => nomatch ih (isValue_cons.mp hv).2
  | cont _ _ _ ih =>
    intro hv
    cases ih (isValue_cont.mp hv).1
    rfl
  | contErr _ _ ih => exact fun hv => nomatch ih (isValue_cont.mp hv).1
  | dict _ _ ih =>
    intro hv
    cases ih (isValue_dict.mp hv).1
    simp
  | dictErr _ ih => exact fun hv => nomatch ih (isValue_dict.mp hv).1
  | _ => intro hv; cases hv

theorem value_iff {lib : Lib} (v : Expr) (hv : isValue v = true) (r : Out) : Eval lib cx v r ↔ r = .ok v :=
  ⟨(value_unique · hv), fun h => h ▸ value_self v hv⟩

theorem values_self {lib : Lib} : ∀ xs : List Expr, allValues xs = true → Eval lib cx (L xs) (.ok (L xs)) :=
  fun xs h => list_self xs (values_self_mem xs h)

theorem values_unique {lib : Lib} : ∀ xs : List Expr, allValues xs = true →
      ∀ x ∈ xs, ∀ r, Eval lib cx x r → r = .ok x :=
  fun _ h x hx _ hr => value_unique hr (allValues_iff.mp h x hx)

theorem unsettle_values : ∀ (outs : List Expr) (vals : List Expr) (errs : List Err), isValue (L outs) = true →
    unsettle outs = some (vals, errs) → isValue (L vals) = true := by
  intro outs
  fun_induction unsettle outs with
  | case1 => rintro _ _ _ ⟨⟩; rfl
  | case2 v rest ih =>
    intro vals errs hv h
    obtain ⟨⟨vs, es⟩, hu, ⟨⟩⟩ := Option.map_eq_some_iff.mp h
    rw [isValue_cons] at hv ⊢
    exact ⟨by simpa [isValue, allValues, contOk] using hv.1, ih _ _ hv.2 hu⟩
  | case3 x rest ih =>
    intro vals errs hv h
    obtain ⟨⟨vs, es⟩, hu, ⟨⟩⟩ := Option.map_eq_some_iff.mp h
    rw [isValue_cons] at hv ⊢
    exact ⟨rfl, ih _ _ hv.2 hu⟩
  | case4 => intro _ _ _ h; cases h

theorem rebuild_value {s : Shape} {vals : List Expr} {v : Expr} (hv : isValue (L vals) = true)
    (h : rebuild s vals = .ok v) : isValue v = true := by
  unfold rebuild at h
  split at h
  · cases h
    exact (isValue_cons.mp hv).1
  · split at h
    · rename_i hc
      cases h
      exact isValue_cont.mpr ⟨hv, hc⟩
    · cases h
  · split at h
    · rename_i hc
      cases h
      exact isValue_dict.mpr ⟨by rwa [List.take_append_drop], hc⟩
    · cases h
  · cases h

theorem isLeaf_isValue {e : Expr} (h : isLeaf e = true) : isValue e = true := by
  unfold isLeaf at h
  split at h <;> first | rfl | cases h

def Out.IsValue : Out → Prop
  | .ok v => isValue v = true
  | .err _ => True
  | .unk => False

theorem result_isValue {lib : Lib} {e : Expr} {r : Out} (h : Eval lib cx e r) : r.IsValue := by
  induction h with
  | leaf hl => exact isLeaf_isValue hl
  | vexpr hv => exact hv
  | nil | seqNil | fork | settleErr => rfl
  | cons _ _ ih1 ih2 | seqCons _ _ ih1 ih2 => exact isValue_cons.mpr ⟨ih1, ih2⟩
  | cont _ _ hc ih => exact isValue_cont.mpr ⟨ih, hc⟩
  | dict _ hc ih => exact isValue_dict.mpr ⟨by rw [List.take_append_drop]; exact ih, hc⟩
  | settleOk _ ih => exact isValue_cont.mpr ⟨isValue_cons.mpr ⟨rfl, isValue_cons.mpr ⟨ih, rfl⟩⟩, rfl⟩
  | catchAllOk _ _ hun hb ih => exact rebuild_value (unsettle_values _ _ _ ih hun) hb
  | applyTags _ _ _ _ ih => exact (isValue_cons.mp ih).1
  | subrunOk _ _ _ ih => exact (isValue_cons.mp (isValue_cons.mp (isValue_dict.mp ih).1).2).1
  | getCtxHit _ _ _ hvv => exact hvv
  | getCtxMiss _ hd => exact hd
  -- a rule that raises yields no value
  | consErrHd | consErrTl | contErr | dictErr | callRaise | callArgErr | callDefaultErr | opRaise | opArgErr | condErr
  | condNoElse | seqErrHd | seqErrTl | catchMiss | catchHitRaise | catchAllFirst | catchAllArgErr | catchAllNoMatch
  | catchAllRecoverRaise | mapTaskErr | mapRawRaise | mapValuesErr | mapNotIter | mapEvalRaise | applyTagsErr
  | subrunOkErr | subrunErr => trivial
  -- a rule whose outcome is that of a premise passes on that premise's induction hypothesis
  | call | op | condThen | condElse | condElif | catchOk | catchHit | catchAllRecover | mapRaw | mapEval | join =>
    assumption

theorem Eval.ne_unk {lib : Lib} {e : Expr} {r : Out} (h : Eval lib cx e r) : r ≠ .unk :=
  fun hu => (hu ▸ result_isValue h : Out.IsValue .unk)

/-! ## Comparing a computed outcome with an expected one

`Expr` is a nested inductive type: its derived `BEq` is opaque and `DecidableEq` cannot be derived, so a closed
statement `evalFuel lib n c e = some r` has no `Decidable` instance, and `rfl` makes the elaborator evaluate the
left side before the kernel does it again.  `Expr.same?` is the part of a decision procedure that such statements
need: it recognises equal terms built from `None`, bools, ints, strings, containers and task calls,
and returns the proof with the answer; `none` says nothing.  `evalsTo` / `evalFuel_eq` (for `evalAll`: `sameOuts?` /
`evalAll_eq`) then leave a `Bool` for the kernel to compute.  The `theorem evals` of Props/C01, C12 and C38 each state
all closed evaluations of their file in this form, as one conjunction proved by one `decide +kernel`; the `example`s
after them are its projections through `evalFuel_eq`. -/

namespace Expr

mutual
  def same? : (a b : Expr) → Option (PLift (a = b))
    | .none, .none => some ⟨rfl⟩
    | .bool a, .bool b => if h : a = b then some ⟨congrArg _ h⟩ else .none
    | .int a, .int b => if h : a = b then some ⟨congrArg _ h⟩ else .none
    | .str a, .str b => if h : a = b then some ⟨congrArg _ h⟩ else .none
    | .cont k xs, .cont k' ys =>
      match sames? xs ys with
      | some ⟨h'⟩ => if h : k = k' then some ⟨by rw [h, h']⟩ else .none
      | .none => .none
    | .call t a kn kv on ov, .call t' a' kn' kv' on' ov' =>
      match sames? a a', sames? kv kv', sames? ov ov' with
      | some ⟨h1⟩, some ⟨h2⟩, some ⟨h3⟩ =>
        if h : t = t' ∧ kn = kn' ∧ on = on' then some ⟨by rw [h1, h2, h3, h.1, h.2.1, h.2.2]⟩ else .none
      | _, _, _ => .none
    | _, _ => .none
  def sames? : (xs ys : List Expr) → Option (PLift (xs = ys))
    | [], [] => some ⟨rfl⟩
    | x :: xs, y :: ys =>
      match same? x y, sames? xs ys with
      | some ⟨h⟩, some ⟨h'⟩ => some ⟨by rw [h, h']⟩
      | _, _ => .none
    | _, _ => .none
end

end Expr

theorem of_isSome {p : Prop} : {o : Option (PLift p)} → o.isSome = true → p
  | some ⟨h⟩, _ => h

def Out.same? : (a b : Out) → Option (PLift (a = b))
  | .ok a, .ok b => (a.same? b).map fun ⟨h⟩ => ⟨congrArg _ h⟩
  | .err a, .err b => if h : a = b then some ⟨congrArg _ h⟩ else none
  | _, _ => none

def sameOuts? : (as bs : Outs) → Option (PLift (as = bs))
  | [], [] => some ⟨rfl⟩
  | a :: as, b :: bs =>
    match Out.same? a b, sameOuts? as bs with
    | some ⟨h⟩, some ⟨h'⟩ => some ⟨by rw [h, h']⟩
    | _, _ => none
  | _, _ => none

/-- `evalFuel lib n c e = some r` as a `Bool`.  For closed arguments `evalsTo … = true` is proved by `decide +kernel`;
several such facts about one library are best put in one conjunction and checked together, since the kernel pays
for decoding the string literals of the task table once per check. -/
def evalsTo (lib : Lib) (n : Nat) (c : Ctx) (e : Expr) (r : Out) : Bool :=
  match evalFuel lib n c e with
  | some o => (Out.same? o r).isSome
  | none => false

theorem evalFuel_eq {lib : Lib} {n : Nat} {e : Expr} {r : Out} (h : evalsTo lib n cx e r = true) :
    evalFuel lib n cx e = some r := by
  unfold evalsTo at h
  split at h
  · rename_i heq; rw [heq, of_isSome h]
  · cases h

theorem evalAll_eq {lib : Lib} {n : Nat} {e : Expr} {rs : Outs} (h : (sameOuts? (evalAll lib n cx e) rs).isSome = true) :
    evalAll lib n cx e = rs := of_isSome h

end RedunModel.EvalCore
