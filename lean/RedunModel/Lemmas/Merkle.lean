/-
Lemmas for the call-graph recorder model (C20): the order on symbolic call hashes is a total order,
sorting is permutation invariant, and the database invariants kept by the recorder.
-/
import RedunModel.Model.Merkle
import RedunModel.Lemmas.LawfulCmp
import RedunModel.Lemmas.ListAux
namespace RedunModel.Merkle
open List

namespace H
theorem cmpL_eq_cmpList : cmpL = Timing.cmpList cmp := by
  funext a b
  fun_induction Timing.cmpList cmp a b with
  | case4 x xs y ys ih => rw [cmpL, ih]
  | _ => rfl

theorem lawful : Timing.LawfulCmp cmp :=
  Timing.lawful_nested (Timing.lawful_cmpProd Timing.lawful_nat (Timing.lawful_cmpProd Timing.lawful_nat Timing.lawful_nat))
    (fun | .call t a r k => ((t, a, r), k)) (fun | .call .., .call .., h => by cases h; rfl)
    (fun | .call .., .call .. => by simp only [cmp, cmpL_eq_cmpList, Timing.cmpProd, Ordering.then_assoc])
    fun P h => H.rec (motive_2 := fun l => ∀ x ∈ l, P x) (fun t a r k => h (.call t a r k)) nofun
      fun _ _ hx hxs => forall_mem_cons.2 ⟨hx, hxs⟩

theorem lawfulL : Timing.LawfulCmp cmpL := cmpL_eq_cmpList ▸ Timing.lawful_cmpList lawful

theorem cmpL_eq : ∀ (a b : List H), cmpL a b = .eq → a = b := lawfulL.eq

theorem cmpL_swap : ∀ (a b : List H), (cmpL a b).swap = cmpL b a := lawfulL.swap

theorem cmpL_lt_trans : ∀ (a b c : List H), cmpL a b = .lt → cmpL b c = .lt → cmpL a c = .lt := lawfulL.lt_trans

theorem eqb_iff {a b : H} : eqb a b = true ↔ a = b := beq_iff_eq.trans lawful.eq_iff
end H

theorem sortH_perm {l1 l2 : List H} (h : l1.Perm l2) : sortH l1 = sortH l2 :=
  Timing.mergeSort_eq_of_perm H.lawful.le_total H.lawful.le_antisymm H.lawful.le_trans h

theorem hasNodeL_iff {nodes : List NodeRow} {h : H} :
    hasNodeL nodes h = true ↔ ∃ r ∈ nodes, r.id = h := by
  simp [hasNodeL, H.eqb_iff]

theorem hasNodeL_append {a b : List NodeRow} {h : H} :
    hasNodeL (a ++ b) h = (hasNodeL a h || hasNodeL b h) := by
  simp [hasNodeL]

theorem hasNodeL_mono {a b : List NodeRow} {h : H} (hh : hasNodeL a h = true) :
    hasNodeL (a ++ b) h = true := by simp [hasNodeL_append, hh]

theorem hasNode_congr {db db' : Db} (hn : db'.nodes = db.nodes) (h : H) : db'.hasNode h = db.hasNode h := by
  unfold Db.hasNode; rw [hn]

def viewOf (k : JT) : List H := if k.visible then (callHash k).toList else []

theorem views_eq_flatMap (kids : List JT) : views kids = kids.flatMap viewOf := by
  induction kids with
  | nil => simp [views]
  | cons k ks ih => simp [views, viewOf, ih]

theorem views_perm {k1 k2 : List JT} (h : k1.Perm k2) : (views k1).Perm (views k2) := by
  rw [views_eq_flatMap, views_eq_flatMap]; exact h.flatMap_right _

theorem callHash_job (i : Info) (l s : Bool) (kids : List JT) :
    callHash (.job i l s kids) = finHash i (views kids) := by simp [callHash]

theorem hashCallNode_perm {t a r : Nat} {k1 k2 : List H} (h : k1.Perm k2) :
    hashCallNode t a r k1 = hashCallNode t a r k2 := by
  unfold hashCallNode; rw [sortH_perm h]

theorem finHash_perm (i : Info) {k1 k2 : List H} (h : k1.Perm k2) : finHash i k1 = finHash i k2 := by
  unfold finHash; rw [hashCallNode_perm h]

theorem hashCallNode_inj {t a r t' a' r' : Nat} {k k' : List H}
    (h : hashCallNode t a r k = hashCallNode t' a' r' k') : t = t' ∧ a = a' ∧ r = r' ∧ k.Perm k' := by
  unfold hashCallNode at h
  injection h with h1 h2 h3 h4
  exact ⟨h1, h2, h3, Timing.perm_of_mergeSort_eq h4⟩

def Fin.computed : Fin → Bool
  | .ok | .fail => true
  | _ => false

def Fin.ended : Fin → Bool
  | .unfinished => false
  | _ => true

theorem finHash_computed {i : Info} {ks : List H} (hp : i.prov = true) (hc : i.fin.computed = true) :
    finHash i ks = some (hashCallNode i.task i.args i.result ks) := by
  unfold finHash
  cases hf : i.fin <;> simp [hf, Fin.computed, hp] at hc ⊢

/-- A node row is the pre-image of its own fields and of *some* child list; every `CallEdge` leaving it
sits at a position of that list and points to a recorded node. -/
def NodeOK (db : Db) (r : NodeRow) : Prop :=
  ∃ ks : List H, r.id = hashCallNode r.task r.args r.result ks ∧
    ∀ c n, (r.id, c, n) ∈ db.edges → ks[n]? = some c ∧ db.hasNode c = true

structure Merkle (db : Db) : Prop where
  nodes : ∀ r ∈ db.nodes, NodeOK db r
  closed : ∀ p c n, (p, c, n) ∈ db.edges → db.hasNode p = true
  pk : db.nodes.Pairwise fun a b => a.id ≠ b.id

theorem merkle_empty : Merkle {} := by
  constructor <;> simp

theorem mem_newEdges {nodes : List NodeRow} {h : H} {kids : List H} {p c : H} {n : Nat} :
    (p, c, n) ∈ newEdges nodes h kids ↔ p = h ∧ kids[n]? = some c ∧ hasNodeL nodes c = true := by
  simp only [newEdges, mem_map, mem_filter, Prod.mk.injEq, Prod.exists, mem_zipIdx_iff_getElem?]
  constructor
  · rintro ⟨c', n', ⟨h1, h2⟩, rfl, rfl, rfl⟩
    exact ⟨rfl, by simpa using h1, h2⟩
  · rintro ⟨rfl, h1, h2⟩
    exact ⟨c, n, ⟨by simpa using h1, h2⟩, rfl, rfl, rfl⟩

theorem recordCallNode_old {db : Db} {t a r : Nat} {kids : List H}
    (h : db.hasNode (hashCallNode t a r kids) = true) : (recordCallNode db t a r kids).1 = db := by
  unfold recordCallNode; simp [h]

theorem recordCallNode_new {db : Db} {t a r : Nat} {kids : List H}
    (h : db.hasNode (hashCallNode t a r kids) = false) :
    (recordCallNode db t a r kids).1 =
      { db with nodes := db.nodes ++ [{ id := hashCallNode t a r kids, task := t, args := a, result := r }],
                edges := db.edges ++ newEdges (db.nodes ++ [{ id := hashCallNode t a r kids, task := t, args := a, result := r }])
                  (hashCallNode t a r kids) kids } := by
  unfold recordCallNode; simp [h]

theorem recordCallNode_hash (db : Db) (t a r : Nat) (kids : List H) :
    (recordCallNode db t a r kids).2 = hashCallNode t a r kids := by
  unfold recordCallNode; simp only []; split <;> rfl

theorem recordCallNode_rest (db : Db) (t a r : Nat) (kids : List H) :
    (recordCallNode db t a r kids).1.jobs = db.jobs ∧ (recordCallNode db t a r kids).1.tags = db.tags := by
  cases hn : db.hasNode (hashCallNode t a r kids)
  · rw [recordCallNode_new hn]; exact ⟨rfl, rfl⟩
  · rw [recordCallNode_old hn]; exact ⟨rfl, rfl⟩

theorem recordCallNode_hasNode_mono {db : Db} {t a r : Nat} {kids : List H} {h : H}
    (hh : db.hasNode h = true) : (recordCallNode db t a r kids).1.hasNode h = true := by
  cases hc : db.hasNode (hashCallNode t a r kids)
  · rw [recordCallNode_new hc]; exact hasNodeL_mono hh
  · rw [recordCallNode_old hc]; exact hh

theorem recordCallNode_hasNode_self (db : Db) (t a r : Nat) (kids : List H) :
    (recordCallNode db t a r kids).1.hasNode (hashCallNode t a r kids) = true := by
  cases hc : db.hasNode (hashCallNode t a r kids)
  · rw [recordCallNode_new hc]; exact hasNodeL_iff.2 ⟨_, mem_append_right _ (mem_singleton_self _), rfl⟩
  · rw [recordCallNode_old hc]; exact hc

theorem mem_recordCallNode_edges {db : Db} {t a r : Nat} {kids : List H}
    (hfresh : db.hasNode (hashCallNode t a r kids) = false) {p c : H} {n : Nat} :
    (p, c, n) ∈ (recordCallNode db t a r kids).1.edges ↔ (p, c, n) ∈ db.edges ∨
      (p = hashCallNode t a r kids ∧ kids[n]? = some c ∧ (recordCallNode db t a r kids).1.hasNode c = true) := by
  rw [recordCallNode_new hfresh, mem_append, mem_newEdges]; rfl

theorem merkle_recordCallNode {db : Db} (m : Merkle db) (t a r : Nat) (kids : List H) :
    Merkle (recordCallNode db t a r kids).1 := by
  cases hh : db.hasNode (hashCallNode t a r kids)
  · have hfresh : ∀ r' ∈ db.nodes, r'.id ≠ hashCallNode t a r kids := fun r' hr' e =>
      Bool.false_ne_true (hh ▸ hasNodeL_iff.2 ⟨r', hr', e⟩)
    have hn : (recordCallNode db t a r kids).1.nodes = db.nodes ++ [⟨hashCallNode t a r kids, t, a, r⟩] := by
      rw [recordCallNode_new hh]
    refine ⟨fun r' hr' => ?_, fun p c n h => ?_, ?_⟩
    · rcases mem_append.1 (hn ▸ hr') with hr' | hr'
      · obtain ⟨ks, hid, hed⟩ := m.nodes r' hr'
        refine ⟨ks, hid, fun c n h => ?_⟩
        rcases (mem_recordCallNode_edges hh).1 h with h | h
        · exact ⟨(hed c n h).1, recordCallNode_hasNode_mono (hed c n h).2⟩
        · exact absurd h.1 (hfresh r' hr')
      · rw [mem_singleton.1 hr']
        refine ⟨kids, rfl, fun c n h => ?_⟩
        rcases (mem_recordCallNode_edges hh).1 h with h | h
        · exact absurd (m.closed _ _ _ h) (by simp [hh])
        · exact h.2
    · rcases (mem_recordCallNode_edges hh).1 h with h | h
      · exact recordCallNode_hasNode_mono (m.closed _ _ _ h)
      · rw [h.1]; exact recordCallNode_hasNode_self ..
    · exact hn ▸ pairwise_append.2 ⟨m.pk, pairwise_singleton _ _, fun a ha b hb => mem_singleton.1 hb ▸ hfresh a ha⟩
  · rw [recordCallNode_old hh]; exact m

@[simp] theorem recordJobTags_nodes (db : Db) (e : Nat) (i : Info) : (recordJobTags db e i).nodes = db.nodes := rfl
@[simp] theorem recordJobTags_edges (db : Db) (e : Nat) (i : Info) : (recordJobTags db e i).edges = db.edges := rfl
@[simp] theorem recordJobTags_jobs (db : Db) (e : Nat) (i : Info) : (recordJobTags db e i).jobs = db.jobs := rfl
@[simp] theorem recordJobTags_execs (db : Db) (e : Nat) (i : Info) : (recordJobTags db e i).execs = db.execs := rfl
@[simp] theorem jobStart_nodes (db : Db) (e : Nat) (p : Option Nat) (i : Info) : (jobStart db e p i).nodes = db.nodes := rfl
@[simp] theorem jobStart_edges (db : Db) (e : Nat) (p : Option Nat) (i : Info) : (jobStart db e p i).edges = db.edges := rfl
@[simp] theorem jobStart_tags (db : Db) (e : Nat) (p : Option Nat) (i : Info) : (jobStart db e p i).tags = db.tags := rfl
@[simp] theorem jobEnd_nodes (db : Db) (e : Nat) (p : Option Nat) (i : Info) (c : Option H) :
    (jobEnd db e p i c).nodes = db.nodes := by unfold jobEnd; split <;> rfl
@[simp] theorem jobEnd_edges (db : Db) (e : Nat) (p : Option Nat) (i : Info) (c : Option H) :
    (jobEnd db e p i c).edges = db.edges := by unfold jobEnd; split <;> rfl
@[simp] theorem jobEnd_tags (db : Db) (e : Nat) (p : Option Nat) (i : Info) (c : Option H) :
    (jobEnd db e p i c).tags = db.tags := by unfold jobEnd; split <;> rfl

@[simp] theorem jobStart_hasNode (db : Db) (e : Nat) (p : Option Nat) (i : Info) (h : H) :
    (jobStart db e p i).hasNode h = db.hasNode h := rfl

theorem merkle_congr {db db' : Db} (hn : db'.nodes = db.nodes) (he : db'.edges = db.edges) (m : Merkle db) :
    Merkle db' := by
  refine ⟨fun r hr => ?_, fun p c n hc => ?_, hn ▸ m.pk⟩
  · obtain ⟨ks, h1, h2⟩ := m.nodes r (hn ▸ hr)
    exact ⟨ks, h1, fun c n hc => hasNode_congr hn c ▸ h2 c n (he ▸ hc)⟩
  · exact hasNode_congr hn p ▸ m.closed p c n (he ▸ hc)

/-- The database after the `record_call_node` made at the end of a job (if it makes one). -/
def nodeDb (db : Db) (i : Info) (kids : List JT) : Db :=
  if i.prov && i.fin.computed then (recordCallNode db i.task i.args i.result (views kids)).1 else db

theorem finishJob_job (db : Db) (e : Nat) (p : Option Nat) (i : Info) (l s : Bool) (kids : List JT) :
    finishJob db e p (.job i l s kids) =
      if i.prov && i.fin.ended then
        jobEnd (recordJobTags (nodeDb db i kids) e i) e p i (callHash (.job i l s kids))
      else db := by
  rw [callHash_job]
  unfold finishJob nodeDb finHash
  cases hp : i.prov <;> cases hf : i.fin <;> simp [hp, hf, Fin.ended, Fin.computed, recordCallNode_hash]

theorem nodeDb_ind {P : Db → Prop} {db : Db} (i : Info) (kids : List JT) (h0 : P db)
    (h1 : P (recordCallNode db i.task i.args i.result (views kids)).1) : P (nodeDb db i kids) := by
  unfold nodeDb
  split
  · exact h1
  · exact h0

theorem nodeDb_computed {db : Db} {i : Info} {kids : List JT} (hp : i.prov = true) (hc : i.fin.computed = true) :
    nodeDb db i kids = (recordCallNode db i.task i.args i.result (views kids)).1 := by
  simp [nodeDb, hp, hc]

theorem nodeDb_rest (db : Db) (i : Info) (kids : List JT) :
    (nodeDb db i kids).jobs = db.jobs ∧ (nodeDb db i kids).tags = db.tags :=
  nodeDb_ind (P := fun d => d.jobs = db.jobs ∧ d.tags = db.tags) i kids ⟨rfl, rfl⟩ (recordCallNode_rest ..)

theorem merkle_nodeDb {db : Db} (m : Merkle db) (i : Info) (kids : List JT) : Merkle (nodeDb db i kids) :=
  nodeDb_ind i kids m (merkle_recordCallNode m ..)

theorem hasNode_nodeDb {db : Db} {h : H} (hh : db.hasNode h = true) (i : Info) (kids : List JT) :
    (nodeDb db i kids).hasNode h = true :=
  nodeDb_ind (P := fun d => d.hasNode h = true) i kids hh (recordCallNode_hasNode_mono hh)

theorem finishJob_graph (db : Db) (e : Nat) (p : Option Nat) (i : Info) (l s : Bool) (kids : List JT) :
    (finishJob db e p (.job i l s kids)).nodes = (nodeDb db i kids).nodes ∧
    (finishJob db e p (.job i l s kids)).edges = (nodeDb db i kids).edges := by
  rw [finishJob_job]
  split
  · simp
  · next h =>
    have : (i.prov && i.fin.computed) = false := by
      cases hp : i.prov <;> cases hf : i.fin <;> simp_all [Fin.ended, Fin.computed]
    simp [nodeDb, this]

theorem merkle_finishJob {db : Db} (m : Merkle db) (e : Nat) (p : Option Nat) (t : JT) :
    Merkle (finishJob db e p t) := by
  cases t with
  | ref h => exact m
  | job i l s kids => exact merkle_congr (finishJob_graph ..).1 (finishJob_graph ..).2 (merkle_nodeDb m i kids)

theorem startJob_graph (db : Db) (e : Nat) (p : Option Nat) (t : JT) :
    (startJob db e p t).nodes = db.nodes ∧ (startJob db e p t).edges = db.edges := by
  cases t with
  | ref _ => exact ⟨rfl, rfl⟩
  | job i l s kids => simp only [startJob]; split <;> exact ⟨rfl, rfl⟩

theorem merkle_step {db : Db} (m : Merkle db) (ev : Ev) : Merkle (step db ev) := by
  cases ev with
  | start e p t => exact merkle_congr (startJob_graph ..).1 (startJob_graph ..).2 m
  | finish e p t => exact merkle_finishJob m e p t

theorem merkle_run {db : Db} (m : Merkle db) (evs : List Ev) : Merkle (run db evs) :=
  foldl_inv step evs db m fun _ ev _ m => merkle_step m ev

theorem hasNode_step {db : Db} {h : H} (hh : db.hasNode h = true) (ev : Ev) : (step db ev).hasNode h = true := by
  cases ev with
  | start e p t => exact (hasNode_congr (startJob_graph db e p t).1 h).trans hh
  | finish e p t =>
    cases t with
    | ref _ => exact hh
    | job i l s kids => exact (hasNode_congr (finishJob_graph db e p i l s kids).1 h).trans (hasNode_nodeDb hh i kids)

theorem hasNode_run {db : Db} {h : H} (hh : db.hasNode h = true) (evs : List Ev) : (run db evs).hasNode h = true :=
  foldl_inv (I := fun db => db.hasNode h = true) step evs db hh fun _ ev _ hh => hasNode_step hh ev

theorem run_append (db : Db) (a b : List Ev) : run db (a ++ b) = run (run db a) b := by
  simp [run, foldl_append]

theorem finish_records_node {db : Db} (m : Merkle db) (e : Nat) (p : Option Nat) (i : Info) (l s : Bool) (kids : List JT)
    (hp : i.prov = true) (hc : i.fin.computed = true) :
    ∃ r ∈ (finishJob db e p (.job i l s kids)).nodes,
      some r.id = callHash (.job i l s kids) ∧ r.task = i.task ∧ r.args = i.args ∧ r.result = i.result := by
  obtain ⟨r, hr, hid⟩ := hasNodeL_iff.1 (recordCallNode_hasNode_self db i.task i.args i.result (views kids))
  rw [← nodeDb_computed hp hc] at hr
  obtain ⟨ks, hk, _⟩ := (merkle_nodeDb m i kids).nodes r hr
  obtain ⟨h1, h2, h3, _⟩ := hashCallNode_inj (hk.symm.trans hid)
  exact ⟨r, (finishJob_graph ..).1 ▸ hr, by rw [callHash_job, finHash_computed hp hc, hid], h1, h2, h3⟩

theorem mem_setEnd {jobs : List JobRow} {jid : Nat} {call : Option H} {cached : Bool} {r : JobRow} (h : r ∈ jobs)
    (hj : r.jid = jid) : { r with call := call, cached := cached, ended := true } ∈ setEnd jobs jid call cached :=
  mem_map.2 ⟨r, h, if_pos hj⟩

/-- After the end of a job that records provenance there is a Job row with its id, the call hash the
job ended with, its cached flag; parent / execution / task of a row written at the start are kept. -/
theorem jobEnd_row (db : Db) (e : Nat) (p : Option Nat) (i : Info) (c : Option H) :
    ∃ r ∈ (jobEnd db e p i c).jobs, r.jid = i.jid ∧ r.call = c ∧ r.cached = i.cached ∧ r.ended = true ∧
      (∀ r0 ∈ db.jobs, r0.jid = i.jid → ∃ r' ∈ (jobEnd db e p i c).jobs,
          r'.jid = i.jid ∧ r'.parent = r0.parent ∧ r'.exec = r0.exec ∧ r'.task = r0.task ∧ r'.call = c) ∧
      ((∀ r0 ∈ db.jobs, r0.jid ≠ i.jid) → r.parent = p ∧ r.exec = e ∧ r.task = i.task) := by
  unfold jobEnd
  split
  · next hex =>
    obtain ⟨r0, hr0, hj⟩ := any_eq_true.1 hex
    have hj : r0.jid = i.jid := of_decide_eq_true hj
    exact ⟨_, mem_setEnd hr0 hj, hj, rfl, rfl, rfl,
      fun r1 hr1 hj1 => ⟨_, mem_setEnd hr1 hj1, hj1, rfl, rfl, rfl, rfl⟩, fun hno => absurd hj (hno r0 hr0)⟩
  · next hex =>
    exact ⟨_, mem_setEnd (mem_append_right _ (mem_singleton_self _)) rfl, rfl, rfl, rfl, rfl,
      fun r1 hr1 hj1 => absurd (any_eq_true.2 ⟨r1, hr1, decide_eq_true hj1⟩) hex, fun _ => ⟨rfl, rfl, rfl⟩⟩

theorem mem_foldl_addTag {ts : List Tag} {acc : List Tag} {t : Tag} :
    t ∈ ts.foldl addTag acc ↔ t ∈ acc ∨ t ∈ ts := mem_foldl_append_new

theorem finishJob_tags (db : Db) (e : Nat) (p : Option Nat) (i : Info) (l s : Bool) (kids : List JT) :
    (finishJob db e p (.job i l s kids)).tags =
      if i.prov && i.fin.ended then (jobTags e i).foldl addTag db.tags else db.tags := by
  rw [finishJob_job]
  split
  · rw [jobEnd_tags, recordJobTags, (nodeDb_rest ..).2]
  · rfl

/-- Every node id can be recomputed from the rows: own fields + children listed by the `CallEdge` rows. -/
def DbMerkle (db : Db) : Prop :=
  ∀ r ∈ db.nodes, r.id = hashCallNode r.task r.args r.result (edgeKids db r.id)

theorem dbMerkle_congr {db db' : Db} (hn : db'.nodes = db.nodes) (he : db'.edges = db.edges) (d : DbMerkle db) :
    DbMerkle db' := by
  intro r hr
  rw [edgeKids, he]
  exact d r (hn ▸ hr)

theorem newEdges_filter_other {nodes : List NodeRow} {h x : H} {kids : List H} (hx : H.eqb h x = false) :
    (newEdges nodes h kids).filter (fun e => H.eqb e.1 x) = [] := by
  simp only [newEdges, filter_eq_nil_iff, mem_map, mem_filter, Prod.exists, Bool.not_eq_true]
  rintro e ⟨c, n, _, rfl⟩
  exact hx

theorem newEdges_all {nodes : List NodeRow} {h : H} {kids : List H} (hall : ∀ c ∈ kids, hasNodeL nodes c = true) :
    ((newEdges nodes h kids).filter (fun e => H.eqb e.1 h)).map (fun e => e.2.1) = kids := by
  have hfrom : ∀ p ∈ kids.zipIdx, ((fun e : H × H × Nat => H.eqb e.1 h) ∘ fun p : H × Nat => (h, p.1, p.2)) p = true :=
    fun _ _ => H.eqb_iff.2 rfl
  unfold newEdges
  rw [filter_eq_self.2 fun p hp => hall p.1 (fst_mem_of_mem_zipIdx hp), filter_map, filter_eq_self.2 hfrom, map_map]
  exact zipIdx_map_fst 0 kids

theorem dbMerkle_recordCallNode {db : Db} (m : Merkle db) (d : DbMerkle db) (t a r : Nat) (kids : List H)
    (hall : ∀ c ∈ kids, db.hasNode c = true) : DbMerkle (recordCallNode db t a r kids).1 := by
  cases hh : db.hasNode (hashCallNode t a r kids)
  · rw [recordCallNode_new hh]
    intro r' hr'
    simp only [edgeKids, filter_append]
    rcases mem_append.1 hr' with hr' | hr'
    · -- an older node: none of the new edges leaves it
      have hne : H.eqb (hashCallNode t a r kids) r'.id = false := Bool.eq_false_iff.2 fun hx =>
        Bool.false_ne_true (hh ▸ hasNodeL_iff.2 ⟨r', hr', (H.eqb_iff.1 hx).symm⟩)
      rw [newEdges_filter_other hne, append_nil]
      exact d r' hr'
    · -- the new node: no old edge leaves it, and every child is recorded
      rw [mem_singleton.1 hr']
      have hold : db.edges.filter (fun e => H.eqb e.1 (hashCallNode t a r kids)) = [] :=
        filter_eq_nil_iff.2 fun e he hx =>
          Bool.false_ne_true (hh ▸ H.eqb_iff.1 hx ▸ m.closed e.1 e.2.1 e.2.2 he)
      rw [hold, nil_append, newEdges_all fun c hc => hasNodeL_mono (hall c hc)]
  · rw [recordCallNode_old hh]; exact d

theorem dbMerkle_finishJob {db : Db} (m : Merkle db) (d : DbMerkle db) (e : Nat) (p : Option Nat)
    (i : Info) (l s : Bool) (kids : List JT) (hall : ∀ c ∈ views kids, db.hasNode c = true) :
    DbMerkle (finishJob db e p (.job i l s kids)) :=
  dbMerkle_congr (finishJob_graph ..).1 (finishJob_graph ..).2
    (nodeDb_ind i kids d (dbMerkle_recordCallNode m d _ _ _ _ hall))

/- trees in which every job records provenance, ended by computing its own hash, and is seen by its parent -/
mutual
  def AllProv : JT → Bool
    | .ref _ => false
    | .job i l s kids => i.prov && i.fin.computed && l && s && AllProvL kids
  def AllProvL : List JT → Bool
    | [] => true
    | k :: ks => AllProv k && AllProvL ks
end

/-- `Job.call_hash` always references a recorded CallNode (the foreign key). -/
def FK (db : Db) : Prop := ∀ row ∈ db.jobs, ∀ h, row.call = some h → db.hasNode h = true

theorem fk_jobStart {db : Db} (fk : FK db) (e : Nat) (p : Option Nat) (i : Info) : FK (jobStart db e p i) := by
  intro row hrow h hh
  rcases mem_append.1 hrow with hrow | hrow
  · exact fk row hrow h hh
  · rw [mem_singleton.1 hrow] at hh; cases hh

theorem fk_jobEnd {db : Db} (fk : FK db) (e : Nat) (p : Option Nat) (i : Info) (c : Option H)
    (hc : ∀ h, c = some h → db.hasNode h = true) : FK (jobEnd db e p i c) := by
  intro row hrow h hh
  rw [hasNode_congr (jobEnd_nodes ..)]
  unfold jobEnd at hrow
  -- a row of the result is a row `r0` of `db`, or the one `record_job_start` adds, possibly with `call := c`
  obtain ⟨r0, hr0, rfl⟩ := mem_map.1 hrow
  split at hh
  · exact hc h hh
  · split at hr0
    · exact fk r0 hr0 h hh
    · exact fk_jobStart fk e p i r0 hr0 h hh

theorem hasNode_callHash {db : Db} {i : Info} {l s : Bool} {kids : List JT} {h : H} (hp : i.prov = true)
    (hhit : i.fin = .hit h → db.hasNode h = true) (hh : callHash (.job i l s kids) = some h) :
    (nodeDb db i kids).hasNode h = true := by
  rw [callHash_job] at hh
  cases hf : i.fin.computed
  · have : i.fin = .hit h := by
      unfold finHash at hh
      cases hfin : i.fin <;> simp_all [Fin.computed]
    exact hasNode_nodeDb (hhit this) i kids
  · rw [finHash_computed hp hf, Option.some.injEq] at hh
    rw [nodeDb_computed hp hf, ← hh]
    exact recordCallNode_hasNode_self ..

theorem fk_finishJob {db : Db} (fk : FK db) (e : Nat) (p : Option Nat) (t : JT)
    (hhit : ∀ i l s kids h, t = .job i l s kids → i.fin = .hit h → db.hasNode h = true) : FK (finishJob db e p t) := by
  cases t with
  | ref _ => exact fk
  | job i l s kids =>
    rw [finishJob_job]
    split
    · next hpe =>
      have fk' : FK (recordJobTags (nodeDb db i kids) e i) := fun row hrow h hh =>
        hasNode_nodeDb (fk row (by rwa [recordJobTags_jobs, (nodeDb_rest db i kids).1] at hrow) h hh) i kids
      exact fk_jobEnd fk' e p i _ fun h hh =>
        hasNode_callHash (Bool.and_eq_true_iff.1 hpe).1 (hhit i l s kids h rfl) hh
    · exact fk

theorem fk_startJob {db : Db} (fk : FK db) (e : Nat) (p : Option Nat) (t : JT) : FK (startJob db e p t) := by
  cases t with
  | ref _ => exact fk
  | job i l s kids =>
    simp only [startJob]
    split
    · exact fk_jobStart fk e p i
    · exact fk
end RedunModel.Merkle
