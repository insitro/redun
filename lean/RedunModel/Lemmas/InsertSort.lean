/-
Insertion sort as the model writes it four times: keyword items by key (`Pre.sortKw`), `hash_includes` by digest
rank (`TaskHash.sortR`), export options by name (`ExprHash.sortS`), set elements by `<` or by digest
(`ValueHash.isort`).  What is proved about them is proved once, for any insertion step of this shape: the sort
permutes its input, and on an order it forgets the input's order (`sort_eq_of_perm`).
-/
namespace RedunModel
open List

variable {β : Type}

structure InsertsBy (le : β → β → Prop) [DecidableRel le] (ins : β → List β → List β) : Prop where
  nil : ∀ a, ins a [] = [a]
  cons : ∀ a b t, ins a (b :: t) = if le a b then a :: b :: t else b :: ins a t

namespace InsertsBy
variable {le : β → β → Prop} [DecidableRel le] {ins : β → List β → List β} (hi : InsertsBy le ins)
include hi

theorem perm (a : β) (l : List β) : (ins a l).Perm (a :: l) := by
  induction l with
  | nil => rw [hi.nil]
  | cons b t ih =>
    rw [hi.cons]
    split
    · exact Perm.refl _
    · exact (Perm.cons b ih).trans (Perm.swap a b t)

theorem sort_perm (l : List β) : (l.foldr ins []).Perm l := by
  induction l with
  | nil => exact Perm.refl _
  | cons a t ih => exact (hi.perm a _).trans (Perm.cons a ih)

/- `R` is the order the output is sorted by and `P` the elements on which it is known to be one (Python's `<` orders
the elements of one set, not all values).  The test `le` settles `R` both ways: for a sort by `≤`, `R` is `le` and
`dec` is totality; for a sort by `<`, `R a b` is `¬ b < a`, `inc` is asymmetry and `dec` holds by definition. -/
variable {P : β → Prop} {R : β → β → Prop}
  (inc : ∀ a b, P a → P b → le a b → R a b) (dec : ∀ a b, P a → P b → ¬ le a b → R b a)
  (tr : ∀ a b c, P a → P b → P c → le a b → R b c → R a c)
include inc dec tr

theorem sorted (a : β) (l : List β) (ha : P a) (hl : ∀ x ∈ l, P x) (h : l.Pairwise R) : (ins a l).Pairwise R := by
  induction l with
  | nil => rw [hi.nil]; exact pairwise_singleton _ _
  | cons b t ih =>
    have hb := pairwise_cons.mp h
    have hP := forall_mem_cons.mp hl
    rw [hi.cons]
    split
    · rename_i hab
      refine pairwise_cons.mpr ⟨fun c hc => ?_, h⟩
      rcases mem_cons.mp hc with rfl | hc
      · exact inc _ _ ha hP.1 hab
      · exact tr _ _ _ ha hP.1 (hP.2 c hc) hab (hb.1 c hc)
    · rename_i hab
      refine pairwise_cons.mpr ⟨fun c hc => ?_, ih hP.2 hb.2⟩
      rcases mem_cons.mp ((hi.perm a t).mem_iff.mp hc) with rfl | hc
      · exact dec _ _ ha hP.1 hab
      · exact hb.1 c hc

theorem sort_sorted (l : List β) (hl : ∀ x ∈ l, P x) : (l.foldr ins []).Pairwise R := by
  induction l with
  | nil => exact Pairwise.nil
  | cons a t ih =>
    have hP := forall_mem_cons.mp hl
    exact hi.sorted inc dec tr a _ hP.1 (fun x hx => hP.2 x ((hi.sort_perm t).mem_iff.mp hx)) (ih hP.2)

theorem sort_eq_of_perm {l₁ l₂ : List β} (hp : l₁.Perm l₂) (hl : ∀ x ∈ l₁, P x)
    (anti : ∀ a b, P a → P b → R a b → R b a → a = b) : l₁.foldr ins [] = l₂.foldr ins [] := by
  have p1 := hi.sort_perm l₁
  have p2 := hi.sort_perm l₂
  refine Perm.eq_of_pairwise (le := R) (fun a b ha hb => ?_) (hi.sort_sorted inc dec tr l₁ hl)
    (hi.sort_sorted inc dec tr l₂ fun x hx => hl x (hp.mem_iff.mpr hx)) (p1.trans (hp.trans p2.symm))
  exact anti a b (hl a (p1.mem_iff.mp ha)) (hl b (hp.mem_iff.mpr (p2.mem_iff.mp hb)))

end InsertsBy
end RedunModel
