/-
The settling handlers of `SchedCore` field by field, and the limits accounting (C08; for C09 `PendWit`, no lost wake-up)
apart from the event bookkeeping.

`Sv p s s' U b` says, without any invariant, what `resolveJob`, `rejectRest`, `rejectTwin` and their parts do: they leave
alone everything the limits accounting and the executor hand-over read, settle the jobs in `U` and record entries only for
them.  It is proved once per primitive; the limits invariant (`Sv.lim`), the CSE invariant and the submission log (SchedCse),
the folds over rejected twins of `Live` (SchedLive) and `Tok`, and `step_eff` (SchedTwin) read their facts off it.  `Lim` is the
invariant about `holds`, `used` and `inflight`: a holder is a job between `consume` and the handling of its completion event.
This file carries `Lim` and `PendWit` through every handler; `Core` is `Lim` together with the token invariant and `TwQ`
(`core_of`, in SchedTwin).  `ExecHd s j` is the one hypothesis about the job `j` that the steps of `Lim` (here), `Live` and `Tok`
through `execJob` share; SchedTwin produces it from the invariants (`All.execHd`).
-/
import RedunModel.Lemmas.SchedCore
namespace RedunModel.SchedCore

def entryOf (p : Prog) (s : S) (u : JobId) (b : Bool) : CseEntry :=
  { key := (spec p s u).key, ctx := (spec p s u).ctx, isErr := b }

def HasEntry (s : S) (k : Nat × Nat) : Prop := ∃ e ∈ s.cse, e.key = k.1 ∧ e.ctx = k.2

/-- `b = true`: rejected.  Only collapsed jobs get `wasCached` (`cached`); events are only added, none of them an `exec`
(`qm`, `ew`); the entries recorded are exactly those of the jobs in `U` that record provenance (`cse`); registrations in
`_pending_jobs` only go, and only those of jobs in `U`, each under its own key (`pjm`, `lk`). -/
structure Sv (p : Prog) (s s' : S) (U : List JobId) (b : Bool) : Prop where
  next : s'.next = s.next
  specOf : s'.specOf = s.specOf
  holds : s'.holds = s.holds
  used : s'.used = s.used
  infl : s'.inflight = s.inflight
  pl : s'.pendingLimits = s.pendingLimits
  sub : s'.submits = s.submits
  par : ∀ i, (s'.jobs i).parent = (s.jobs i).parent
  tw : ∀ i, (s'.jobs i).twins = (s.jobs i).twins
  cached : ∀ i, (s'.jobs i).wasCached = true → (s.jobs i).wasCached = true ∨ Tw s i
  qm : ∀ e, e ∈ s.queue → e ∈ s'.queue
  ew : ∀ j, EW s' j = EW s j
  st : ∀ i, (s'.jobs i).status = if i ∈ U then outcome b else (s.jobs i).status
  cse : ∀ e, e ∈ s'.cse ↔ e ∈ s.cse ∨ ∃ u, u ∈ U ∧ (spec p s u).prov = true ∧ e = entryOf p s u b
  pjm : ∀ x, x ∈ s'.pendingJobs → x ∈ s.pendingJobs
  lk : ∀ k t, lookupPending s k = some t → lookupPending s' k = some t ∨ (t ∈ U ∧ k = keyOf p s t)

theorem Sv.refl (p : Prog) (s : S) (b : Bool) : Sv p s s [] b :=
  ⟨rfl, rfl, rfl, rfl, rfl, rfl, rfl, fun _ => rfl, fun _ => rfl, fun _ => Or.inl, fun _ => id, fun _ => rfl,
    fun _ => (if_neg List.not_mem_nil).symm, fun _ => ⟨Or.inl, fun h => h.elim id fun ⟨_, hu, _⟩ => nomatch hu⟩,
    fun _ => id, fun _ _ => Or.inl⟩

theorem Sv.trans {p : Prog} {a b c : S} {U V : List JobId} {o : Bool} (h1 : Sv p a b U o) (h2 : Sv p b c V o) :
    Sv p a c (U ++ V) o := by
  have hsp : ∀ u, spec p b u = spec p a u := same_spec h1.specOf
  have hent : ∀ u, entryOf p b u o = entryOf p a u o := fun u => by unfold entryOf; rw [hsp]
  refine ⟨h2.next.trans h1.next, h2.specOf.trans h1.specOf, h2.holds.trans h1.holds, h2.used.trans h1.used,
    h2.infl.trans h1.infl, h2.pl.trans h1.pl, h2.sub.trans h1.sub, fun i => (h2.par i).trans (h1.par i),
    fun i => (h2.tw i).trans (h1.tw i),
    fun i hi => (h2.cached i hi).elim (h1.cached i) fun t => Or.inr ((Tw_congr h1.tw i).mp t),
    fun e he => h2.qm e (h1.qm e he), fun j => (h2.ew j).trans (h1.ew j), fun i => ?_, fun e => ?_,
    fun x hx => h1.pjm x (h2.pjm x hx), fun k t hk => ?_⟩
  · by_cases hV : i ∈ V
    · rw [h2.st, if_pos hV, if_pos (List.mem_append_right _ hV)]
    · rw [h2.st, if_neg hV, h1.st]; simp only [List.mem_append, hV, or_false]
  · rw [h2.cse, h1.cse]
    simp only [hsp, hent, List.mem_append, or_and_right, exists_or, or_assoc]
  · rcases h1.lk k t hk with a | ⟨hu, e⟩
    · exact (h2.lk k t a).imp_right fun ⟨hv, e⟩ => ⟨List.mem_append_right _ hv, by rw [e]; unfold keyOf; rw [hsp]⟩
    · exact Or.inr ⟨List.mem_append_left _ hu, e⟩

theorem sv_setJob (p : Prog) (s : S) (b : Bool) (j : JobId) (f : JobSt → JobSt)
    (h : ∀ js, (f js).parent = js.parent ∧ (f js).twins = js.twins ∧ (f js).status = js.status)
    (hc : (∀ js, (f js).wasCached = js.wasCached) ∨ Tw s j) : Sv p s (setJob s j f) [] b :=
  { Sv.refl p s b with
    par := setJob_keep (·.parent) s j f fun js => (h js).1
    tw := setJob_keep (·.twins) s j f fun js => (h js).2.1
    st := fun i => (setJob_keep (·.status) s j f (fun js => (h js).2.2) i).trans (if_neg List.not_mem_nil).symm
    cached := fun i hi => by
      rw [setJob_at (·.wasCached)] at hi
      split at hi
      · rename_i e
        exact hc.elim (fun a => Or.inl (a _ ▸ hi)) fun a => Or.inr (e ▸ a)
      · exact Or.inl hi }

theorem sv_enqueue (p : Prog) (s : S) (b : Bool) (e : Ev) (he : ∀ k, e ≠ Ev.exec k) : Sv p s (enqueue s e) [] b :=
  { Sv.refl p s b with qm := fun _ => List.mem_append_left _, ew := EW_enqueue s e he }

theorem sv_finished (p : Prog) (s : S) (b : Bool) (fin : Bool) : Sv p s { s with finished := fin } [] b :=
  { Sv.refl p s b with }

/-- `_finalize_job` at the end of a handler that has settled `j`: the registration that goes, if any, is `j`'s own -/
theorem Sv.finalize {p : Prog} {s s' : S} {U : List JobId} {b : Bool} (o : Sv p s s' U b) {j : JobId} (hj : j ∈ U) :
    Sv p s (finalize p s' j) U b := by
  refine finalize_cases p s' j (fun hreg => ?_) fun _ => o
  refine { o with pjm := fun x hx => o.pjm x (List.mem_filter.mp hx).1, lk := fun k t hk => ?_ }
  refine (o.lk k t hk).elim (fun a => ?_) Or.inr
  by_cases e : k = keyOf p s' j
  · have : t = j := Option.some.inj ((e ▸ a).symm.trans hreg)
    exact Or.inr ⟨this ▸ hj, by rw [e, this]; unfold keyOf; rw [same_spec o.specOf]⟩
  · left
    unfold lookupPending at a ⊢
    show Option.map _ (List.find? _ (List.filter _ s'.pendingJobs)) = _
    rw [lookup_filter_ne s'.pendingJobs _ k e]; exact a

theorem sv_notify (p : Prog) (s : S) (b b' : Bool) (j : JobId) : Sv p s (notify b' s j) [] b :=
  have e1 := fun par => sv_setJob p s b par (tellUpd b')
    (fun js => ⟨(tellUpd_keep b' js).2.1, (tellUpd_keep b' js).2.2.1, (tellUpd_keep b' js).1⟩)
    (Or.inl fun js => (tellUpd_keep b' js).2.2.2)
  notify_cases b' s j (fun _ => sv_finished p s b true)
    (fun par _ => (e1 par).trans (sv_enqueue p _ b _ (tellEv_ne_exec b' par))) fun par _ _ => e1 par

theorem sv_settle (p : Prog) (s : S) (u : JobId) (b : Bool) :
    Sv p s (settle p b s u) [u] b := by
  have key : ∀ c : List CseEntry, (∀ e, e ∈ c ↔ e ∈ s.cse ∨ ((spec p s u).prov = true ∧ e = entryOf p s u b)) →
      Sv p s (setJob { s with cse := c } u fun js => { js with status := outcome b }) [u] b := fun c hc =>
    { Sv.refl p s b with
      par := setJob_keep (·.parent) _ u _ fun _ => rfl
      tw := setJob_keep (·.twins) _ u _ fun _ => rfl
      cached := fun i hi => Or.inl ((setJob_keep (·.wasCached) { s with cse := c } u
        (fun js => { js with status := outcome b }) (fun _ => rfl) i).symm.trans hi)
      st := fun i => by
        rw [setJob_at (·.status)]; simp only [List.mem_singleton]
      cse := fun e => (hc e).trans (or_congr_right ⟨fun a => ⟨u, List.mem_singleton.mpr rfl, a⟩,
        fun ⟨_, hu, a⟩ => List.mem_singleton.mp hu ▸ a⟩)
      lk := fun _ _ => Or.inl }
  exact (record_cases (motive := fun s0 => Sv p s (setJob s0 u fun js => { js with status := outcome b }) [u] b) p s u b
    (fun hp => key _ fun e => List.mem_append.trans (or_congr_right (List.mem_singleton.trans (and_iff_right hp).symm)))
    fun hp => key s.cse fun _ => ⟨Or.inl, fun h => h.elim id fun a => nomatch hp.symm.trans a.1⟩).trans
      (sv_notify p _ b b u)

theorem sv_cached (p : Prog) (s : S) (b : Bool) (t : JobId) (ht : Tw s t) :
    Sv p s (setJob s t fun js => { js with wasCached := true }) [] b :=
  sv_setJob p s b t _ (fun _ => ⟨rfl, rfl, rfl⟩) (Or.inr ht)

theorem sv_rejectTwin (p : Prog) (s : S) (t : JobId) (ht : Tw s t) : Sv p s (rejectTwin p s t) [t] true :=
  rejectTwin_eq p s t ▸ ((sv_cached p s true t ht).trans (sv_settle p _ t true)).finalize List.mem_cons_self

theorem sv_rejectTwins (p : Prog) (l : List JobId) (s : S) (hl : ∀ t, t ∈ l → Tw s t) :
    Sv p s (l.foldl (rejectTwin p) s) l true := by
  induction l generalizing s with
  | nil => exact Sv.refl p s true
  | cons a l ih =>
    have e1 := sv_rejectTwin p s a (hl a List.mem_cons_self)
    exact e1.trans (ih _ fun t ht => (Tw_congr e1.tw t).mpr (hl t (List.mem_cons_of_mem a ht)))

theorem sv_resolveJob (p : Prog) (s : S) (j : JobId) : Sv p s (resolveJob p s j) [j] false := by
  rw [resolveJob_eq]
  have e2 := sv_settle p s j false
  generalize settle p false s j = s2 at e2
  have e3 : Sv p s2 ((s2.jobs j).twins.foldl serveTwin s2) [] false :=
    foldl_inv (I := fun s' => Sv p s2 s' [] false) _ _ s2 (Sv.refl p s2 false) fun s' t ht e =>
      e.trans ((sv_cached p s' false t ⟨j, by rw [e.tw]; exact ht⟩).trans (sv_enqueue p _ false (Ev.done t true) fun _ => nofun))
  exact (e2.trans e3).finalize List.mem_cons_self

theorem sv_rejectRest (p : Prog) (s : S) (j : JobId) : Sv p s (rejectRest p s j) (j :: (s.jobs j).twins) true := by
  rw [rejectRest_eq]
  have e2 := sv_settle p s j true
  generalize settle p true s j = s2 at e2
  rw [← e2.tw j]
  exact (e2.trans (sv_rejectTwins p _ s2 fun t ht => ⟨j, ht⟩)).finalize List.mem_cons_self

/-- a collapsed job is not to be executed (real runs: `Live.twq`; dry runs: nobody is collapsed, `NoReg`) -/
def TwQ (s : S) : Prop := ∀ X t, t ∈ (s.jobs X).twins → EW s t = 0 ∧ t < s.next

/-- The limits accounting proper.  A holder is a job between `consume` and the handling of its completion:
created, without children, not collapsed, not served from a cache; `x` is the one whose completion event has just been
taken off the queue, or that has consumed and not yet been handed on. -/
structure Lim (p : Prog) (s : S) (x : Option JobId) : Prop where
  used_eq : ∀ r, s.used r = held p s r
  le_limit : ∀ r, s.used r ≤ p.limit r
  dry : p.dryrun = true → s.pendingLimits = [] ∧ ∀ j, s.holds j = false
  infl_holds : ∀ j, s.inflight j = true → s.holds j = true
  wit : ∀ j, some j ≠ x → s.holds j = true → s.inflight j = true ∨ C s j
  holder : ∀ j, s.holds j = true → j < s.next ∧ noKids s j ∧ ¬ Tw s j ∧ (s.jobs j).wasCached = false
  cq : ∀ j, (s.jobs j).wasCached = true → EW s j = 0
  fresh : ∀ j, s.next ≤ j → (s.jobs j).parent = none ∧ (s.jobs j).wasCached = false

theorem Lim.not_holds {p : Prog} {s : S} {x : Option JobId} (h : Lim p s x) {j : JobId}
    (hj : ¬ (j < s.next ∧ noKids s j ∧ ¬ Tw s j ∧ (s.jobs j).wasCached = false)) : s.holds j = false := by
  cases hh : s.holds j
  · rfl
  · exact absurd (h.holder j hh) hj

section
variable {p : Prog} {s s' : S} {x : Option JobId}

/-- `Lim` reads `next`, `specOf`, `holds`, `used`, `inflight`, the completion events, the parents, who is collapsed, and
`wasCached`: a cached job only loses `exec` tokens, and a job newly marked as cached exists, holds nothing and is not
to be executed. -/
theorem Lim.frame (h : Lim p s x) (hn : s'.next = s.next) (hsp : s'.specOf = s.specOf) (hh : s'.holds = s.holds)
    (hu : s'.used = s.used) (hi : s'.inflight = s.inflight)
    (hpl : p.dryrun = true → s'.pendingLimits = s.pendingLimits)
    (hC : ∀ j, some j ≠ x → C s j → C s' j)
    (hpar : ∀ i, (s'.jobs i).parent = (s.jobs i).parent)
    (htw : ∀ j, s.holds j = true → Tw s' j → Tw s j)
    (hew : ∀ j, (s.jobs j).wasCached = true → EW s' j ≤ EW s j)
    (hc : ∀ j, (s'.jobs j).wasCached = true →
      (s.jobs j).wasCached = true ∨ (EW s' j = 0 ∧ j < s.next ∧ s.holds j = false)) : Lim p s' x := by
  refine ⟨fun r => ?_, fun r => hu ▸ h.le_limit r, fun hd => ?_, fun j hj => ?_, fun j hx hj => ?_, fun j hj => ?_,
    fun j hj => ?_, fun j hj => ⟨by rw [hpar]; exact (h.fresh j (hn ▸ hj)).1, ?_⟩⟩
  · rw [hu, h.used_eq]; unfold held demOf spec; rw [hn, hh, hsp]
  · rw [hpl hd, hh]; exact h.dry hd
  · rw [hh]; exact h.infl_holds j (hi ▸ hj)
  · rw [hh] at hj; rw [hi]; exact (h.wit j hx hj).imp_right (hC j hx)
  · rw [hh] at hj
    obtain ⟨a, b, c, d⟩ := h.holder j hj
    refine ⟨hn ▸ a, fun c' hc' hp => b c' (hn ▸ hc') (hpar c' ▸ hp), fun t => c (htw j hj t), ?_⟩
    cases e : (s'.jobs j).wasCached
    · rfl
    · rcases hc j e with a' | a'
      · rw [a'] at d; cases d
      · rw [a'.2.2] at hj; cases hj
  · exact (hc j hj).elim (fun a => Nat.le_zero.mp (h.cq j a ▸ hew j a)) (·.1)
  · cases e : (s'.jobs j).wasCached
    · rfl
    · rcases hc j e with a | a
      · rw [(h.fresh j (hn ▸ hj)).2] at a; cases a
      · exact absurd a.2.1 (Nat.not_lt.mpr (hn ▸ hj))

theorem Sv.lim {U : List JobId} {b : Bool} (f : Sv p s s' U b) (h : Lim p s x) (ha : TwQ s) : Lim p s' x :=
  h.frame f.next f.specOf f.holds f.used f.infl (fun _ => f.pl) (fun _ _ => C.mono fun e _ => f.qm e) f.par
    (fun j _ => (Tw_congr f.tw j).mp) (fun j _ => Nat.le_of_eq (f.ew j))
    fun j hc => (f.cached j hc).imp_right fun ⟨X, hX⟩ =>
      ⟨(f.ew j).trans (ha X j hX).1, (ha X j hX).2, h.not_holds fun a => a.2.2.1 ⟨X, hX⟩⟩

theorem Lim.weaken (h : Lim p s none) : Lim p s x := { h with wit := fun j _ => h.wit j nofun }

theorem Lim.fill {j : JobId} (h : Lim p s (some j)) (hw : s.holds j = true → s.inflight j = true ∨ C s j) :
    Lim p s none :=
  { h with wit := fun i _ hi => if e : i = j then e ▸ hw (e ▸ hi) else h.wit i (fun e' => e (Option.some.inj e')) hi }

theorem Lim.same (h : Lim p s x) (hn : s'.next = s.next) (hsp : s'.specOf = s.specOf) (hh : s'.holds = s.holds)
    (hu : s'.used = s.used) (hi : s'.inflight = s.inflight) (hj : s'.jobs = s.jobs)
    (hpl : p.dryrun = true → s'.pendingLimits = s.pendingLimits) (hC : ∀ j, some j ≠ x → C s j → C s' j)
    (hew : ∀ j, EW s' j ≤ EW s j) : Lim p s' x :=
  h.frame hn hsp hh hu hi hpl hC (fun _ => by rw [hj]) (fun j _ => by unfold Tw; rw [hj]; exact id) (fun j _ => hew j)
    fun j a => Or.inl (by rw [← hj]; exact a)

end

theorem lim_tl (p : Prog) (s : S) (e : Ev) (rest : List Ev) (hq : s.queue = e :: rest) (h : Lim p s none) :
    Lim p (tl s) (exemptOf e) :=
  h.weaken.same rfl rfl rfl rfl rfl rfl (fun _ => rfl) (fun j hx => tl_C_keep s e rest hq j hx) (tl_EW_le s)

theorem lim_checkPending (p : Prog) (s : S) (x : Option JobId) (h : Lim p s x) : Lim p (checkPending p s) x :=
  h.same rfl rfl rfl rfl rfl rfl (fun hd => by rw [checkPending_pend, (h.dry hd).1]; rfl)
    (fun j _ => (checkPending_C p s j).mpr) fun j => Nat.le_of_eq (checkPending_EW p s j)

theorem lim_enqueue (p : Prog) (s : S) (x : Option JobId) (e : Ev) (he : ∀ k, e ≠ Ev.exec k) (h : Lim p s x) :
    Lim p (enqueue s e) x :=
  h.same rfl rfl rfl rfl rfl rfl (fun _ => rfl) (fun _ _ => C.mono fun _ _ => List.mem_append_left _)
    fun j => Nat.le_of_eq (EW_enqueue s e he j)

theorem lim_release (p : Prog) (s : S) (j : JobId) (h : Lim p s (some j)) (hj : s.holds j = true)
    (hni : s.inflight j = false) : Lim p (release p s j) none := by
  have hold : ∀ i, (release p s j).holds i = true → i ≠ j ∧ s.holds i = true := fun i hi => by
    have hne : i ≠ j := by intro e; subst e; simp [release] at hi
    exact ⟨hne, by simpa [release, hne] using hi⟩
  refine ⟨fun r => ?_, fun r => ?_, fun hd => ?_, fun i hi => ?_, fun i _ hi => ?_, fun i hi => h.holder i (hold i hi).2,
    h.cq, h.fresh⟩
  · rw [held_update p (s := s) (s' := release p s j) rfl rfl (h.holder j hj).1 (fun i hi => by simp [release, hi]) r]
    simp only [release, demOf, if_true, hj, h.used_eq r]
    simp
    omega
  · have := h.le_limit r
    have : (0 : Int) ≤ (dem (spec p s j).limits r : Int) := by simp
    simp only [release]
    omega
  · rw [((h.dry hd).2 j)] at hj; cases hj
  · have hi' : s.inflight i = true := hi
    have : i ≠ j := by intro e; subst e; rw [hni] at hi'; cases hi'
    simp only [release, this, if_false]
    exact h.infl_holds i hi'
  · obtain ⟨hne, hi'⟩ := hold i hi
    exact h.wit i (fun e => hne (Option.some.inj e)) hi'

theorem releaseIf_lim (p : Prog) (s : S) (j : JobId) (h : Lim p s (some j)) (hni : s.inflight j = false) :
    Lim p (releaseIf p s j) none :=
  releaseIf_cases p s j (fun hj => lim_checkPending p _ none (lim_release p s j h hj hni))
    fun hj => h.fill fun hj' => absurd hj' (by simp [hj])

/-- The job `j` whose `exec` event has just been taken off the queue (from `Tok`, `TwQ`, `Lim` and, for `reg`, `Live` or
`NoReg`: `All.execHd`): created, pending, not queued again, without children or twins, not collapsed, not served from a cache,
holding nothing; whoever is registered in `_pending_jobs` is another job, pending, not collapsed, not to be executed. -/
structure ExecHd (s : S) (j : JobId) : Prop where
  ew : EW s j = 0
  pd : pend s j
  lt : j < s.next
  nk : noKids s j
  tw0 : (s.jobs j).twins = []
  nt : ¬ Tw s j
  nc : (s.jobs j).wasCached = false
  nh : s.holds j = false
  reg : ∀ k t0, lookupPending s k = some t0 → pend s t0 ∧ ¬ Tw s t0 ∧ t0 ≠ j ∧ EW s t0 = 0

theorem lim_consume (p : Prog) (s : S) (j : JobId) (h : Lim p s none) (hc : ExecHd s j)
    (hw : jobWithin p s j = true) (hnd : p.dryrun = false) : Lim p (consume p s j) (some j) := by
  refine ⟨fun r => ?_, fun r => ?_, fun hd => (nomatch hnd.symm.trans hd), fun i hi => ?_, fun i hx hi => ?_,
    fun i hi => ?_, h.cq, h.fresh⟩
  · rw [held_update p (s := s) (s' := consume p s j) rfl rfl hc.lt (fun i hi => by simp [consume, hi]) r]
    simp [consume, demOf, hc.nh, h.used_eq r]
  · show s.used r + (dem (spec p s j).limits r : Int) ≤ _
    by_cases hk : r ∈ keysOf (spec p s j).limits
    · unfold jobWithin within at hw
      have := List.all_eq_true.mp hw r hk
      simp only [decide_eq_true_eq, ge_iff_le] at this
      omega
    · rw [dem_zero_of_not_key _ r hk]; have := h.le_limit r; simp; exact this
  · show (if i = j then true else s.holds i) = true
    split
    · rfl
    · exact h.infl_holds i hi
  · have hi' : (if i = j then true else s.holds i) = true := hi
    rw [if_neg fun e => hx (by rw [e])] at hi'
    exact h.wit i nofun hi'
  · have hi' : (if i = j then true else s.holds i) = true := hi
    split at hi'
    · rename_i e; subst e; exact ⟨hc.lt, hc.nk, hc.nt, hc.nc⟩
    · exact h.holder i hi'

/-- the in-flight flag of the job in transit is set (it holds) or cleared -/
theorem lim_setInfl {p : Prog} {s : S} {j : JobId} (b : Bool) (sub : List JobId) (h : Lim p s (some j))
    (hb : b = true → s.holds j = true) :
    Lim p { s with inflight := fun i => if i = j then b else s.inflight i, submits := sub } (some j) := by
  refine { h with infl_holds := fun i hi => ?_, wit := fun i hx hi => (h.wit i hx hi).imp_left fun a => ?_ }
  · have hi' : (if i = j then b else s.inflight i) = true := hi
    split at hi'
    · rename_i e; exact e ▸ hb hi'
    · exact h.infl_holds i hi'
  · show (if i = j then b else s.inflight i) = true
    rw [if_neg fun e => hx (by rw [e])]; exact a

theorem lim_spawnOne (p : Prog) (s : S) (x : Option JobId) (j : JobId) (c : SpecId) (h : Lim p s x)
    (hj : s.holds j = false) : Lim p (spawnOne s j c) x := by
  have hnew : s.holds s.next = false := h.not_holds fun a => Nat.lt_irrefl _ a.1
  have hEW : ∀ i, i < s.next → EW (spawnOne s j c) i = EW s i := fun i hi => by
    rw [spawnOne_EW, if_neg (Nat.ne_of_lt hi)]; rfl
  refine ⟨fun r => ?_, h.le_limit, h.dry, h.infl_holds, fun i hx hi => (h.wit i hx hi).imp_right (spawnOne_C s j c i).mpr,
    fun i hi => ?_, fun i hi => ?_, fun i hi => ?_⟩
  · show s.used r = sumTo _ (s.next + 1)
    rw [h.used_eq r]
    simp only [sumTo]
    rw [show (spawnOne s j c).holds = s.holds from rfl, hnew]
    simp only [Bool.false_eq_true, if_false, Int.add_zero]
    exact sumTo_congr fun i hi => by simp [demOf, spec, spawnOne, Nat.ne_of_lt hi]
  · obtain ⟨a, b, d, e⟩ := h.holder i hi
    refine ⟨Nat.lt_succ_of_lt a, fun c' hc' hp => ?_, fun t => d (spawnOne_Tw s j c i t), ?_⟩
    · rcases spawnOne_kid hc' hp with ⟨_, rfl⟩ | ⟨hc'', hp⟩
      · exact nomatch hj.symm.trans hi
      · exact b c' hc'' hp
    · rw [spawnOne_jobs_ne s j c i (Nat.ne_of_lt a)]; exact e
  · have hlt : i < s.next := Nat.lt_of_not_le fun hle => by
      by_cases e : i = s.next
      · rw [e, spawnOne_jobs_new] at hi; cases hi
      · rw [spawnOne_jobs_ne s j c i e, (h.fresh i hle).2] at hi; cases hi
    rw [spawnOne_jobs_ne s j c i (Nat.ne_of_lt hlt)] at hi
    exact (hEW i hlt).trans (h.cq i hi)
  · have hi' : s.next + 1 ≤ i := hi
    rw [spawnOne_jobs_ne s j c i (Nat.ne_of_gt hi')]; exact h.fresh i (Nat.le_of_succ_le hi')

theorem lim_setJob (p : Prog) (s : S) (x : Option JobId) (j : JobId) (f : JobSt → JobSt) (h : Lim p s x)
    (hf : ∀ js, (f js).parent = js.parent ∧ (f js).twins = js.twins ∧ (f js).wasCached = js.wasCached) :
    Lim p (setJob s j f) x :=
  h.frame rfl rfl rfl rfl rfl (fun _ => rfl) (fun _ _ => id) (setJob_keep (·.parent) s j f fun js => (hf js).1)
    (fun i _ => (Tw_congr (setJob_keep (·.twins) s j f fun js => (hf js).2.1) i).mp) (fun _ _ => Nat.le_refl _)
    fun i a => Or.inl (setJob_keep (·.wasCached) s j f (fun js => (hf js).2.2) i ▸ a)

theorem doneRest_lim (p : Prog) (s : S) (j : JobId) (f : Bool) (h : Lim p s none) (hj : s.holds j = false) :
    Lim p (doneRest p s j f) none := by
  have key : ∀ et, Lim p { s with evalTable := et } none := fun _ =>
    h.same rfl rfl rfl rfl rfl rfl (fun _ => rfl) (fun _ _ => id) fun _ => Nat.le_refl _
  refine doneRest_anyTable p s j f (P := fun s' => Lim p s' none) (fun _ et => lim_enqueue p _ none _ (fun _ => nofun) (key et))
    (fun _ et => ?_)
  exact (spawn_ind (I := fun s' => Lim p s' none ∧ s'.holds j = false) _ j _ ⟨key et, hj⟩
    (fun s' c ⟨a, b⟩ => ⟨lim_spawnOne p s' none j c a b, b⟩)
    (fun s' n ⟨a, b⟩ => ⟨lim_setJob p s' none j _ a fun _ => ⟨rfl, rfl, rfl⟩, b⟩)
    fun s' ⟨a, b⟩ => ⟨lim_enqueue p s' none _ (fun _ => nofun) a, b⟩).1

theorem execJob_lim (p : Prog) (s : S) (j : JobId) (h : Lim p s none) (hc : ExecHd s j) :
    Lim p (execJob p s j) none := by
  -- `j` holds nothing and is not to be executed any more, so it may be collapsed or marked as cached
  have mark : ∀ {s' : S}, s'.next = s.next → s'.specOf = s.specOf → s'.holds = s.holds → s'.used = s.used →
      s'.inflight = s.inflight → s'.pendingLimits = s.pendingLimits → s'.queue = s.queue →
      (∀ i, (s'.jobs i).parent = (s.jobs i).parent) → (∀ i, Tw s' i → Tw s i ∨ i = j) →
      (∀ i, (s'.jobs i).wasCached = true → (s.jobs i).wasCached = true ∨ i = j) → Lim p s' none :=
    fun {s'} a b c d e f g k l m =>
      have ew : ∀ i, EW s' i = EW s i := fun i => by unfold EW; rw [g, f]
      h.frame a b c d e (fun _ => f) (fun _ _ => by unfold C; rw [g]; exact id) k
        (fun i hi t => (l i t).resolve_right fun e => by rw [e, hc.nh] at hi; cases hi) (fun i _ => Nat.le_of_eq (ew i))
        fun i t => (m i t).imp_right fun (e : i = j) => e ▸ ⟨(ew j).trans hc.ew, hc.lt, hc.nh⟩
  refine execJob_cases p s j ?_ ?_ ?_ ?_ ?_ ?_
  · intro t _ _
    refine lim_checkPending p _ none (mark rfl rfl rfl rfl rfl rfl rfl
      (setJob_keep (·.parent) s t (fun js => { js with twins := js.twins ++ [j] }) fun _ => rfl) (fun i ⟨X, hX⟩ => ?_)
      fun i hi => Or.inl ((setJob_keep (·.wasCached) s t (fun js => { js with twins := js.twins ++ [j] }) (fun _ => rfl) i).symm.trans hi))
    rw [setJob_at (·.twins)] at hX
    split at hX
    · exact (List.mem_append.mp hX).imp (fun a => ⟨X, a⟩) List.mem_singleton.mp
    · exact Or.inl ⟨X, hX⟩
  · intro hh _ _ _
    have hne : ∀ k, hitEv j hh ≠ Ev.exec k := fun k => by
      rcases hitEv_completion j hh with ⟨f, e⟩ | e <;> rw [e] <;> nofun
    refine lim_enqueue p _ none _ hne (lim_checkPending p _ none (mark rfl rfl rfl rfl rfl rfl rfl
      (setJob_keep (·.parent) s j (fun js => { js with wasCached := true }) fun _ => rfl)
      (fun i t => Or.inl ((Tw_congr (setJob_keep (·.twins) s j (fun js => { js with wasCached := true }) fun _ => rfl) i).mp t))
      fun i hi => ?_))
    rw [setJob_at (·.wasCached)] at hi
    split at hi
    · exact Or.inr ‹_›
    · exact Or.inl hi
  · intro _ _ hd _
    refine h.frame rfl rfl rfl rfl rfl (fun hd' => by rw [hd] at hd'; cases hd') (fun _ _ => id) (fun _ => rfl)
      (fun _ _ => id) (fun i hi => ?_) fun _ => Or.inl
    rw [EW_pendAppend, if_neg fun e => by rw [e, hc.nc] at hi; cases hi]; exact Nat.le_refl _
  · intro _ _ _
    split
    · exact h
    · exact lim_enqueue p s none (Ev.reject j) (fun _ => nofun) h
  · -- unknown executor: the `reject` event queued right away is what will release the limits
    intro _ _ hd hw _
    exact (lim_enqueue p _ _ (Ev.reject j) (fun _ => nofun) (lim_consume p s j h hc hw hd)).fill
      fun _ => Or.inr (Or.inr (List.mem_append_right _ (List.mem_singleton.mpr rfl)))
  · intro _ _ hd hw _
    obtain ⟨pj, e⟩ := register_eq p (consume p s j) j
    rw [e]
    have l2 : Lim p { consume p s j with pendingJobs := pj } (some j) :=
      (lim_consume p s j h hc hw hd).same rfl rfl rfl rfl rfl rfl (fun _ => rfl) (fun _ _ => id) fun _ => Nat.le_refl _
    exact (lim_setInfl true _ l2 fun _ => by simp [consume]).fill fun _ => Or.inl (by simp)

theorem complete_lim (p : Prog) (s : S) (j : JobId) (h : Lim p s none) : Lim p (complete p s j) none := by
  refine (lim_enqueue p _ _ _ (fun k => by split <;> nofun) (lim_setInfl false s.submits h.weaken nofun)).fill
    fun _ => Or.inr ?_
  unfold C enqueue
  dsimp only
  split
  · exact Or.inr (by simp)
  · exact Or.inl ⟨false, by simp⟩

theorem lim_init (p : Prog) : Lim p init none :=
  have hc : ∀ j, (init.jobs j).wasCached = false := fun j => by simp only [init]; split <;> rfl
  ⟨fun r => by simp [init, held, sumTo], fun r => by simp [init], fun _ => by simp [init], fun j h => by simp [init] at h,
    fun j _ h => by simp [init] at h, fun j h => by simp [init] at h, fun j hj => (nomatch (hc j).symm.trans hj),
    fun j _ => ⟨(init_jobs j).2.2.2.2, hc j⟩⟩

theorem PendWit.mono {p : Prog} {s s' : S} (h : PendWit p s) (hpl : s'.pendingLimits = s.pendingLimits)
    (hh : s'.holds = s.holds) (hq : ∀ j, Ev.exec j ∈ s.queue → Ev.exec j ∈ s'.queue) : PendWit p s' :=
  fun hf hne => (h hf (hpl ▸ hne)).imp (fun ⟨j, a⟩ => ⟨j, hh ▸ a⟩) fun ⟨j, a⟩ => ⟨j, hq j a⟩

theorem Sv.pendWit {p : Prog} {s s' : S} {U : List JobId} {b : Bool} (f : Sv p s s' U b) (h : PendWit p s) : PendWit p s' :=
  h.mono f.pl f.holds fun _ => f.qm _

theorem releaseIf_pendWit (p : Prog) (s : S) (j : JobId) (h : Lim p s (some j)) (hni : s.inflight j = false)
    (hp : PendWit p s) : PendWit p (releaseIf p s j) :=
  releaseIf_cases p s j (fun hj hf => checkPending_pend_wit p hf _ (lim_release p s j h hj hni).used_eq) fun _ => hp

theorem spawn_pendWit (p : Prog) (s : S) (j : JobId) (cs : List SpecId) (h : PendWit p s) : PendWit p (spawn s j cs) :=
  spawn_ind s j cs h (fun _ _ a => a.mono rfl rfl fun _ => List.mem_append_left _) (fun _ _ a => a.mono rfl rfl fun _ => id)
    fun _ a => a.mono rfl rfl fun _ => List.mem_append_left _

theorem execJob_pendWit (p : Prog) (s : S) (j : JobId) (h : Lim p s none) : PendWit p (execJob p s j) := by
  have hl : ∀ (s' : S), s'.used = s.used → s'.next = s.next → s'.specOf = s.specOf → s'.holds = s.holds →
      PendWit p (checkPending p s') := fun s' a b c d hf =>
    checkPending_pend_wit p hf s' fun r => by rw [a, h.used_eq]; unfold held demOf spec; rw [b, c, d]
  refine execJob_cases p s j (fun t _ _ => hl _ rfl rfl rfl rfl)
    (fun _ _ _ _ => (hl _ rfl rfl rfl rfl).mono rfl rfl fun _ => List.mem_append_left _)
    (fun _ _ _ hw hf _ => Or.inl (holder_of_not_within p hf s h.used_eq j hw)) (fun _ _ hd => ?_)
    (fun _ _ _ _ _ => pendWit_of_holder p _ j (by simp [enqueue, consume]))
    fun _ _ _ _ _ => pendWit_of_holder p _ j <| by
      obtain ⟨pj, e⟩ := register_eq p (consume p s j) j
      rw [e]
      simp [submit, consume]
  have : PendWit p s := fun _ hne => absurd (h.dry hd).1 hne
  split
  · exact this
  · exact this.mono rfl rfl fun _ => List.mem_append_left _

end RedunModel.SchedCore
