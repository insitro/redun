/-
What `C10.no_lost_job_partial` and `C10.no_monitor_crash_partial` rest on, over `RedunModel.Model.Monitor` (the
executors as found): well-formed exit paths, phase classes and the hand-off invariant `InvP`, which holds along every
execution in which no job is recorded while a monitor is on its way out and no fault is injected (`reachable_invP`).

`InvP` looks at the protocol state through seven observations only (`Core`).  Seen from the thread
`self._thread` refers to, it says that the protocol is in one of four modes: the thread runs its loop
(`core_run`), it has decided to leave and not yet cleared the flag (`core_window`), it is past the clearing
or has ended (`core_cleared`, `Core.past`), or it has been created and not yet started (`Core.new`).  Every
step of a monitor thread moves between these modes (`invP_stepM`: threads past `is_running = False`, the thread
`self._thread` refers to in its loop and on its exit path); a step of the scheduler thread changes its own phase
and leaves the mode alone (`Core.sph`, `Core.grow`, `Core.set`; `invP_stepS`).
-/
import RedunModel.Lemmas.Monitor
namespace RedunModel.Monitor

def harmless : PostOp → Bool
  | .nop | .tSet | .tAlive | .tNotMe | .join => true
  | _ => false

/-- the part of the exit path after `is_running = False`: no further write to the protocol state
(`arrayer.stop()` only where `_start` tests thread liveness, i.e. the whole exit path is the window) -/
def afterOk (tt : Bool) : List (Lbl × PostOp) → Bool
  | [] => true
  | (_, op) :: r => (harmless op || (tt && op == .arrStop)) && afterOk tt r

/-- an exit path: log/`stop()`/`arrayer.stop()` lines, then `is_running = False`, then `afterOk` -/
def postOk (tt : Bool) : List (Lbl × PostOp) → Bool
  | [] => false
  | (_, .clearFlag) :: r => afterOk tt r
  | (_, .nop) :: r => postOk tt r
  | (_, .arrStop) :: r => postOk tt r
  | _ => false

structure WF (V : Variant) : Prop where
  noGlue : V.glue = false
  post : postOk V.testThread V.post = true

theorem wf_docker : WF docker := ⟨rfl, by decide⟩
theorem wf_awsBatch : WF awsBatch := ⟨rfl, by decide⟩
theorem wf_k8s : WF k8s := ⟨rfl, by decide⟩
theorem wf_gcpBatch : WF gcpBatch := ⟨rfl, by decide⟩

theorem postOk_any (tt : Bool) (r : List (Lbl × PostOp)) (h : postOk tt r = true) :
    r.any (fun x => x.2 == .clearFlag) = true := by
  induction r with
  | nil => simp [postOk] at h
  | cons x r ih =>
    obtain ⟨l, op⟩ := x
    cases op with
    | clearFlag => rfl
    | nop | arrStop => exact ih h
    | _ => cases h

theorem postOk_not_after (tt : Bool) (r : List (Lbl × PostOp)) (h : postOk tt r = true) : afterOk tt r = false := by
  induction r with
  | nil => simp [postOk] at h
  | cons x r ih =>
    obtain ⟨l, op⟩ := x
    cases op with
    | clearFlag => cases tt <;> rfl
    | nop => exact ih h
    | arrStop => rw [afterOk, ih h, Bool.and_false]
    | _ => cases h

def preExit : MPh → Bool
  | .unstarted | .pre _ | .loop | .bodyPre _ | .snap | .snapPost _ | .forHead | .procPre _ | .proc
  | .procPost _ | .sleep _ => true
  | _ => false

def iterPh : MPh → Bool
  | .snapPost _ | .forHead | .procPre _ | .proc | .procPost _ => true
  | _ => false

def curPh : MPh → Bool
  | .procPre _ | .proc => true
  | _ => false

def sCover : SPh → Bool
  | .call | .pre _ | .test | .setPre _ | .set | .newPre _ | .new | .start => true
  | _ => false

def sFlagged : SPh → Bool
  | .newPre _ | .new | .start => true
  | _ => false

def sStarting : SPh → Bool
  | .setPre _ | .set | .newPre _ | .new => true
  | _ => false

def sGlue : SPh → Bool
  | .testMon | .testSub | .newSub | .startSub => true
  | _ => false

/-- phase of the thread `self._thread` refers to (`dead` when there is none yet) -/
def lph (s : State) : MPh := match s.mon with | some m => m.ph | none => .dead
def liter (s : State) : List Job := match s.mon with | some m => m.iter | none => []
def lcur (s : State) : Job := match s.mon with | some m => m.cur | none => 0

/-- the hand-off invariant of the code as found, valid as long as no job has been recorded while a
monitor was on its way out (`hit = false`) -/
structure InvP (V : Variant) (s : State) : Prop where
  noSubs : s.sub = none ∧ s.oldSubs = []
  oldOk : ∀ m ∈ s.old, m.ph = .dead ∨ ∃ r, m.ph = .post r ∧ afterOk false r = true
  flagT : s.flag = true → sFlagged s.sph = true ∨ preExit (lph s) = true ∨ ∃ r, lph s = .post r ∧ postOk V.testThread r = true
  flagF : s.flag = false → sFlagged s.sph = false ∧ (lph s = .dead ∨ ∃ r, lph s = .post r ∧ afterOk V.testThread r = true)
  window : ∀ r, lph s = .post r → (V.testThread = true ∨ postOk V.testThread r = true) → s.pending = [] ∧ s.queue = []
  cover : (s.pending ≠ [] ∨ s.queue ≠ []) → (s.flag = true ∧ preExit (lph s) = true) ∨ sCover s.sph = true
  unst : lph s = .unstarted → s.sph = .start
  postShape : ∀ r, lph s = .post r → postOk V.testThread r = true ∨ afterOk V.testThread r = true
  noExc : ∀ r, lph s ≠ .exc r
  iterIn : iterPh (lph s) = true → (∀ j ∈ liter s, j ∈ s.pending) ∧ (liter s).Nodup
  curIn : curPh (lph s) = true → lcur s ∈ s.pending ∧ lcur s ∉ liter s
  noGlueS : sGlue s.sph = false
  startsDead : sStarting s.sph = true → lph s = .dead ∨ ∃ r, lph s = .post r ∧ afterOk false r = true
  atStart : s.sph = .start → lph s = .unstarted
  notArmed : s.armed = false

theorem lastMonAlive_eq (s : State) : lastMonAlive s = (lph s != .unstarted && lph s != .dead) := by
  unfold lastMonAlive lph; cases s.mon <;> simp [monAlive]

theorem lph_some {s : State} {m : Mon} (hmon : s.mon = some m) : lph s = m.ph := by
  rw [lph, hmon]

theorem mem_mon_lph {s : State} {m : Mon} (hm : m ∈ s.mon.toList) : m.ph = lph s := by
  cases hs : s.mon with
  | none => rw [hs] at hm; cases hm
  | some m' => rw [hs, Option.toList, List.mem_singleton] at hm; rw [lph, hs, hm]

theorem afterOk_mono (r : List (Lbl × PostOp)) (h : afterOk false r = true) (tt : Bool) : afterOk tt r = true := by
  induction r with
  | nil => rfl
  | cons x r ih => obtain ⟨l, op⟩ := x; simp_all [afterOk]

theorem mph_cases (ph : MPh) : preExit ph = true ∨ ph = .dead ∨ (∃ r, ph = .post r) ∨ (∃ r, ph = .exc r) := by
  cases ph <;> simp [preExit]

variable {V : Variant} {fl : Bool} {sp sp' : SPh} {ph ph' : MPh} {it it' : List Job} {c c' : Job} {p q p' q' : List Job}
  {tt : Bool} {r : List (Lbl × PostOp)}

theorem mPost_postOk (h : postOk tt r = true) : mPost r = .post r := by
  cases r
  · cases h
  · rfl

/-- the scheduler thread is not in the middle of replacing the monitor thread -/
structure Calm (sp : SPh) : Prop where
  starting : sStarting sp = false
  start : sp ≠ .start
  glue : sGlue sp = false

theorem calm_of_idle (h : sp = .done ∨ sp = .ins) : Calm sp := by
  rcases h with rfl | rfl <;> exact ⟨rfl, nofun, rfl⟩

theorem Calm.unflagged (h : Calm sp) : sFlagged sp = false := by
  cases sp <;> first | rfl | exact absurd rfl h.start | cases h.starting

def RunPh (a b : Bool) (ph : MPh) : Prop := preExit ph = true ∧ ph ≠ .unstarted ∧ iterPh ph = a ∧ curPh ph = b

theorem runPh_of (hr : preExit ph = true) (hu : ph ≠ .unstarted) : RunPh (iterPh ph) (curPh ph) ph := ⟨hr, hu, rfl, rfl⟩

theorem runPh_mNops {a b : Bool} (r : List Lbl) {k : List Lbl → MPh} {next : MPh} (hk : ∀ r, RunPh a b (k r))
    (hn : RunPh a b next) : RunPh a b (mNops r k next) := by
  cases r
  · exact hn
  · exact hk _

/-- the thread has ended or is on its exit path past `is_running = False` -/
def Left (tt : Bool) (ph : MPh) : Prop := ph = .dead ∨ ∃ r, ph = .post r ∧ afterOk tt r = true

theorem Left.mono (h : Left false ph) : Left tt ph :=
  h.imp id fun ⟨r, e, ha⟩ => ⟨r, e, afterOk_mono r ha tt⟩

theorem Left.not_run (h : Left tt ph) :
    preExit ph = false ∧ iterPh ph = false ∧ curPh ph = false ∧ ph ≠ .unstarted ∧ ∀ r, ph ≠ .exc r := by
  rcases h with rfl | ⟨r, rfl, _⟩ <;> exact ⟨rfl, rfl, rfl, nofun, nofun⟩

theorem Left.post (h : Left tt (.post r)) : afterOk tt r = true := by
  rcases h with h | ⟨r', e, h⟩
  · cases h
  · cases e; exact h

theorem left_mPost (h : afterOk tt r = true) : Left tt (mPost r) := by
  cases r with
  | nil => exact .inl rfl
  | cons x r => exact .inr ⟨_, rfl, h⟩

theorem left_next {x : Lbl × PostOp} (ha : afterOk tt (x :: r) = true) (h : ph = mPost r ∨ ph = .dead) : Left tt ph := by
  rcases h with rfl | rfl
  · exact left_mPost (Bool.and_eq_true_iff.1 ha).2
  · exact .inl rfl

theorem not_left_of_preExit (h : preExit ph = true) : ¬ Left tt ph :=
  fun hl => nomatch hl.not_run.1.symm.trans h

theorem not_left_of_postOk (h : postOk tt r = true) : ¬ Left tt (.post r) :=
  fun hl => nomatch (postOk_not_after tt r h).symm.trans hl.post

/-- `InvP` as a statement about the seven things it observes: the flag, the scheduler phase, phase /
snapshot / current job of the thread `self._thread` refers to, the pending map and the queue -/
structure Core (V : Variant) (fl : Bool) (sp : SPh) (ph : MPh) (it : List Job) (c : Job) (p q : List Job) : Prop where
  flagT : fl = true → sFlagged sp = true ∨ preExit ph = true ∨ ∃ r, ph = .post r ∧ postOk V.testThread r = true
  flagF : fl = false → sFlagged sp = false ∧ Left V.testThread ph
  window : ∀ r, ph = .post r → (V.testThread = true ∨ postOk V.testThread r = true) → p = [] ∧ q = []
  cover : (p ≠ [] ∨ q ≠ []) → (fl = true ∧ preExit ph = true) ∨ sCover sp = true
  unst : ph = .unstarted → sp = .start
  postShape : ∀ r, ph = .post r → postOk V.testThread r = true ∨ afterOk V.testThread r = true
  noExc : ∀ r, ph ≠ .exc r
  iterIn : iterPh ph = true → (∀ j ∈ it, j ∈ p) ∧ it.Nodup
  curIn : curPh ph = true → c ∈ p ∧ c ∉ it
  noGlueS : sGlue sp = false
  startsDead : sStarting sp = true → Left false ph
  atStart : sp = .start → ph = .unstarted

theorem invP_iff (V : Variant) (s : State) :
    InvP V s ↔ (s.sub = none ∧ s.oldSubs = []) ∧ (∀ m ∈ s.old, Left false m.ph) ∧ s.armed = false ∧
      Core V s.flag s.sph (lph s) (liter s) (lcur s) s.pending s.queue :=
  ⟨fun ⟨a, b, c, d, e, f, g, i, j, k, l, m, n, o, na⟩ => ⟨a, b, na, c, d, e, f, g, i, j, k, l, m, n, o⟩,
   fun ⟨a, b, na, c, d, e, f, g, i, j, k, l, m, n, o⟩ => ⟨a, b, c, d, e, f, g, i, j, k, l, m, n, o, na⟩⟩

theorem InvP.core {s : State} (h : InvP V s) : Core V s.flag s.sph (lph s) (liter s) (lcur s) s.pending s.queue :=
  ((invP_iff V s).1 h).2.2.2

theorem InvP.coreMon {s : State} {i : Nat} (h : InvP V s) (hmon : s.mon = some ⟨ph, it, c, i⟩) :
    Core V s.flag s.sph ph it c s.pending s.queue := by
  simpa only [lph, liter, lcur, hmon] using h.core

theorem invP_of_core {s t : State} (h : InvP V s) (e1 : t.sub = s.sub) (e2 : t.oldSubs = s.oldSubs) (e3 : t.old = s.old)
    (e4 : t.armed = false) (hc : Core V t.flag t.sph (lph t) (liter t) (lcur t) t.pending t.queue) : InvP V t :=
  (invP_iff V t).2 ⟨by rw [e1, e2]; exact h.noSubs, by rw [e3]; exact h.oldOk, e4, hc⟩

/-- a thread that `_start` would take for running vouches for the flag: the flag is set and the
scheduler thread is not in the middle of replacing the thread -/
theorem Core.live (h : Core V fl sp ph it c p q) (hl : ¬ Left V.testThread ph) (hu : ph ≠ .unstarted) :
    fl = true ∧ Calm sp := by
  refine ⟨?_, ?_, fun hs => hu (h.atStart hs), h.noGlueS⟩
  · cases fl
    · exact absurd (h.flagF rfl).2 hl
    · rfl
  · cases hs : sStarting sp
    · rfl
    · exact absurd (h.startsDead hs).mono hl

theorem core_run {a b : Bool} (hfl : fl = true) (hs : Calm sp)
    (hr : RunPh a b ph) (hi : a = true → (∀ j ∈ it, j ∈ p) ∧ it.Nodup) (hc : b = true → c ∈ p ∧ c ∉ it) :
    Core V fl sp ph it c p q where
  flagT _ := .inr (.inl hr.1)
  flagF hf := nomatch hfl.symm.trans hf
  window r e := by subst e; cases hr.1
  cover _ := .inl ⟨hfl, hr.1⟩
  unst e := absurd e hr.2.1
  postShape r e := by subst e; cases hr.1
  noExc r e := by subst e; cases hr.1
  iterIn e := hi (hr.2.2.1.symm.trans e)
  curIn e := hc (hr.2.2.2.symm.trans e)
  noGlueS := hs.glue
  startsDead h := nomatch hs.starting.symm.trans h
  atStart e := absurd e hs.start

theorem core_window (hfl : fl = true) (hs : Calm sp)
    (hpo : postOk V.testThread r = true) (hp : p = []) (hq : q = []) : Core V fl sp (.post r) it c p q where
  flagT _ := .inr (.inr ⟨r, rfl, hpo⟩)
  flagF hf := nomatch hfl.symm.trans hf
  window _ _ _ := ⟨hp, hq⟩
  cover hne := hne.elim (absurd hp) (absurd hq)
  unst := nofun
  postShape r' e := by cases e; exact .inl hpo
  noExc := nofun
  iterIn := nofun
  curIn := nofun
  noGlueS := hs.glue
  startsDead h := nomatch hs.starting.symm.trans h
  atStart e := absurd e hs.start

theorem core_cleared (hs : Calm sp)
    (hl : Left V.testThread ph) (hp : p = []) (hq : q = []) : Core V false sp ph it c p q where
  flagT := nofun
  flagF _ := ⟨hs.unflagged, hl⟩
  window _ _ _ := ⟨hp, hq⟩
  cover hne := hne.elim (absurd hp) (absurd hq)
  unst e := absurd e hl.not_run.2.2.2.1
  postShape _ e := .inr (e ▸ hl).post
  noExc := hl.not_run.2.2.2.2
  iterIn hi := nomatch hl.not_run.2.1.symm.trans hi
  curIn hc := nomatch hl.not_run.2.2.1.symm.trans hc
  noGlueS := hs.glue
  startsDead h := nomatch hs.starting.symm.trans h
  atStart e := absurd e hs.start

theorem invP_init (V : Variant) (jobs : List Job) : InvP V (init jobs) := by
  unfold init
  split <;> exact (invP_iff V _).2 ⟨⟨rfl, rfl⟩, nofun, rfl, core_cleared ⟨rfl, nofun, rfl⟩ (.inl rfl) rfl rfl⟩

/-- one more line of the exit path after `is_running = False` -/
theorem Core.past (h : Core V fl sp (.post r) it c p q) (ha : afterOk V.testThread r = true)
    (hl : Left V.testThread ph') (hf : afterOk false r = true → Left false ph') : Core V fl sp ph' it' c' p q where
  flagT hfl := .inl <| (h.flagT hfl).resolve_right fun
    | .inl hp => nomatch hp
    | .inr ⟨_, e, hpo⟩ => by cases e; exact not_left_of_postOk hpo (.inr ⟨_, rfl, ha⟩)
  flagF hfl := ⟨(h.flagF hfl).1, hl⟩
  window r' e hor := h.window r rfl <| hor.imp id fun hpo => absurd (e ▸ hl) (not_left_of_postOk hpo)
  cover hne := (h.cover hne).imp (fun hp => nomatch hp.2) id
  unst e := absurd e hl.not_run.2.2.2.1
  postShape _ e := .inr (e ▸ hl).post
  noExc := hl.not_run.2.2.2.2
  iterIn hi := nomatch hl.not_run.2.1.symm.trans hi
  curIn hc := nomatch hl.not_run.2.2.1.symm.trans hc
  noGlueS := h.noGlueS
  startsDead hs := hf (h.startsDead hs).post
  atStart e := nomatch h.atStart e

theorem Core.new (h : Core V fl .new ph it c p q) : Core V fl .start .unstarted it' c' p q where
  flagT _ := .inl rfl
  flagF hfl := nomatch (h.flagF hfl).1
  window := nofun
  cover _ := .inr rfl
  unst _ := rfl
  postShape := nofun
  noExc := nofun
  iterIn := nofun
  curIn := nofun
  noGlueS := rfl
  startsDead := nofun
  atStart _ := rfl

/-- the scheduler thread moves on; where it stops vouching for the jobs it has recorded (`sCover`), a thread inside its
loop does -/
theorem Core.sph (h : Core V fl sp ph it c p q) (h1 : sFlagged sp' = sFlagged sp)
    (h2 : sCover sp = true → sCover sp' = true ∨ ((p ≠ [] ∨ q ≠ []) → fl = true ∧ preExit ph = true))
    (h3 : sp ≠ .start) (h3' : sp' ≠ .start) (h4 : sGlue sp' = false) (h5 : sStarting sp' = true → Left false ph) :
    Core V fl sp' ph it c p q :=
  { h with
    flagT := fun hfl => h1 ▸ h.flagT hfl
    flagF := fun hfl => h1 ▸ h.flagF hfl
    cover := fun hne => (h.cover hne).elim .inl fun hs => (h2 hs).elim .inr fun hb => .inl (hb hne)
    unst := fun e => absurd (h.unst e) h3
    noGlueS := h4
    startsDead := h5
    atStart := fun e => absurd e h3' }

/-- jobs are added to the pending map or the queue, or move from the one to the other -/
theorem Core.grow (h : Core V fl sp ph it c p q) (hsub : ∀ j ∈ p, j ∈ p')
    (hwin : ∀ r, ph = .post r → (V.testThread = true ∨ postOk V.testThread r = true) → p' = [] ∧ q' = [])
    (hcov : (p' ≠ [] ∨ q' ≠ []) → (p ≠ [] ∨ q ≠ []) ∨ sCover sp = true) : Core V fl sp ph it c p' q' :=
  { h with
    window := hwin
    cover := fun hne => (hcov hne).elim h.cover .inr
    iterIn := fun hi => ⟨fun j hj => hsub j ((h.iterIn hi).1 j hj), (h.iterIn hi).2⟩
    curIn := fun hc => ⟨hsub _ (h.curIn hc).1, (h.curIn hc).2⟩ }

/-- when `_start` finds the executor running (flag set, or thread alive where that is what it tests), recorded
jobs are in the care of a thread inside its loop: in the window both containers are empty -/
theorem Core.busy (h : Core V fl sp ph it c p q) (h0 : sFlagged sp = false) (h1 : sp ≠ .start)
    (hg : fl = true ∨ V.testThread = true ∧ ph ≠ .dead) (hne : p ≠ [] ∨ q ≠ []) : fl = true ∧ preExit ph = true := by
  have hw : ∀ r, ph = .post r → ¬(V.testThread = true ∨ postOk V.testThread r = true) :=
    fun r e hor => hne.elim (absurd (h.window r e hor).1) (absurd (h.window r e hor).2)
  rcases mph_cases ph with hp | rfl | ⟨r, rfl⟩ | ⟨r, rfl⟩
  · exact ⟨(h.live (not_left_of_preExit hp) fun e => h1 (h.unst e)).1, hp⟩
  · rcases hg with hfl | hg
    · rcases h.flagT hfl with hf | hp | ⟨_, e, _⟩
      · exact nomatch h0.symm.trans hf
      · cases hp
      · cases e
    · exact absurd rfl hg.2
  · rcases hg with hfl | hg
    · rcases h.flagT hfl with hf | hp | ⟨_, e, hpo⟩
      · exact nomatch h0.symm.trans hf
      · cases hp
      · cases e; exact absurd (.inr hpo) (hw _ rfl)
    · exact absurd (.inl hg.1) (hw _ rfl)
  · exact absurd rfl (h.noExc r)

/-- the end of a `_submit` call -/
theorem Core.finish (h : Core V fl sp ph it c p q) (h1 : sFlagged sp = false) (h3 : sp ≠ .start)
    (hb : (p ≠ [] ∨ q ≠ []) → fl = true ∧ preExit ph = true) (hsp : sp' = .done ∨ sp' = .ins) :
    Core V fl sp' ph it c p q := by
  rcases hsp with rfl | rfl <;> exact h.sph h1.symm (fun _ => .inr hb) h3 nofun rfl nofun

/-- `is_running = True` -/
theorem Core.set (h : Core V fl .set ph it c p q) (h1 : sFlagged sp' = true) (h2 : sCover sp' = true) (h3 : sGlue sp' = false)
    (h4 : sp' ≠ .start) : Core V true sp' ph it c p q :=
  { h with
    flagT := fun _ => .inl h1
    flagF := nofun
    cover := fun _ => .inr h2
    unst := fun e => absurd e (h.startsDead rfl).not_run.2.2.2.1
    noGlueS := h3
    startsDead := fun _ => h.startsDead rfl
    atStart := fun e => absurd e h4 }

theorem stepMon_alive {s s' : State} {b : Bool} {m m' : Mon} (hs : stepMon V s b m = some (s', m')) :
    m.ph ≠ .unstarted ∧ m.ph ≠ .dead := by
  obtain ⟨ph, it, c, i⟩ := m
  constructor <;> rintro (rfl : ph = _) <;> cases hs

/-- a line of the exit path after `is_running = False` writes at most the arrayer's flag (and that only where
`_start` tests the thread, not the flag), and the thread goes on to the next line or ends -/
theorem stepMon_past {s s' : State} {b : Bool} {lb : Lbl} {op : PostOp} {i : Nat} {m' : Mon}
    (ha : afterOk tt ((lb, op) :: r) = true) (hs : stepMon V s b ⟨.post ((lb, op) :: r), it, c, i⟩ = some (s', m')) :
    (s' = s ∨ tt = true ∧ s' = { s with arrAlive := false }) ∧ (m'.ph = mPost r ∨ m'.ph = .dead) := by
  cases op with
  | nop | tSet => cases hs; exact ⟨.inl rfl, .inl rfl⟩
  | clearFlag => cases tt <;> cases ha
  | arrStop =>
    cases tt
    · cases ha
    · cases hs; exact ⟨.inr ⟨rfl, rfl⟩, .inl rfl⟩
  | tAlive | tNotMe =>
    simp only [stepMon] at hs
    split at hs <;> cases hs
    · exact ⟨.inl rfl, .inl rfl⟩
    · exact ⟨.inl rfl, .inr rfl⟩
  | join =>
    simp only [stepMon] at hs
    split at hs <;> cases hs
    exact ⟨.inl rfl, .inl rfl⟩

theorem stepMon_harmless (V : Variant) (s s' : State) (b : Bool) (m m' : Mon) (h : Left false m.ph)
    (hs : stepMon V s b m = some (s', m')) : s' = s ∧ Left false m'.ph := by
  obtain ⟨ph, it, c, i⟩ := m
  rcases h with h | ⟨r, h, ha⟩ <;> cases h
  · cases hs
  · cases r with
    | nil => cases hs
    | cons x r =>
      obtain ⟨hs', hm'⟩ := stepMon_past ha hs
      exact ⟨hs'.resolve_right nofun, left_next ha hm'⟩

theorem invP_stepOld (V : Variant) (s s'' : State) (k : Nat) (m m' : Mon) (h : InvP V s) (hk : s.old[k]? = some m)
    (hs : stepMon V s false m = some (s'', m')) : InvP V { s'' with old := s''.old.set k m' } := by
  obtain ⟨rfl, hm'⟩ := stepMon_harmless V s s'' false m m' (h.oldOk m (List.mem_of_getElem? hk)) hs
  exact (invP_iff V _).2
    ⟨h.noSubs, fun x hx => (List.mem_or_eq_of_mem_set hx).elim (h.oldOk x) (· ▸ hm'), h.notArmed, h.core⟩

theorem loop_exit (h : ¬(fl && (!p.isEmpty || !q.isEmpty)) = true) (hfl : fl = true) : p = [] ∧ q = [] := by
  subst hfl
  cases p <;> cases q <;> first | exact ⟨rfl, rfl⟩ | exact absurd rfl h

theorem invP_stepLast_main (V : Variant) (hW : WF V) (s s'' : State) (m m' : Mon) (h : InvP V s) (hmon : s.mon = some m)
    (hr : preExit m.ph = true) (hu : m.ph ≠ .unstarted)
    (hN : s.pending.Nodup) (hs : stepMon V s true m = some (s'', m')) : InvP V { s'' with mon := some m' } := by
  obtain ⟨ph, it, c, i⟩ := m
  have hc := h.coreMon hmon
  obtain ⟨hfl, hs'⟩ := hc.live (not_left_of_preExit hr) hu
  have ha := h.notArmed
  -- the thread stays inside its loop: the next phase and the nops before it are of one class
  have go {a b r k next} {it' : List Job} {c' i'} (hk : ∀ r, RunPh a b (k r)) (hn : RunPh a b next)
      (hi : a = true → (∀ j ∈ it', j ∈ s.pending) ∧ it'.Nodup) (hcu : b = true → c' ∈ s.pending ∧ c' ∉ it') :
      InvP V { s with mon := some ⟨mNops r k next, it', c', i'⟩ } :=
    invP_of_core h rfl rfl rfl ha (core_run hfl hs' (runPh_mNops r hk hn) hi hcu)
  cases ph with
  | unstarted => exact absurd rfl hu
  | dead | exc _ | post _ => cases hr
  | pre r | bodyPre r | sleep r =>
    cases hs
    exact go (fun _ => runPh_of rfl nofun) (runPh_of rfl nofun) nofun nofun
  | snapPost r | procPost r =>
    cases hs
    exact go (fun _ => runPh_of rfl nofun) (runPh_of rfl nofun) (fun _ => hc.iterIn rfl) nofun
  | procPre r =>
    cases hs
    exact go (fun _ => runPh_of rfl nofun) (runPh_of rfl nofun) (fun _ => hc.iterIn rfl) fun _ => hc.curIn rfl
  | loop =>
    simp only [stepMon] at hs
    split at hs <;> cases hs
    · exact go (fun _ => runPh_of rfl nofun) (runPh_of rfl nofun) nofun nofun
    · -- the loop test fails with the flag set: both containers are empty, the window opens
      rename_i hcond
      obtain ⟨hp, hq⟩ := loop_exit hcond hfl
      rw [mPost_postOk hW.post]
      exact invP_of_core h rfl rfl rfl ha (core_window hfl hs' hW.post hp hq)
  | snap =>
    cases hs
    exact go (fun _ => runPh_of rfl nofun) (runPh_of rfl nofun) (fun _ => ⟨fun _ hj => hj, hN⟩) nofun
  | forHead =>
    obtain ⟨hin, hnd⟩ := hc.iterIn rfl
    cases it with
    | nil =>
      cases hs
      exact go (fun _ => runPh_of rfl nofun) (runPh_of rfl nofun) nofun nofun
    | cons j r =>
      cases hs
      obtain ⟨hj, hr⟩ := List.nodup_cons.1 hnd
      exact go (fun _ => runPh_of rfl nofun) (runPh_of rfl nofun) (fun _ => ⟨fun x hx => hin x (.tail _ hx), hr⟩)
        fun _ => ⟨hin j (.head _), hj⟩
  | proc =>
    -- no fault is armed and the job is still in the pending map: it is reported and erased
    obtain ⟨hin, hnd⟩ := hc.iterIn rfl
    obtain ⟨hcp, hci⟩ := hc.curIn rfl
    have hcc : s.pending.contains c = true := List.contains_iff_mem.2 hcp
    simp only [stepMon, ha, hcc] at hs
    cases hs
    exact invP_of_core h rfl rfl rfl rfl (core_run (a := true) (b := false) hfl hs'
      (runPh_mNops _ (fun _ => runPh_of rfl nofun) (runPh_of rfl nofun))
      (fun _ => ⟨fun x hx => (List.mem_erase_of_ne fun (e : x = c) => hci (e ▸ hx)).2 (hin x hx), hnd⟩) nofun)

theorem invP_stepLast_post (V : Variant) (s s'' : State) (m m' : Mon) (h : InvP V s) (hmon : s.mon = some m)
    (hph : m.ph = .post r) (hs : stepMon V s true m = some (s'', m')) : InvP V { s'' with mon := some m' } := by
  obtain ⟨ph, it, c, i⟩ := m
  cases hph
  have hc := h.coreMon hmon
  have ha := h.notArmed
  cases r with
  | nil => cases hs
  | cons x r =>
    obtain ⟨lb, op⟩ := x
    rcases hc.postShape _ rfl with hpo | hao
    · -- in the window: log lines and `arrayer.stop()` up to `is_running = False`
      obtain ⟨hfl, hs'⟩ := hc.live (not_left_of_postOk hpo) nofun
      obtain ⟨hp, hq⟩ := hc.window _ rfl (.inr hpo)
      cases op with
      | nop | arrStop =>
        cases hs
        rw [mPost_postOk (r := r) hpo]
        exact invP_of_core h rfl rfl rfl ha (core_window hfl hs' hpo hp hq)
      | clearFlag =>
        cases hs
        exact invP_of_core h rfl rfl rfl ha (core_cleared hs' (left_mPost hpo) hp hq)
      | _ => cases hpo
    · obtain ⟨hs', hm'⟩ := stepMon_past hao hs
      have hc' : Core V s.flag s.sph m'.ph m'.iter m'.cur s.pending s.queue :=
        hc.past hao (left_next hao hm') fun hf => left_next hf hm'
      rcases hs' with rfl | ⟨_, rfl⟩ <;> exact invP_of_core h rfl rfl rfl ha hc'

theorem invP_stepM (V : Variant) (hW : WF V) (s s' : State) (k : Nat) (h : InvP V s) (hN : s.pending.Nodup)
    (hs : stepM V s k = some s') : InvP V s' := by
  rcases stepM_cases hs with ⟨m, s'', m', hk, hm, rfl⟩ | ⟨m, s'', m', hmon, hm, rfl⟩
  · exact invP_stepOld V s s'' k m m' h hk hm
  · obtain ⟨hu, hd⟩ := stepMon_alive hm
    rcases mph_cases m.ph with hp | hd' | ⟨r, hr⟩ | ⟨r, hr⟩
    · exact invP_stepLast_main V hW s s'' m m' h hmon hp hu hN hm
    · exact absurd hd' hd
    · exact invP_stepLast_post V s s'' m m' h hmon hr hm
    · exact absurd ((lph_some hmon).trans hr) (h.noExc r)

theorem Core.test_guard {al : Bool} (h : Core V fl .test ph it c p q) (hal : al = (ph != .unstarted && ph != .dead))
    (hg : (if V.testThread = true then !al else !fl) = true) : Left false ph := by
  subst hal
  split at hg
  · by_cases e : ph = .dead
    · exact .inl e
    · have : ph = .unstarted := by simpa [e] using hg
      exact nomatch h.unst this
  · rename_i hn
    have := (h.flagF (by simpa using hg)).2
    rwa [Bool.eq_false_iff.2 hn] at this

theorem test_busy {al : Bool} (hal : al = (ph != .unstarted && ph != .dead))
    (hg : ¬(if V.testThread = true then !al else !fl) = true) : fl = true ∨ V.testThread = true ∧ ph ≠ .dead := by
  subst hal
  split at hg
  · rename_i ht
    exact .inr ⟨ht, fun e => hg (by simp [e])⟩
  · exact .inl (by simpa using hg)

/-- how `hit = false` enters the invariant: if the insert line leaves `hit` false, no monitor is `exiting`, so the
thread `self._thread` refers to is not in the window and `Core.window` survives the new job -/
theorem exiting_false_of_any (V : Variant) (s : State) (h : s.mons.any (exiting V) = false) :
    ∀ r, lph s = .post r → ¬ (V.testThread = true ∨ postOk V.testThread r = true) := by
  intro r hr hc
  unfold lph at hr
  cases hm : s.mon with
  | none => simp [hm] at hr
  | some m =>
    simp [hm] at hr
    have : exiting V m = false := by
      simp [State.mons, hm] at h; exact h.2
    simp [exiting, hr] at this
    rcases hc with hc | hc
    · simp [hc] at this
    · have h2 := postOk_any _ _ hc
      obtain ⟨a, ha⟩ := by simpa using h2
      exact this.2 a _ ha rfl

theorem invP_stepS (V : Variant) (hW : WF V) (s s' : State) (h : InvP V s) (hs : stepS V s = some s')
    (hh : s'.hit = false) : InvP V s' := by
  have hc := h.core
  have ha := h.notArmed
  obtain ⟨sp, hsph⟩ : ∃ sp, s.sph = sp := ⟨_, rfl⟩
  rw [hsph] at hc
  have nops fl' {r k next} :=
    @sNops_ind (fun sp' => Core V fl' sp' (lph s) (liter s) (lcur s) s.pending s.queue) r k next
  cases sp with
  | ins =>
    have key p' q' (hsub : ∀ j ∈ s.pending, j ∈ p') (hex : s.mons.any (exiting V) = false) :
        Core V s.flag .call (lph s) (liter s) (lcur s) p' q' :=
      (hc.sph (sp' := .call) rfl nofun nofun nofun rfl nofun).grow hsub
        (fun r e hor => absurd hor (exiting_false_of_any V s hex r e)) (fun _ => .inr rfl)
    simp only [stepS, hsph, hW.noGlue, Bool.false_eq_true, ↓reduceIte] at hs
    split at hs
    · cases hs
      exact invP_of_core h rfl rfl rfl ha (key _ _ (fun _ => List.mem_append_left _) (Bool.or_eq_false_iff.1 hh).2)
    · split at hs
      · cases hs
        exact invP_of_core h rfl rfl rfl ha (key _ _ (fun _ hj => hj) (Bool.or_eq_false_iff.1 hh).2)
      · cases hs
        exact invP_of_core h rfl rfl rfl ha (key _ _ (fun _ => List.mem_append_left _) (Bool.or_eq_false_iff.1 hh).2)
  | call | pre r =>
    simp only [stepS, hsph] at hs
    cases hs
    exact invP_of_core h rfl rfl rfl ha (nops _ (fun _ => hc.sph rfl (fun _ => .inl rfl) nofun nofun rfl nofun)
      (hc.sph rfl (fun _ => .inl rfl) nofun nofun rfl nofun))
  | setPre r | newPre r =>
    simp only [stepS, hsph] at hs
    cases hs
    exact invP_of_core h rfl rfl rfl ha (nops _ (fun _ => hc.sph rfl (fun _ => .inl rfl) nofun nofun rfl fun _ => hc.startsDead rfl)
      (hc.sph rfl (fun _ => .inl rfl) nofun nofun rfl fun _ => hc.startsDead rfl))
  | test =>
    simp only [stepS, hsph, hW.noGlue, Bool.false_eq_true, ↓reduceIte] at hs
    by_cases hg : (if V.testThread then !lastMonAlive s else !s.flag) = true
    · -- not running: the old thread has ended or is past the clearing of the flag
      rw [if_pos hg] at hs
      cases hs
      have hl := hc.test_guard (lastMonAlive_eq s) hg
      exact invP_of_core h rfl rfl rfl ha (nops _ (fun _ => hc.sph rfl (fun _ => .inl rfl) nofun nofun rfl fun _ => hl)
        (hc.sph rfl (fun _ => .inl rfl) nofun nofun rfl fun _ => hl))
    · rw [if_neg hg] at hs
      have hb := hc.busy rfl nofun (test_busy (lastMonAlive_eq s) hg)
      split at hs
      · cases hs
        exact invP_of_core h rfl rfl rfl ha (hc.sph rfl (fun _ => .inr hb) nofun nofun rfl nofun)
      · cases hs
        exact finishS_ind _ fun _ _ _ hsp => invP_of_core h rfl rfl rfl ha (hc.finish rfl nofun hb hsp)
  | ret =>
    simp only [stepS, hsph] at hs
    cases hs
    exact finishS_ind _ fun _ _ _ hsp => invP_of_core h rfl rfl rfl ha
      (hc.finish rfl nofun (fun hne => (hc.cover hne).resolve_right nofun) hsp)
  | set =>
    simp only [stepS, hsph, hW.noGlue, Bool.false_eq_true, ↓reduceIte] at hs
    cases hs
    exact invP_of_core h rfl rfl rfl ha (nops true (fun _ => hc.set rfl rfl rfl nofun) (hc.set rfl rfl rfl nofun))
  | new =>
    simp only [stepS, hsph] at hs
    cases hs
    exact (invP_iff V _).2 ⟨h.noSubs,
      fun m hm => (List.mem_append.1 hm).elim (h.oldOk m) fun hm => mem_mon_lph hm ▸ hc.startsDead rfl, ha, hc.new⟩
  | start =>
    -- `Thread.start()`: the new thread enters its loop with the flag set
    have hfl : s.flag = true := by
      cases hf : s.flag
      · exact nomatch (hc.flagF hf).1
      · rfl
    have hun := hc.atStart rfl
    cases hm : s.mon with
    | none => rw [lph, hm] at hun; cases hun
    | some m =>
      obtain ⟨ph, it, c, i⟩ := m
      rw [lph, hm] at hun
      cases hun
      simp only [stepS, hsph, hW.noGlue, hm, Option.map, Bool.false_eq_true, ↓reduceIte] at hs
      cases hs
      exact finishS_ind _ fun _ _ _ hsp => invP_of_core h rfl rfl rfl ha
        (core_run (a := false) (b := false) hfl (calm_of_idle hsp)
          (runPh_mNops _ (fun _ => runPh_of rfl nofun) (runPh_of rfl nofun)) nofun nofun)
  | done => simp [stepS, hsph] at hs
  | testMon | testSub | newSub | startSub => cases hc.noGlueS

theorem invP_stepA (V : Variant) (s s' : State) (h : InvP V s) (hs : stepA V s = some s') : InvP V s' := by
  simp only [stepA] at hs
  split at hs <;> cases hs
  have hc := h.core
  refine invP_of_core h rfl rfl rfl h.notArmed (hc.grow (fun _ => List.mem_append_left _) ?_ ?_)
  · intro r e hor
    obtain ⟨hp, hq⟩ := hc.window r e hor
    simp [hp, hq]
  · intro hne
    by_cases hp : s.pending = []
    · by_cases hq : s.queue = []
      · simp [hp, hq] at hne
      · exact .inl (.inr hq)
    · exact .inl (.inl hp)

theorem invP_no_stepU (V : Variant) (s s' : State) (k : Nat) (h : InvP V s) (hs : stepU V s k = some s') : False := by
  obtain ⟨h1, h2⟩ := h.noSubs
  simp [stepU, h1, h2] at hs

/-- `hit` is only ever switched on -/
theorem hit_of_reachable_step (V : Variant) (s s' : State) (e : Ev) (hs : step V s e = some s') (hh : s'.hit = false) :
    s.hit = false := by
  rcases (step_ghost hs).1 with h | h <;> rw [h] at hh
  · exact hh
  · exact (Bool.or_eq_false_iff.1 hh).1

theorem faulted_mono (V : Variant) (s s' : State) (e : Ev) (hs : step V s e = some s') (hf : s'.faulted = false) :
    s.faulted = false ∧ e ≠ .F := by
  obtain ⟨h1, h2⟩ := Bool.or_eq_false_iff.1 ((step_ghost hs).2.symm.trans hf)
  exact ⟨h2, ne_of_beq_false h1⟩

theorem pending_nodup {V : Variant} {jobs : List Job} {s : State} (h : Reachable V jobs s) (hd : jobs.Nodup) :
    s.pending.Nodup := by
  have hC := reachable_invJ h
  refine List.nodup_iff_count.2 (fun j => ?_)
  have h1 := hC.cons j
  have h2 := congrArg (List.count j) hC.prog
  have h3 := List.nodup_iff_count.1 hd j
  simp only [List.count_append] at h2
  omega

theorem reachable_invP {V : Variant} (hW : WF V) {jobs : List Job} (hd : jobs.Nodup) {s : State}
    (h : Reachable V jobs s) : s.hit = false → s.faulted = false → InvP V s := by
  induction h with
  | init => intro _ _; exact invP_init V jobs
  | @step s0 s1 e hr hs ih =>
    intro hh hf
    obtain ⟨hf0, hne⟩ := faulted_mono V s0 s1 e hs hf
    have h0 := ih (hit_of_reachable_step V s0 s1 e hs hh) hf0
    cases e with
    | S => exact invP_stepS V hW s0 s1 h0 hs hh
    | M k => exact invP_stepM V hW s0 s1 k h0 (pending_nodup hr hd) hs
    | U k => exact (invP_no_stepU V s0 s1 k h0 hs).elim
    | A => exact invP_stepA V s0 s1 h0 hs
    | F => exact absurd rfl hne
    | L j =>
      simp only [step] at hs
      split at hs <;> cases hs
      exact invP_of_core h0 rfl rfl rfl h0.notArmed h0.core
    | O j g =>
      cases hs
      exact invP_of_core h0 rfl rfl rfl h0.notArmed h0.core

/-- when no thread can take a step any more, nothing is left in the pending map or the queue: a job there would be
in the care of the scheduler thread, which is done, or of a thread inside its loop, which is alive -/
theorem InvP.quiet {V : Variant} {s : State} (h : InvP V s) (hq : quiescent s = true) : s.pending = [] ∧ s.queue = [] := by
  simp only [quiescent, Bool.and_eq_true, beq_iff_eq, List.all_eq_true] at hq
  obtain ⟨⟨⟨hdone, hmons⟩, _⟩, _⟩ := hq
  have hc := h.core
  rw [hdone] at hc
  refine Classical.byContradiction fun hne => ?_
  obtain ⟨_, hpre⟩ := (hc.cover (Classical.not_and_iff_not_or_not.1 hne)).resolve_right nofun
  cases hm : s.mon with
  | none => rw [lph, hm] at hpre; cases hpre
  | some m =>
    have hal := hmons m (List.mem_append_right _ (hm ▸ .head _))
    have hu : m.ph ≠ .unstarted := fun e => nomatch hc.unst ((lph_some hm).trans e)
    rw [lph_some hm] at hpre
    have hd : m.ph ≠ .dead := fun e => by rw [e] at hpre; cases hpre
    simp [monAlive, hu, hd] at hal
end RedunModel.Monitor
