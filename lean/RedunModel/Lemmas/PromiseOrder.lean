/-
Registration order in the promise machine: `PInv` — callback lists and running notification loops are in
registration order, and a `then()` call that was made while no notification loop of its promise had callbacks
waiting (`State.during` = false) has its callback invoked only after every earlier `then()` call on the same
promise (same branch) had its callback invoked (`PInv.log`).  What carries the induction is `PInv.wait`: for such a
callback still waiting in a loop, every earlier `then()` call on its promise has its callback waiting in the same loop
or already run.  `Reach.pinv`: holds in every reachable state.
-/
import RedunModel.Lemmas.Promise
namespace RedunModel.Promise

def RidLt (c1 c2 : Cb) : Prop := c1.rid < c2.rid
def SameOwner (s : State) (r1 r2 : Nat) : Prop := ∃ p, s.regs[r1]? = some p ∧ s.regs[r2]? = some p

structure PInv (s : State) : Prop where
  dlen : s.during.length = s.regs.length
  heap : ∀ (p : Nat) (pr : Prom), s.heap[p]? = some pr → ∀ b, (pick b pr).Pairwise RidLt
  frames : ∀ v todo, Frame.notify v todo ∈ s.stack → todo.Pairwise RidLt
  log : ∀ (r1 r2 : Nat) (b : Br) (v : Val) (l1 l2 : List Event), r1 < r2 → SameOwner s r1 r2 →
    s.during[r2]? = some false → s.log = l1 ++ Event.invoke r2 b v :: l2 → calls r1 b l2 = 1
  wait : ∀ v todo, Frame.notify v todo ∈ s.stack → ∀ c ∈ todo, s.during[c.rid]? = some false →
    ∀ r1, r1 < c.rid → SameOwner s r1 c.rid → (∃ c1 ∈ todo, c1.rid = r1 ∧ c1.br = c.br) ∨ calls r1 c.br s.log = 1

/-- Registrations are only added (their flags with them), the log is the same.
The caller shows that the lists of the new heap are in order, and that every notification loop is an old one, or is in
order with the earlier registrations of its unflagged callbacks waiting in it or already run. -/
theorem PInv.grow {s s' : State} (I : Inv s) (P : PInv s) {ex : List Nat} {ex' : List Bool}
    (hr : s'.regs = s.regs ++ ex) (hd : s'.during = s.during ++ ex') (hlen : ex'.length = ex.length)
    (hlog : s'.log = s.log)
    (hh : ∀ (p : Nat) (pr : Prom), s'.heap[p]? = some pr → ∀ b, (pick b pr).Pairwise RidLt)
    (hs : ∀ v todo, Frame.notify v todo ∈ s'.stack → Frame.notify v todo ∈ s.stack ∨
      (todo.Pairwise RidLt ∧ ∀ c ∈ todo, s'.during[c.rid]? = some false → ∀ r1, r1 < c.rid → SameOwner s' r1 c.rid →
        (∃ c1 ∈ todo, c1.rid = r1 ∧ c1.br = c.br) ∨ calls r1 c.br s'.log = 1)) : PInv s' := by
  -- for registrations that existed before, owner and flag are the old ones
  have hso : ∀ r1 r2, r1 < r2 → r2 < s.regs.length → SameOwner s' r1 r2 → SameOwner s r1 r2 := by
    intro r1 r2 h12 h2 ⟨p, h1, h2'⟩
    rw [hr, List.getElem?_append_left (by omega)] at h1
    rw [hr, List.getElem?_append_left h2] at h2'
    exact ⟨p, h1, h2'⟩
  have hdur : ∀ r2, r2 < s.regs.length → s'.during[r2]? = s.during[r2]? :=
    fun r2 h => by rw [hd, List.getElem?_append_left (P.dlen ▸ h)]
  refine ⟨by rw [hr, hd]; simp [P.dlen, hlen], hh, fun v todo h => (hs v todo h).elim (P.frames v todo) (·.1), ?_, ?_⟩
  · intro r1 r2 b v l1 l2 hlt hso' hdur' hl
    rw [hlog] at hl
    obtain ⟨_, _, h2, _⟩ := I.logs r2 b v (by rw [hl]; simp)
    have h2 := lt_of_getElem? h2
    exact P.log r1 r2 b v l1 l2 hlt (hso _ _ hlt h2 hso') (hdur r2 h2 ▸ hdur') hl
  · intro v todo h c hc hdur' r1 hlt hso'
    rcases hs v todo h with h | h
    · obtain ⟨_, _, h2, _⟩ := I.frames v todo h c hc
      have h2 := lt_of_getElem? h2
      rw [hlog]
      exact P.wait v todo h c hc (hdur c.rid h2 ▸ hdur') r1 hlt (hso _ _ hlt h2 hso')
    · exact h.2 c hc hdur' r1 hlt hso'

theorem PInv.same {s : State} (P : PInv s) (st : List Frame) (cs : List Coll)
    (hs : ∀ v todo, Frame.notify v todo ∈ st → Frame.notify v todo ∈ s.stack) :
    PInv { s with stack := st, colls := cs } :=
  ⟨P.dlen, P.heap, fun v todo h => P.frames v todo (hs v todo h), P.log, fun v todo h => P.wait v todo (hs v todo h)⟩

theorem PInv.pop {s : State} (P : PInv s) {f rest} (hs : s.stack = f :: rest) : PInv { s with stack := rest } :=
  P.same rest s.colls (fun v todo h => by rw [hs]; exact List.mem_cons_of_mem _ h)

theorem PInv.push {s : State} (P : PInv s) (f : Frame) (hf : ∀ v todo, f ≠ .notify v todo) : PInv (push f s) :=
  P.same (f :: s.stack) s.colls (fun v todo h => (List.mem_cons.mp h).resolve_left fun e => hf v todo e.symm)

theorem PInv.emit {s : State} (P : PInv s) (e : Event) (he : ∀ rid b v, e ≠ .invoke rid b v) : PInv (emit e s) := by
  refine ⟨P.dlen, P.heap, P.frames, fun r1 r2 b v l1 l2 hlt hso hdur hl => ?_, fun v todo h c hc hdur r1 hlt hso => ?_⟩
  · rcases List.cons_eq_append_iff.mp hl with ⟨_, h2⟩ | ⟨l1', _, h3⟩
    · cases h2; exact absurd rfl (he r2 b v)
    · exact P.log r1 r2 b v l1' l2 hlt hso hdur h3
  · have := P.wait v todo h c hc hdur r1 hlt hso
    rwa [show calls r1 c.br s.log = calls r1 c.br (e :: s.log) by rw [calls_cons, isInv_false he]; rfl] at this

theorem PInv.setColls {s : State} (P : PInv s) (cs) : PInv { s with colls := cs } :=
  P.same s.stack cs (fun _ _ h => h)

theorem PInv_newProm {s : State} (I : Inv s) (P : PInv s) (o) : PInv (newProm o s) := by
  refine P.grow I (ex := []) (ex' := []) (List.append_nil _).symm (List.append_nil _).symm rfl rfl ?_ (fun _ _ h => .inl h)
  intro p pr h b
  rcases getElem?_snoc_eq_some.mp h with h | ⟨_, rfl⟩
  · exact P.heap p pr h b
  · rw [pick_empty]; exact List.Pairwise.nil

theorem PInv_settle {s : State} (I : Inv s) (P : PInv s) (b q v) : PInv (settle b q v s) := by
  rcases settle_cases b q v s with e | ⟨pr, hq, hpend, e⟩
  · rw [e]; exact P
  rw [e]
  refine P.grow I (ex := []) (ex' := []) (List.append_nil _).symm (List.append_nil _).symm rfl rfl ?_ ?_
  · intro p pr' hp b'
    rcases (set_lookup (lt_of_getElem? hq)).mp hp with ⟨rfl, rfl⟩ | ⟨_, hp⟩
    · cases b' <;> exact List.Pairwise.nil
    · exact P.heap p pr' hp b'
  · intro v' todo h
    refine (List.mem_cons.mp h).symm.imp_right fun h => ?_
    cases h
    refine ⟨P.heap q pr hq b, fun c hc hdur r1 hlt hso => ?_⟩
    obtain ⟨hbr, hown⟩ := I.owner q pr hq b c hc
    obtain ⟨p', h1, h2⟩ := hso
    rw [hown] at h2; cases h2
    have := (I.acct r1 q pr h1 hq).1 hpend
    have hcnt : cnt r1 b (pick b pr) = 1 := by cases b <;> simp [pick, this.1, this.2]
    obtain ⟨c1, hc1, h3, h4⟩ := exists_of_cnt_pos (by omega : 0 < cnt r1 b (pick b pr))
    exact .inl ⟨c1, hc1, h3, by rw [h4, hbr]⟩

theorem waiting_false {s : State} {p} (h : waiting p s = false) :
    ∀ v todo, Frame.notify v todo ∈ s.stack → ∀ c ∈ todo, s.regs[c.rid]? ≠ some p := by
  intro v todo hm c hc heq
  unfold waiting at h
  rw [List.any_eq_false] at h
  have := h _ hm
  simp only [List.any_eq_true, not_exists, not_and, beq_iff_eq] at this
  exact this c hc (by simp [heq])

theorem PInv_thenOp {s : State} (I : Inv s) (P : PInv s) (p r j) : PInv (thenOp p r j s) := by
  cases hp : s.heap[p]? with
  | none => rw [thenOp_bad (by simpa using hp)]; exact P.emit _ nofun
  | some pr =>
  have hplt : p < s.heap.length := lt_of_getElem? hp
  rw [thenOp_eq hp]
  -- the new callback carries the largest registration number so far
  have hnew : ∀ b, (pick b pr ++ [newCb s r j b]).Pairwise RidLt := fun b =>
    List.pairwise_append.mpr ⟨P.heap _ pr hp b, List.pairwise_singleton .., fun x hx y hy => by
      cases List.mem_singleton.mp hy
      exact lt_of_getElem? (I.owner _ pr hp b x hx).2⟩
  refine P.grow I (ex := [p]) (ex' := [waiting p s]) rfl rfl rfl rfl ?_ ?_
  · intro p' pr' hp' b'
    rcases (heap_then_lookup hplt).mp hp' with ⟨rfl, rfl⟩ | ⟨_, hp'⟩ | ⟨rfl, rfl⟩
    · rcases Prom.pick_attach pr (newCb s r j) b' with e | e <;> rw [e]
      · exact hnew b'
      · exact List.Pairwise.nil
    · exact P.heap p' pr' hp' b'
    · rw [pick_empty]; exact List.Pairwise.nil
  · intro v' todo h
    refine (List.mem_append.mp h).symm.imp_right fun h => ?_
    obtain ⟨b, v, hst, e⟩ := Prom.mem_fire h
    cases e
    refine ⟨hnew b, fun c hc hdur r1 hlt hso => .inr ?_⟩
    -- the lists of a settled promise are empty, so `c` is the new callback; it is unflagged: no loop has callbacks
    -- of `p` waiting, so the earlier ones have run
    have hpick : pick b pr = [] := by
      obtain ⟨h1, h2⟩ := I.clean p pr b v' hp hst
      cases b
      · exact h1
      · exact h2
    rw [hpick] at hc
    cases List.mem_singleton.mp hc
    simp only [newCb, mkCb_rid, mkCb_br] at hdur hlt hso ⊢
    have hw : waiting p s = false := by
      rw [← P.dlen, List.getElem?_concat_length] at hdur
      exact Option.some.inj hdur
    obtain ⟨p', h1, h2⟩ := hso
    rw [List.getElem?_concat_length] at h2
    cases h2
    have h1' : s.regs[r1]? = some p := by rw [← List.getElem?_append_left hlt]; exact h1
    have hacct := (I.acct r1 p pr h1' hp).2 b v' hst
    have hz : stackCnt r1 b s.stack = 0 := by
      apply stackCnt_zero_of
      intro v'' todo' hm c' hc' ⟨hr, _⟩
      exact waiting_false hw v'' todo' hm c' hc' (by rw [hr]; exact h1')
    omega

theorem PInv.invoked {s : State} (I : Inv s) (P : PInv s) {v c todo stk} (hs : s.stack = .notify v (c :: todo) :: stk) :
    PInv (invoked s v c todo stk) := by
  have hzero := I.head_uncalled hs
  have hmem : Frame.notify v (c :: todo) ∈ s.stack := by rw [hs]; exact List.mem_cons_self ..
  have hsorted := P.frames v (c :: todo) hmem
  rw [List.pairwise_cons] at hsorted
  refine ⟨P.dlen, P.heap, ?_, ?_, ?_⟩
  · intro v' todo' h
    simp only [Promise.invoked, List.mem_cons] at h
    rcases h with h | h
    · cases h; exact hsorted.2
    · exact P.frames v' todo' (by rw [hs]; exact List.mem_cons_of_mem _ h)
  · intro r1 r2 b v' l1 l2 hlt hso hdur hl
    rcases List.cons_eq_append_iff.mp (show Event.invoke c.rid c.br v :: s.log = l1 ++ Event.invoke r2 b v' :: l2 from hl) with
      ⟨_, h2⟩ | ⟨l1', _, h3⟩
    · cases h2
      -- `c` heads a loop that is in order, so an earlier registration is not waiting behind it: it has run
      rcases P.wait v (c :: todo) hmem c (List.mem_cons_self ..) hdur r1 hlt hso with ⟨c1, hc1, h4, _⟩ | h
      · rcases List.mem_cons.mp hc1 with rfl | hc1
        · omega
        · have : RidLt c c1 := hsorted.1 c1 hc1
          unfold RidLt at this; omega
      · exact h
    · exact P.log r1 r2 b v' l1' l2 hlt hso hdur h3
  · intro v' todo' h c' hc' hdur r1 hlt hso
    rw [calls_invoked]
    -- the loop this entry was in before the step
    have hold : ∃ todo0, Frame.notify v' todo0 ∈ s.stack ∧ c' ∈ todo0 ∧
        ∀ c1 ∈ todo0, c1 ∈ todo' ∨ c1 = c := by
      simp only [Promise.invoked, List.mem_cons] at h
      rcases h with h | h
      · cases h
        exact ⟨c :: todo, hmem, List.mem_cons_of_mem _ hc', fun c1 h1 => by
          rcases List.mem_cons.mp h1 with h1 | h1
          · exact .inr h1
          · exact .inl h1⟩
      · exact ⟨todo', by rw [hs]; exact List.mem_cons_of_mem _ h, hc', fun c1 h1 => .inl h1⟩
    obtain ⟨todo0, hm0, hc0, hsub⟩ := hold
    rcases P.wait v' todo0 hm0 c' hc0 hdur r1 hlt hso with ⟨c1, hc1, h4, h5⟩ | hcall
    · rcases hsub c1 hc1 with h | rfl
      · exact .inl ⟨c1, h, h4, h5⟩
      · right
        have := hzero c'.br
        rw [← h4, ← h5] at *
        simp [hzero]
    · right
      by_cases he : c.rid = r1 ∧ c.br = c'.br
      · have := hzero c'.br
        rw [he.1] at this; omega
      · simp [he]; exact hcall

/-- `PInv` is preserved only where `Inv` holds, so the two go through `Stable` as one predicate -/
structure IP (s : State) : Prop where
  i : Inv s
  p : PInv s

theorem IP.stable : Stable IP where
  settle b q v A := ⟨Inv_settle A.i b q v, PInv_settle A.i A.p b q v⟩
  thenOp p r j A := ⟨Inv_thenOp A.i p r j, PInv_thenOp A.i A.p p r j⟩
  newProm o A := ⟨Inv_newProm A.i o, PInv_newProm A.i A.p o⟩
  push f hf A := ⟨A.i.push f hf, A.p.push f hf⟩
  emit e he A := ⟨A.i.emit e he, A.p.emit e he⟩
  pop hs hf A := ⟨A.i.pop hs hf, A.p.pop hs⟩
  invoked hs A := ⟨A.i.invoked hs, A.p.invoked A.i hs⟩
  setColl _ _ _ _ _ A := ⟨A.i.setColls _, A.p.setColls _⟩
  addColl _ A := ⟨A.i.setColls _, A.p.setColls _⟩

theorem IP_init : IP init :=
  ⟨Inv_init, rfl, fun _ _ h => absurd h init_heap, fun _ _ h => absurd h init_stack, nofun, fun _ _ h => absurd h init_stack⟩

theorem Reach.pinv {s : State} (h : Reach s) : PInv s := (IP.stable.evolves h IP_init).p

end RedunModel.Promise
