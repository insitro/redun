/-
Lemmas about `RedunModel.Model.Db` shared by C03 / C22 / C23.

Queries: what a hit of `_get_call_node` says (`getCallNode_spec`, `nodeCurrent_spec`).
Row operations: none removes a row or rewrites a key column, so what can be referenced stays so (`Mono a b`); `G db` =
the CallNode, CallEdge and CallSubtreeTask tables, untouched by rows outside them (`G_applyOps`).
Sessions: an operation is a run of `add` / `addAll` / `commit` steps, and every commit is a state a crash can leave
behind.  `Ext P s s'` says `P` of what `s'` sees and of every durable state `s'` has logged and `s` had not; adding
rows (given `P` of the new view) and committing keep it, and it composes.  Once nothing is pending in `s'` it gives
`OpOK P s s'`.  Its instances: `P := Frame d0` (the call-graph tables of `d0`, and `Mono d0`), which with "clean stays
clean" is `Framed s s'` and holds of `record_value` and everything built from it; `P := CallNodeSnap v a d0` (or
`CallNodeBare`) for `record_call_node`, which does write to the call graph: `recordCallNode_shapes` lists the shapes
its durable states can have; and, in `DbFk`, `P := Grow d0`.  `DedupLoop`: the skip-what-was-seen loops of
`_record_subvalues` and `put_records`, with their two facts proved once.  `put_records` is one batch:
`putRecords_of_nil` / `putRecords_of_ne`.  The call graph itself (reachability, `SubtreeInv`, `GraphExt`) is in
`Lemmas/DbGraph`.
-/
import RedunModel.Model.Db
namespace RedunModel.Db

theorem pickNewest_mem : ∀ {l : List NodeRow} {n : NodeRow}, pickNewest l = some n → n ∈ l
  | a :: rest, n, h => by
    unfold pickNewest at h
    split at h
    · cases h; exact List.mem_cons_self
    · split at h <;> cases h
      · exact List.mem_cons_of_mem _ (pickNewest_mem ‹_›)
      · exact List.mem_cons_self

theorem forall_mem_nil {α} {p : α → Prop} : ∀ x ∈ ([] : List α), p x := nofun

theorem forall_mem_snoc {α} {p : α → Prop} {l : List α} {a : α} (h : ∀ x ∈ l, p x) (ha : p a) :
    ∀ x ∈ l ++ [a], p x :=
  List.forall_mem_append.2 ⟨h, List.forall_mem_singleton.2 ha⟩

theorem ite_both {α} {P : α → Prop} {c : Prop} [Decidable c] {a b : α} (ha : P a) (hb : P b) :
    P (if c then a else b) := by
  split <;> assumption

theorem nodeCurrent_spec {v : Variant} {db : Db} {reg : List H} {n : NodeRow} (h : nodeCurrent v db reg n = true) :
    (v.emptyNotCurrent = true → subtreeOf db n.call ≠ []) ∧ ∀ t ∈ subtreeOf db n.call, t ∈ reg := by
  simp only [nodeCurrent, Bool.and_eq_true, Bool.or_eq_true, Bool.not_eq_true', List.all_eq_true,
    List.contains_iff_mem] at h
  refine ⟨fun he hnil => ?_, h.2⟩
  rw [he, hnil] at h
  exact absurd h.1 (by decide)

theorem getCallNode_spec {v : Variant} {db : Db} {t a : H} {reg : List H} {n : NodeRow}
    (h : getCallNode v db t a reg = some n) :
    n ∈ db.nodes ∧ n.task = t ∧ n.args = a ∧ nodeCurrent v db reg n = true := by
  have hm := pickNewest_mem h
  simp only [List.mem_filter, Bool.and_eq_true, beq_iff_eq] at hm
  exact ⟨hm.1.1, hm.1.2.1, hm.1.2.2, hm.2⟩

/-- the call-graph part of the tables -/
def G (db : Db) : List NodeRow × List EdgeRow × List SubRow := (db.nodes, db.edges, db.subtree)

theorem G_eq {a : Db} {ns : List NodeRow} {es : List EdgeRow} {ss : List SubRow} (h : G a = (ns, es, ss)) :
    a.nodes = ns ∧ a.edges = es ∧ a.subtree = ss := by
  simp only [G, Prod.mk.injEq] at h; exact h

def nodeOf : RowOp → Option NodeRow | .node r => some r | _ => none

def edgeOf : RowOp → Option EdgeRow | .edge r => some r | _ => none

def subOf : RowOp → Option SubRow | .sub r => some r | _ => none

def valueOf : RowOp → Option ValueRow | .value r => some r | _ => none

theorem applyOps_cons (db : Db) (op : RowOp) (rest : List RowOp) :
    applyOps db (op :: rest) = applyOps (applyOp db op) rest := rfl

theorem applyOps_append (db : Db) (a b : List RowOp) : applyOps db (a ++ b) = applyOps (applyOps db a) b :=
  List.foldl_append

theorem applyOps_proj {α} (f : Db → List α) (g : RowOp → Option α)
    (h : ∀ db op, f (applyOp db op) = match g op with | some x => f db ++ [x] | none => f db) (db : Db)
    (ops : List RowOp) : f (applyOps db ops) = f db ++ ops.filterMap g := by
  induction ops generalizing db with
  | nil => exact (List.append_nil _).symm
  | cons op rest ih =>
    rw [applyOps_cons, ih, h, List.filterMap_cons]
    cases g op
    · rfl
    · exact List.append_assoc ..

theorem applyOps_nodes (db : Db) (ops : List RowOp) : (applyOps db ops).nodes = db.nodes ++ ops.filterMap nodeOf :=
  applyOps_proj (·.nodes) nodeOf (fun _ op => by cases op <;> rfl) db ops

theorem applyOps_edges (db : Db) (ops : List RowOp) : (applyOps db ops).edges = db.edges ++ ops.filterMap edgeOf :=
  applyOps_proj (·.edges) edgeOf (fun _ op => by cases op <;> rfl) db ops

theorem applyOps_subtree (db : Db) (ops : List RowOp) : (applyOps db ops).subtree = db.subtree ++ ops.filterMap subOf :=
  applyOps_proj (·.subtree) subOf (fun _ op => by cases op <;> rfl) db ops

theorem applyOps_values (db : Db) (ops : List RowOp) : (applyOps db ops).values = db.values ++ ops.filterMap valueOf :=
  applyOps_proj (·.values) valueOf (fun _ op => by cases op <;> rfl) db ops

theorem G_applyOp_value (db : Db) (r : ValueRow) : G (applyOp db (.value r)) = G db := rfl

def inGraph : RowOp → Bool
  | .node _ | .edge _ | .sub _ => true
  | _ => false

theorem G_applyOps {db : Db} {ops : List RowOp} (h : ∀ op ∈ ops, inGraph op = false) : G (applyOps db ops) = G db := by
  induction ops generalizing db with
  | nil => rfl
  | cons op rest ih =>
    rw [applyOps_cons, ih fun o ho => h o (List.mem_cons_of_mem _ ho)]
    have := h op List.mem_cons_self
    cases op <;> first | rfl | cases this

/-- everything that can be referenced in `a` can be referenced in `b` -/
structure Mono (a b : Db) : Prop where
  values : ∀ h, hasValue a h = true → hasValue b h = true
  tasks : ∀ t, a.tasks.contains t = true → b.tasks.contains t = true
  nodes : ∀ c, hasNode a c = true → hasNode b c = true
  jobs : ∀ j, hasJob a j = true → hasJob b j = true
  execs : ∀ e, hasExec a e = true → hasExec b e = true
  tags : ∀ t, hasTag a t = true → hasTag b t = true
  args : ∀ c s, a.args.any (fun x => x.call == c && x.slot == s) = true →
    b.args.any (fun x => x.call == c && x.slot == s) = true

theorem Mono.refl (a : Db) : Mono a a := ⟨fun _ h => h, fun _ h => h, fun _ h => h, fun _ h => h, fun _ h => h, fun _ h => h, fun _ _ h => h⟩

theorem Mono.trans {a b c : Db} (h1 : Mono a b) (h2 : Mono b c) : Mono a c :=
  ⟨fun x h => h2.values x (h1.values x h), fun x h => h2.tasks x (h1.tasks x h), fun x h => h2.nodes x (h1.nodes x h),
   fun x h => h2.jobs x (h1.jobs x h), fun x h => h2.execs x (h1.execs x h), fun x h => h2.tags x (h1.tags x h),
   fun x y h => h2.args x y (h1.args x y h)⟩

theorem any_snoc {α} {p : α → Bool} {l : List α} (a : α) (h : l.any p = true) : (l ++ [a]).any p = true := by
  rw [List.any_append, h, Bool.true_or]

theorem any_snoc_self {α} {p : α → Bool} (l : List α) {a : α} (h : p a = true) : (l ++ [a]).any p = true := by
  rw [List.any_append, List.any_cons, h, Bool.true_or, Bool.or_true]

theorem any_map_of_any {α} {p : α → Bool} {f : α → α} (hf : ∀ x, p (f x) = p x) {l : List α}
    (h : l.any p = true) : (l.map f).any p = true := by
  rw [List.any_map, ← h]; congr 1; funext x; exact hf x

theorem mono_applyOp (db : Db) (op : RowOp) : Mono db (applyOp db op) := by
  cases op with
  | value r => exact { Mono.refl db with values := fun _ => any_snoc r }
  | task t =>
    exact { Mono.refl db with
      tasks := fun _ h => List.contains_iff_mem.2 (List.mem_append_left _ (List.contains_iff_mem.1 h)) }
  | node r => exact { Mono.refl db with nodes := fun _ => any_snoc r }
  | arg r => exact { Mono.refl db with args := fun _ _ => any_snoc r }
  | job r => exact { Mono.refl db with jobs := fun _ => any_snoc r }
  | exec r => exact { Mono.refl db with execs := fun _ => any_snoc r }
  | tag r => exact { Mono.refl db with tags := fun _ => any_snoc r }
  | jobEnd id c cached => exact { Mono.refl db with jobs := fun _ => any_map_of_any fun x => by split <;> rfl }
  | tagStale t => exact { Mono.refl db with tags := fun _ => any_map_of_any fun x => by split <;> rfl }
  -- the other operations write to tables `Mono` does not read: `Mono.refl`, field by field, up to unfolding `applyOp`
  | _ => exact { Mono.refl db with }

theorem mono_applyOps (db : Db) (ops : List RowOp) : Mono db (applyOps db ops) := by
  induction ops generalizing db with
  | nil => exact Mono.refl db
  | cons op rest ih => exact (mono_applyOp db op).trans (ih _)

theorem mono_of_mem {db : Db} {ops : List RowOp} {op : RowOp} (h : op ∈ ops) :
    ∃ d, Mono (applyOp d op) (applyOps db ops) := by
  induction ops generalizing db with
  | nil => cases h
  | cons o rest ih =>
    rcases List.mem_cons.1 h with rfl | h
    · exact ⟨db, mono_applyOps _ rest⟩
    · exact ih h

theorem has_of_mem_ops {db : Db} {ops : List RowOp} {op : RowOp} (h : op ∈ ops) :
    match op with
    | .value r => hasValue (applyOps db ops) r.hash = true
    | .task t => (applyOps db ops).tasks.contains t = true
    | .node n => hasNode (applyOps db ops) n.call = true
    | .job j => hasJob (applyOps db ops) j.id = true
    | .exec e => hasExec (applyOps db ops) e.id = true
    | .tag t => hasTag (applyOps db ops) t.tag = true
    | .arg a => (applyOps db ops).args.any (fun x => x.call == a.call && x.slot == a.slot) = true
    | _ => True := by
  obtain ⟨d, m⟩ := mono_of_mem h
  cases op with
  | value r => exact m.values _ (any_snoc_self d.values (beq_self_eq_true _))
  | task t => exact m.tasks _ (List.contains_iff_mem.2 (List.mem_append_right _ List.mem_cons_self))
  | node n => exact m.nodes _ (any_snoc_self d.nodes (beq_self_eq_true _))
  | job j => exact m.jobs _ (any_snoc_self d.jobs (beq_self_eq_true _))
  | exec e => exact m.execs _ (any_snoc_self d.execs (beq_self_eq_true _))
  | tag t => exact m.tags _ (any_snoc_self d.tags (beq_self_eq_true _))
  | arg a => exact m.args _ _ (any_snoc_self d.args (by rw [beq_self_eq_true, beq_self_eq_true]; rfl))
  | _ => trivial

@[simp] theorem view_addAll (s : Sess) (ops : List RowOp) : (s.addAll ops).view = applyOps s.view ops :=
  List.foldl_append
@[simp] theorem view_add (s : Sess) (op : RowOp) : (s.add op).view = applyOp s.view op := view_addAll s [op]
@[simp] theorem view_commit (s : Sess) : s.commit.view = s.view := by
  unfold Sess.commit
  split
  · rfl
  · simp [Sess.view, applyOps]
@[simp] theorem pend_commit (s : Sess) : s.commit.pend = [] := by
  unfold Sess.commit
  split
  · rename_i h; simpa using h
  · rfl

theorem db_commit (s : Sess) : s.commit.db = s.view := by
  unfold Sess.commit
  split
  · rename_i h; simp at h; simp [Sess.view, h, applyOps]
  · rfl

theorem log_commit (s : Sess) : s.commit.log = s.log ∨ s.commit.log = s.log ++ [⟨s.view, s.pendingExecs⟩] := by
  unfold Sess.commit
  split
  · exact Or.inl rfl
  · exact Or.inr rfl
@[simp] theorem log_add (s : Sess) (op : RowOp) : (s.add op).log = s.log := rfl
@[simp] theorem log_addAll (s : Sess) (ops : List RowOp) : (s.addAll ops).log = s.log := rfl
theorem view_of_pend_nil (s : Sess) (h : s.pend = []) : s.view = s.db := by simp [Sess.view, h, applyOps]

theorem view_eq (s : Sess) : s.view = applyOps s.db s.pend := rfl

/-- what an operation started on a clean session leaves behind: a clean session, and every durable state it
added (every crash point) satisfies `P` -/
def OpOK (P : Db → Prop) (s s' : Sess) : Prop :=
  s'.pend = [] ∧ P s'.db ∧ ∀ snap ∈ s'.log, snap ∈ s.log ∨ P snap.db

theorem OpOK.durable {P : Db → Prop} {s s' : Sess} {d : Db} (h : OpOK P s s') (hs : s.log = [])
    (hd : d = s'.db ∨ d ∈ s'.log.map (·.db)) : P d := by
  rcases hd with rfl | hd
  · exact h.2.1
  · obtain ⟨snap, hsn, rfl⟩ := List.mem_map.1 hd
    exact (h.2.2 snap hsn).resolve_left (by rw [hs]; exact List.not_mem_nil)

/-- The same for a session that may have rows pending, before and after: what `s'` sees, and every durable state
it has and `s` had not, satisfies `P`.  Adding rows keeps the second half as it is; a commit makes what the
session sees durable. -/
def Ext (P : Db → Prop) (s s' : Sess) : Prop := P s'.view ∧ ∀ snap ∈ s'.log, snap ∈ s.log ∨ P snap.db

theorem Ext.refl {P : Db → Prop} {s : Sess} (h : P s.view) : Ext P s s := ⟨h, fun _ hs => Or.inl hs⟩

theorem Ext.trans {P : Db → Prop} {a b c : Sess} (h1 : Ext P a b) (h2 : Ext P b c) : Ext P a c :=
  ⟨h2.1, fun snap hs => (h2.2 snap hs).elim (h1.2 snap) Or.inr⟩

theorem Ext.mono {P Q : Db → Prop} {s s' : Sess} (h : Ext P s s') (hpq : ∀ d, P d → Q d) : Ext Q s s' :=
  ⟨hpq _ h.1, fun snap hs => (h.2 snap hs).imp_right (hpq _)⟩

theorem Ext.addAll {P : Db → Prop} {s s' : Sess} {ops : List RowOp} (h : Ext P s s')
    (hP : P (applyOps s'.view ops)) : Ext P s (s'.addAll ops) :=
  ⟨by rw [view_addAll]; exact hP, h.2⟩

theorem Ext.commit {P : Db → Prop} {s s' : Sess} (h : Ext P s s') : Ext P s s'.commit := by
  refine ⟨by rw [view_commit]; exact h.1, fun snap hs => ?_⟩
  rcases log_commit s' with hl | hl <;> rw [hl] at hs
  · exact h.2 snap hs
  · rcases List.mem_append.1 hs with hs | hs
    · exact h.2 snap hs
    · rw [List.mem_singleton.1 hs]; exact Or.inr h.1

theorem Ext.opOK {P : Db → Prop} {s s' : Sess} (h : Ext P s s') (hp : s'.pend = []) : OpOK P s s' :=
  ⟨hp, view_of_pend_nil s' hp ▸ h.1, h.2⟩

def Frame (d0 d : Db) : Prop := G d = G d0 ∧ Mono d0 d

theorem Frame.refl (d : Db) : Frame d d := ⟨rfl, Mono.refl d⟩

theorem Frame.trans {a b c : Db} (h1 : Frame a b) (h2 : Frame b c) : Frame a c :=
  ⟨h2.1.trans h1.1, h1.2.trans h2.2⟩

theorem Ext.frame_trans {a b c : Sess} (h1 : Ext (Frame a.view) a b) (h2 : Ext (Frame b.view) b c) :
    Ext (Frame a.view) a c :=
  h1.trans (h2.mono fun _ => h1.1.trans)

theorem Ext.addFree {d0 : Db} {s s' : Sess} {ops : List RowOp} (h : Ext (Frame d0) s s')
    (hf : ∀ op ∈ ops, inGraph op = false) : Ext (Frame d0) s (s'.addAll ops) :=
  h.addAll ⟨(G_applyOps hf).trans h.1.1, h.1.2.trans (mono_applyOps _ _)⟩

theorem Ext.addFree1 {d0 : Db} {s s' : Sess} {op : RowOp} (h : Ext (Frame d0) s s') (hf : inGraph op = false) :
    Ext (Frame d0) s (s'.add op) :=
  h.addFree (ops := [op]) (List.forall_mem_singleton.2 hf)

/-- `record_value` and the operations built from it: every durable state they add, and what the session sees
afterwards, extends what the session saw at the call by rows outside the call-graph tables; a clean session is
left clean. -/
def Framed (s s' : Sess) : Prop := Ext (Frame s.view) s s' ∧ (s.pend = [] → s'.pend = [])

theorem Framed.refl (s : Sess) : Framed s s := ⟨.refl (.refl _), id⟩

theorem Framed.trans {a b c : Sess} (h1 : Framed a b) (h2 : Framed b c) : Framed a c :=
  ⟨h1.1.frame_trans h2.1, fun hp => h2.2 (h1.2 hp)⟩

theorem Framed.commit {s s' : Sess} (h : Ext (Frame s.view) s s') : Framed s s'.commit :=
  ⟨h.commit, fun _ => pend_commit s'⟩

theorem Framed.step (s : Sess) {ops : List RowOp} (hf : ∀ op ∈ ops, inGraph op = false) :
    Framed s (s.addAll ops).commit :=
  .commit ((Ext.refl (.refl _)).addFree hf)

theorem Framed.step1 (s : Sess) {op : RowOp} (hf : inGraph op = false) : Framed s (s.add op).commit :=
  .commit ((Ext.refl (.refl _)).addFree1 hf)

theorem Framed.opOK {s s' : Sess} (h : Framed s s') (hp : s.pend = []) : OpOK (Frame s.db) s s' :=
  view_of_pend_nil s hp ▸ h.1.opOK (h.2 hp)

theorem specialMissing_mem {db : Db} {r : ValueRow} {op : RowOp} (h : op ∈ specialMissing db r) :
    op = .task r.hash ∨ op = .file r.hash := by
  unfold specialMissing at h
  split at h
  · cases h
  · split at h
    · cases h
    · exact Or.inl (List.mem_singleton.1 h)
  · split at h
    · cases h
    · exact Or.inr (List.mem_singleton.1 h)

/-- the loop shape shared by `_record_subvalues` and `put_records`: walk a list, skip what is `old` or has the key of
an element emitted earlier in the walk, emit the rest -/
structure DedupLoop {α β} (f : List H → List α → List β) (key : α → H) (old : α → Bool) (emit : α → β) : Prop where
  nil : ∀ seen, f seen [] = []
  cons : ∀ seen x xs, f seen (x :: xs) =
    if (old x || seen.contains (key x)) = true then f seen xs else emit x :: f (seen ++ [key x]) xs

theorem DedupLoop.mem {α β} {f : List H → List α → List β} {key : α → H} {old : α → Bool} {emit : α → β}
    (L : DedupLoop f key old emit) {seen : List H} {xs : List α} {y : β} (h : y ∈ f seen xs) :
    ∃ x ∈ xs, old x = false ∧ y = emit x := by
  induction xs generalizing seen with
  | nil => rw [L.nil] at h; cases h
  | cons x rest ih =>
    rw [L.cons] at h
    split at h
    · exact (ih h).imp fun _ hx => ⟨List.mem_cons_of_mem _ hx.1, hx.2⟩
    · next hc =>
      rcases List.mem_cons.1 h with rfl | h
      · exact ⟨x, List.mem_cons_self, (Bool.or_eq_false_iff.1 (Bool.eq_false_iff.2 hc)).1, rfl⟩
      · exact (ih h).imp fun _ hx => ⟨List.mem_cons_of_mem _ hx.1, hx.2⟩

theorem DedupLoop.covers {α β} {f : List H → List α → List β} {key : α → H} {old : α → Bool} {emit : α → β}
    (L : DedupLoop f key old emit) {seen : List H} {xs : List α} {x : α} (hx : x ∈ xs) :
    old x = true ∨ seen.contains (key x) = true ∨ ∃ x', emit x' ∈ f seen xs ∧ key x' = key x := by
  induction xs generalizing seen with
  | nil => cases hx
  | cons a rest ih =>
    rw [L.cons]
    split
    · next hc =>
      rcases List.mem_cons.1 hx with rfl | hx
      · exact (Bool.or_eq_true_iff.1 hc).imp_right Or.inl
      · exact ih hx
    · rcases List.mem_cons.1 hx with rfl | hx
      · exact .inr (.inr ⟨x, List.mem_cons_self, rfl⟩)
      · refine (ih (seen := seen ++ [key a]) hx).imp_right fun h => ?_
        rcases h with h | ⟨x', hm, he⟩
        · -- seen before the walk, or it has the key of `a`
          rcases List.mem_append.1 (List.contains_iff_mem.1 h) with h | h
          · exact .inl (List.contains_iff_mem.2 h)
          · exact .inr ⟨a, List.mem_cons_self, (List.mem_singleton.1 h).symm⟩
        · exact .inr ⟨x', List.mem_cons_of_mem _ hm, he⟩

theorem newSubValues_loop (db : Db) : DedupLoop (newSubValues db) (·.hash) (fun r => hasValue db r.hash) .value :=
  ⟨fun _ => rfl, fun _ _ _ => rfl⟩

theorem newSubLinks_loop (db : Db) (parent : H) : DedupLoop (newSubLinks db parent) (·.hash)
    (fun r => db.subvalues.any fun l => l.child == r.hash && l.parent == parent) (fun r => .subvalue ⟨r.hash, parent⟩) :=
  ⟨fun _ => rfl, fun _ _ _ => rfl⟩

theorem newRecords_loop (db : Db) : DedupLoop (newRecords db) Rec.id (fun r => isRecordId db r.id) id :=
  ⟨fun _ => rfl, fun _ _ _ => rfl⟩

theorem subSpecialOps_mem {db : Db} {seenF seenT : List H} {subs : List ValueRow} {op : RowOp}
    (h : op ∈ subSpecialOps db seenF seenT subs) : ∃ r ∈ subs, op = .task r.hash ∨ op = .file r.hash := by
  induction subs generalizing seenF seenT with
  | nil => cases h
  | cons r rest ih =>
    have tl : ∀ {sF sT}, op ∈ subSpecialOps db sF sT rest → ∃ x ∈ r :: rest, op = .task x.hash ∨ op = .file x.hash :=
      fun h => let ⟨x, hx, he⟩ := ih h; ⟨x, List.mem_cons_of_mem _ hx, he⟩
    simp only [subSpecialOps] at h
    split at h
    · exact tl h
    · split at h
      · exact tl h
      · rcases List.mem_cons.1 h with h | h
        · exact ⟨r, List.mem_cons_self, Or.inl h⟩
        · exact tl h
    · split at h
      · exact tl h
      · rcases List.mem_cons.1 h with h | h
        · exact ⟨r, List.mem_cons_self, Or.inr h⟩
        · exact tl h

/-- `valueOps` in one piece (without subvalues the last two segments are empty), with the states its queries saw -/
theorem valueOps_eq (db : Db) (x : ValueSpec) : ∃ d1 d2 d3 : Db,
    valueOps db x = [RowOp.value x.row] ++ specialMissing d1 x.row ++
      (newSubValues d2 [] x.subs ++ newSubLinks d2 x.row.hash [] x.subs) ++ subSpecialOps d3 [] [] x.subs ∧
    Mono d1 (applyOps db (valueOps db x)) ∧ Mono d2 (applyOps db (valueOps db x)) ∧
    Mono d3 (applyOps db (valueOps db x)) := by
  let d1 := applyOps db [.value x.row]
  let d2 := applyOps d1 (specialMissing d1 x.row)
  let o3 := newSubValues d2 [] x.subs ++ newSubLinks d2 x.row.hash [] x.subs
  have heq : valueOps db x = [RowOp.value x.row] ++ specialMissing d1 x.row ++ o3 ++
      subSpecialOps (applyOps d2 o3) [] [] x.subs := by
    unfold valueOps
    split
    · rename_i h
      simp [o3, d1, List.isEmpty_iff.1 h, newSubValues, newSubLinks, subSpecialOps]
    · rfl
  refine ⟨d1, d2, applyOps d2 o3, heq, ?_⟩
  rw [heq]
  simp only [applyOps_append]
  exact ⟨(mono_applyOps _ _).trans ((mono_applyOps _ _).trans (mono_applyOps _ _)),
    (mono_applyOps _ _).trans (mono_applyOps _ _), mono_applyOps _ _⟩

theorem valueOps_mem {db : Db} {x : ValueSpec} {op : RowOp} (h : op ∈ valueOps db x) :
    (op = .value x.row ∨ op = .task x.row.hash ∨ op = .file x.row.hash) ∨
    ∃ r ∈ x.subs, op = .value r ∨ op = .subvalue ⟨r.hash, x.row.hash⟩ ∨ op = .task r.hash ∨ op = .file r.hash := by
  obtain ⟨d1, d2, d3, heq, -⟩ := valueOps_eq db x
  rw [heq] at h
  simp only [List.mem_append, List.mem_singleton] at h
  rcases h with ((h | h) | h | h) | h
  · exact Or.inl (Or.inl h)
  · exact Or.inl (Or.inr (specialMissing_mem h))
  · exact Or.inr (((newSubValues_loop _).mem h).imp fun _ hr => ⟨hr.1, Or.inl hr.2.2⟩)
  · exact Or.inr (((newSubLinks_loop _ _).mem h).imp fun _ hr => ⟨hr.1, Or.inr (Or.inl hr.2.2)⟩)
  · exact Or.inr ((subSpecialOps_mem h).imp fun _ hr => ⟨hr.1, Or.inr (Or.inr hr.2)⟩)

theorem valueOps_has (db : Db) (x : ValueSpec) : RowOp.value x.row ∈ valueOps db x := by
  obtain ⟨d1, d2, d3, heq, -⟩ := valueOps_eq db x
  rw [heq]; simp

theorem specialMissing_free (db : Db) (r : ValueRow) : ∀ op ∈ specialMissing db r, inGraph op = false :=
  fun _ h => by rcases specialMissing_mem h with rfl | rfl <;> rfl

theorem valueOps_free (db : Db) (x : ValueSpec) : ∀ op ∈ valueOps db x, inGraph op = false := fun _ h => by
  rcases valueOps_mem h with (rfl | rfl | rfl) | ⟨r, -, rfl | rfl | rfl | rfl⟩ <;> rfl

theorem recordValueCore_frame (v : Variant) (r : ValueRow) (s : Sess) : Framed s (recordValueCore v r s) := by
  unfold recordValueCore
  split
  · exact .commit (((Ext.refl (.refl _)).addFree1 rfl).addFree (specialMissing_free _ r))
  · exact (Framed.step1 s rfl).trans (.step _ (specialMissing_free _ r))

theorem recordSubvalues_frame (parent : H) (subs : List ValueRow) (s : Sess) :
    Framed s (recordSubvalues parent subs s) := by
  unfold recordSubvalues
  split
  · exact .refl s
  · refine (Framed.step s ?_).trans (.step _ fun _ h => ?_)
    · intro op h
      rcases List.mem_append.1 h with h | h
      · obtain ⟨_, -, -, rfl⟩ := (newSubValues_loop _).mem h; rfl
      · obtain ⟨_, -, -, rfl⟩ := (newSubLinks_loop _ _).mem h; rfl
    · obtain ⟨_, -, rfl | rfl⟩ := subSpecialOps_mem h <;> rfl

theorem recordValue_frame (v : Variant) (x : ValueSpec) (s : Sess) : Framed s (recordValue v x s) := by
  unfold recordValue
  split
  · exact .refl s
  · split
    · exact .step s (valueOps_free _ x)
    · exact (recordValueCore_frame v x.row s).trans (recordSubvalues_frame _ _ _)

theorem recordValues_frame (v : Variant) (rs : List ValueSpec) (s : Sess) : Framed s (recordValues v rs s) := by
  induction rs generalizing s with
  | nil => exact .refl s
  | cons r rest ih => exact (recordValue_frame v r s).trans (ih _)

theorem recordValueCore_has (v : Variant) (r : ValueRow) (s : Sess) :
    hasValue (recordValueCore v r s).view r.hash = true := by
  unfold recordValueCore
  split <;> simp only [view_commit, view_addAll, view_add] <;>
    exact (mono_applyOps _ _).values _ (has_of_mem_ops (ops := [.value r]) List.mem_cons_self)

theorem recordValue_has (v : Variant) (x : ValueSpec) (s : Sess) :
    hasValue (recordValue v x s).view x.row.hash = true := by
  unfold recordValue
  split
  · assumption
  · split
    · rw [view_commit, view_addAll]; exact has_of_mem_ops (valueOps_has _ x)
    · exact (recordSubvalues_frame _ _ _).1.1.2.values _ (recordValueCore_has v x.row s)

theorem setEvalCache_frame (v : Variant) (e : EvalRow) (val : ValueSpec) (s : Sess) :
    Framed s (setEvalCache v e val s) := by
  have h1 := recordValue_frame v val s
  unfold setEvalCache
  simp only
  split
  · split
    · exact h1
    · exact h1.trans (.step1 _ rfl)
  · exact h1.trans (.step1 _ rfl)

theorem recordJobEnd_frame (id : H) (call : Option H) (cached : Bool) (s : Sess) :
    Framed s (recordJobEnd id call cached s) :=
  .step1 s rfl

/-- the rows `record_job_start` adds after the task's value: a root job brings its Execution row -/
def jobStartOps (j : JobRow) (root : Bool) : List RowOp :=
  if root then [.exec ⟨j.exec, j.id⟩, .job j] else [.job j]

/-- `record_job_start`, where it succeeds, is `record_value` of the task, these rows and a commit: what it does to
`_executions` shows in no table, so `Ext P` of the former is `Ext P` of the latter, whatever `P` -/
theorem recordJobStart_ok {P : Db → Prop} {v : Variant} {j : JobRow} {root : Bool} {s s' : Sess}
    (hok : recordJobStart v j root s = .ok s')
    (h : Ext P s ((recordValue v ⟨⟨j.task, .task⟩, []⟩ s).addAll (jobStartOps j root))) :
    Ext P s s' ∧ s'.pend = [] := by
  simp only [recordJobStart] at hok
  generalize recordValue v ⟨⟨j.task, .task⟩, []⟩ s = s0 at hok h
  cases root with
  | false =>
    simp only [Bool.false_eq_true, if_false, Except.ok.injEq] at hok
    exact hok ▸ ⟨h.commit, pend_commit _⟩
  | true =>
    simp only [if_true] at hok
    by_cases hc : s0.pendingExecs.contains j.exec = true
    · rw [if_pos hc] at hok
      cases hok
      generalize hs1 : ite (v.execKeep = true) s0 _ = s1
      have hv1 : s1.view = s0.view ∧ s1.log = s0.log :=
        hs1 ▸ ite_both (P := fun s1 : Sess => s1.view = s0.view ∧ s1.log = s0.log) ⟨rfl, rfl⟩ ⟨rfl, rfl⟩
      have h2 : Ext P s ((s1.add (.exec ⟨j.exec, j.id⟩)).add (.job j)) :=
        ⟨by rw [view_add, view_add, hv1.1]; exact (view_addAll s0 (jobStartOps j true) ▸ h.1 :), hv1.2 ▸ h.2⟩
      exact ⟨h2.commit, pend_commit _⟩
    · rw [if_neg hc] at hok; cases hok

theorem recordJobStart_frame (v : Variant) (j : JobRow) (root : Bool) (s s' : Sess)
    (h : recordJobStart v j root s = .ok s') : Framed s s' :=
  have h2 := recordJobStart_ok h ((recordValue_frame v _ s).1.addFree (ops := jobStartOps j root)
    (by cases root <;> simp [jobStartOps, inGraph]))
  ⟨h2.1, fun _ => h2.2⟩

theorem recordArgs_frame (v : Variant) (c : H) (args : List ArgSpec) (s : Sess) :
    Ext (Frame s.view) s (recordArgs v c args s) := by
  induction args generalizing s with
  | nil => exact .refl (.refl _)
  | cons a rest ih =>
    refine Ext.frame_trans (((recordValue_frame v a.value s).1.addFree1 rfl).addFree ?_) (ih _)
    intro op h
    obtain ⟨_, -, rfl⟩ := List.mem_map.1 h; rfl

def edgeRows (db : Db) (c : H) (children : List H) : List EdgeRow :=
  (children.zipIdx.filter (fun p => hasNode db p.1)).map (fun p => ⟨c, p.1, p.2⟩)

theorem mem_edgeRows {db : Db} {c : H} {children : List H} {e : EdgeRow} (h : e ∈ edgeRows db c children) :
    e.parent = c ∧ e.child ∈ children ∧ hasNode db e.child = true := by
  simp only [edgeRows, List.mem_map, List.mem_filter] at h
  obtain ⟨p, ⟨hp, hn⟩, rfl⟩ := h
  refine ⟨rfl, ?_, hn⟩
  have := List.mem_zipIdx hp
  simp at this
  rw [this.2]; simp

theorem G_edgeOps (db d : Db) (c : H) (children : List H) :
    G (applyOps db (edgeOps d c children)) = ((G db).1, (G db).2.1 ++ edgeRows d c children, (G db).2.2) := by
  simp [G, applyOps_nodes, applyOps_edges, applyOps_subtree, edgeOps, edgeRows, List.filterMap_map,
    Function.comp_def, nodeOf, edgeOf, subOf]

theorem G_subOps (db : Db) (c : H) (S : List H) :
    G (applyOps db (subOps c S)) = ((G db).1, (G db).2.1, (G db).2.2 ++ S.map fun t => ⟨c, t⟩) := by
  simp [G, applyOps_nodes, applyOps_edges, applyOps_subtree, subOps, List.filterMap_map, Function.comp_def,
    nodeOf, edgeOf, subOf]

theorem G_nodeEdges {d0 db : Db} (hG : G db = G d0) (n : NodeRow) (children : List H) :
    G (applyOps (applyOp db (.node n)) (edgeOps (applyOp db (.node n)) n.call children)) =
      (d0.nodes ++ [n], d0.edges ++ edgeRows (applyOp d0 (.node n)) n.call children, d0.subtree) := by
  obtain ⟨h1, h2, h3⟩ := G_eq hG
  rw [G_edgeOps]
  simp only [G, applyOp, edgeRows, hasNode, h1, h2, h3]

/-- the shape of a durable state `record_call_node` may add to the log -/
def CallNodeSnap (v : Variant) (a : CallArgs) (db0 : Db) (d : Db) : Prop :=
  G d = G db0 ∨
  (hasNode db0 a.node.call = false ∧ d.nodes = db0.nodes ++ [a.node] ∧
    d.edges = db0.edges ++ edgeRows (applyOp db0 (.node a.node)) a.node.call a.children ∧
    d.subtree = db0.subtree ++ a.subtree.map (fun t => ⟨a.node.call, t⟩)) ∨
  (v.healSubtree = true ∧ hasNode db0 a.node.call = true ∧ subtreeOf db0 a.node.call = [] ∧
    d.nodes = db0.nodes ∧ d.edges = db0.edges ∧
    d.subtree = db0.subtree ++ a.subtree.map (fun t => ⟨a.node.call, t⟩))

/-- the durable state after an uninterrupted `record_call_node` -/
def CallNodeFinal (v : Variant) (a : CallArgs) (db0 : Db) (d : Db) : Prop :=
  (hasNode db0 a.node.call = false → d.nodes = db0.nodes ++ [a.node] ∧
    d.edges = db0.edges ++ edgeRows (applyOp db0 (.node a.node)) a.node.call a.children ∧
    d.subtree = db0.subtree ++ a.subtree.map (fun t => ⟨a.node.call, t⟩)) ∧
  (hasNode db0 a.node.call = true → (v.healSubtree = true ∧ subtreeOf db0 a.node.call = []) →
    d.nodes = db0.nodes ∧ d.edges = db0.edges ∧
    d.subtree = db0.subtree ++ a.subtree.map (fun t => ⟨a.node.call, t⟩)) ∧
  (hasNode db0 a.node.call = true → ¬ (v.healSubtree = true ∧ subtreeOf db0 a.node.call = []) → d = db0)

/-- a durable state of the unrepaired `record_call_node` between its commits: the node and its child edges are
there, its subtree rows are not (yet) -/
def CallNodeBare (a : CallArgs) (db0 d : Db) : Prop :=
  hasNode db0 a.node.call = false ∧ d.nodes = db0.nodes ++ [a.node] ∧
    d.edges = db0.edges ++ edgeRows (applyOp db0 (.node a.node)) a.node.call a.children ∧
    d.subtree = db0.subtree

/-- the last commit of an operation: `P` for what it makes durable, `Q` for the state it ends in -/
theorem Ext.lastCommit {P Q : Db → Prop} {s s' : Sess} (h : Ext P s s') (hQ : Q s'.view) :
    s'.commit.pend = [] ∧ (∀ snap ∈ s'.commit.log, snap ∈ s.log ∨ P snap.db) ∧ Q s'.commit.db :=
  ⟨pend_commit _, h.commit.2, db_commit s' ▸ hQ⟩

/-- `record_call_node` on a recorded call node, any variant: nothing, or (`healSubtree`) its missing subtree rows
in one commit. -/
theorem recordCallNode_old (v : Variant) (a : CallArgs) (s : Sess) (hp : s.pend = [])
    (hnode : hasNode s.db a.node.call = true) :
    (recordCallNode v a s).pend = [] ∧
    (∀ snap ∈ (recordCallNode v a s).log, snap ∈ s.log ∨ CallNodeSnap v a s.db snap.db) ∧
    CallNodeFinal v a s.db (recordCallNode v a s).db := by
  have hview := view_of_pend_nil s hp
  unfold recordCallNode
  simp only [hview, hnode, if_true]
  by_cases hheal : (v.healSubtree && (subtreeOf s.db a.node.call).isEmpty) = true
  · rw [if_pos hheal]
    simp only [Bool.and_eq_true, List.isEmpty_iff] at hheal
    have h1 := hview ▸ (recordValues_frame v (taskValues a.subtree) s).1
    generalize recordValues v (taskValues a.subtree) s = s1 at h1 ⊢
    have hshape := G_eq ((G_subOps s1.view a.node.call a.subtree).trans (by rw [h1.1.1]))
    refine Ext.lastCommit (Ext.addAll (h1.mono (Q := CallNodeSnap v a s.db) fun d hd => Or.inl hd.1)
        (Or.inr (Or.inr ⟨hheal.1, hnode, hheal.2, hshape⟩)))
      (view_addAll _ _ ▸ ⟨fun h => ?_, fun _ _ => hshape, fun _ h => absurd hheal h⟩)
    rw [hnode] at h; cases h
  · rw [if_neg hheal]
    simp only [Bool.and_eq_true, List.isEmpty_iff] at hheal
    exact ⟨hp, fun snap h => Or.inl h, fun h => (by rw [hnode] at h; cases h), fun _ h => absurd h hheal, fun _ _ => rfl⟩

/-- Repaired `record_call_node`: every durable state it can leave behind (any crash point) has either the old
call graph, or the old call graph plus the COMPLETE new node (node, child edges and subtree rows together), or, on
a recorded node, what `recordCallNode_old` says. -/
theorem recordCallNode_atomic (v : Variant) (hv : v.atomicCallNode = true) (a : CallArgs) (s : Sess)
    (hp : s.pend = []) :
    (recordCallNode v a s).pend = [] ∧
    (∀ snap ∈ (recordCallNode v a s).log, snap ∈ s.log ∨ CallNodeSnap v a s.db snap.db) ∧
    CallNodeFinal v a s.db (recordCallNode v a s).db := by
  cases hnode : hasNode s.db a.node.call with
  | true => exact recordCallNode_old v a s hp hnode
  | false =>
    unfold recordCallNode
    simp only [view_of_pend_nil s hp, hnode, hv, Bool.false_eq_true, if_false, if_true]
    -- the values first (`s2`)
    generalize hs2 : ite (a.children.any _ = true) _ _ = s2
    have h2 : Ext (Frame s.db) s s2 := view_of_pend_nil s hp ▸ hs2 ▸
      ((recordValues_frame v _ s).trans (ite_both (P := Framed _) (recordValues_frame v _ _) (.refl _))).1
    -- node, edges and subtree rows are pending (`s3`) when `_record_args` runs: whatever a nested `record_value`
    -- commits there already carries the complete node, as does the final commit
    generalize hs3 : Sess.addAll _ (subOps _ _) = s3
    have hshape : ∀ d, G d = G s3.view → d.nodes = s.db.nodes ++ [a.node] ∧
        d.edges = s.db.edges ++ edgeRows (applyOp s.db (.node a.node)) a.node.call a.children ∧
        d.subtree = s.db.subtree ++ a.subtree.map (fun t => ⟨a.node.call, t⟩) := by
      intro d hd
      simp only [← hs3, view_addAll, view_add] at hd
      rw [G_subOps, G_nodeEdges h2.1.1] at hd
      exact G_eq hd
    have h4 := recordArgs_frame v a.node.call a.args s3
    have h3 : Ext (CallNodeSnap v a s.db) s s3 :=
      ⟨Or.inr (Or.inl ⟨hnode, hshape _ rfl⟩), hs3 ▸ (h2.mono (Q := CallNodeSnap v a s.db) fun d hd => Or.inl hd.1).2⟩
    exact (h3.trans (h4.mono fun d hd => Or.inr (Or.inl ⟨hnode, hshape d hd.1⟩))).lastCommit
      (Q := CallNodeFinal v a s.db)
      ⟨fun _ => hshape _ h4.1.1, fun h => (by rw [hnode] at h; cases h), fun h => (by rw [hnode] at h; cases h)⟩

/-- **`record_call_node`, any variant**: every durable state it can leave behind has the old call graph, or the
new node with its edges but WITHOUT subtree rows (only the unrepaired code), or the complete new node, or the
healed node. -/
theorem recordCallNode_shapes (v : Variant) (a : CallArgs) (s : Sess) (hp : s.pend = []) :
    (recordCallNode v a s).pend = [] ∧
    (∀ snap ∈ (recordCallNode v a s).log, snap ∈ s.log ∨ CallNodeSnap v a s.db snap.db ∨ CallNodeBare a s.db snap.db) ∧
    CallNodeFinal v a s.db (recordCallNode v a s).db := by
  by_cases hold : v.atomicCallNode = true ∨ hasNode s.db a.node.call = true
  · have h := hold.elim (recordCallNode_atomic v · a s hp) (recordCallNode_old v a s hp)
    exact ⟨h.1, fun snap hm => (h.2.1 snap hm).imp_right Or.inl, h.2.2⟩
  · obtain ⟨hv, hnode⟩ := not_or.1 hold
    have hview := view_of_pend_nil s hp
    unfold recordCallNode
    simp only [hview, hnode, hv, Bool.false_eq_true, if_false]
    replace hnode := Bool.eq_false_iff.2 hnode
    -- the node and its edges are pending (`s2`) while `_record_args` runs: whatever that commits is bare
    generalize hs2 : Sess.addAll _ (edgeOps _ _ _) = s2
    have hG2 : G s2.view = (s.db.nodes ++ [a.node],
        s.db.edges ++ edgeRows (applyOp s.db (.node a.node)) a.node.call a.children, s.db.subtree) := by
      rw [← hs2, view_addAll, view_add, hview]; exact G_nodeEdges rfl _ _
    generalize hs5 : ite (a.children.any _ = true) _ _ = s5
    have h5 : Ext (Frame s2.view) s2 s5 := hs5 ▸ (recordArgs_frame v a.node.call a.args s2).commit.frame_trans
      (ite_both (P := Framed _) (recordValues_frame v (taskValues a.subtree) _) (.refl _)).1
    -- the last commit adds the subtree rows
    have hshape := G_eq ((G_subOps s5.view a.node.call a.subtree).trans (by rw [h5.1.1, hG2]))
    refine Ext.lastCommit (P := fun d => CallNodeSnap v a s.db d ∨ CallNodeBare a s.db d)
      ⟨view_addAll _ _ ▸ Or.inl (Or.inr (Or.inl ⟨hnode, hshape⟩)), fun snap hm => ?_⟩
      (view_addAll _ _ ▸ ⟨fun _ => hshape, fun h => (by rw [hnode] at h; cases h), fun h => (by rw [hnode] at h; cases h)⟩)
    exact (h5.2 snap hm).imp (fun h => by rw [← hs2] at h; exact h) fun h => Or.inr ⟨hnode, G_eq (h.1.trans hG2)⟩

theorem recOps_ne_nil (r : Rec) : recOps r ≠ [] := by cases r <;> exact List.cons_ne_nil _ _

theorem putRecords_of_nil {rs : List Rec} {s : Sess} (hp : s.pend = []) (h : newRecords s.db [] rs = []) :
    putRecords rs s = s := by
  have : s.addAll [] = s := by cases s; simp_all [Sess.addAll]
  rw [putRecords, view_of_pend_nil s hp, h, List.flatMap_nil, this, if_pos (by rw [hp]; rfl)]

theorem putRecords_of_ne {rs : List Rec} {s : Sess} (hp : s.pend = []) (h : newRecords s.db [] rs ≠ []) :
    (putRecords rs s).db = postprocessTags (applyOps s.db ((newRecords s.db [] rs).flatMap recOps)) ∧
    (putRecords rs s).pend = [] ∧ (putRecords rs s).log = s.log ++ [⟨(putRecords rs s).db, s.pendingExecs⟩] := by
  have hne : ((s.addAll ((newRecords s.db [] rs).flatMap recOps)).pend.isEmpty) = false := by
    obtain ⟨r, rest, hr⟩ := List.exists_cons_of_ne_nil h
    obtain ⟨op, ops, hops⟩ := List.exists_cons_of_ne_nil (recOps_ne_nil r)
    simp [Sess.addAll, hp, hr, hops]
  simp only [putRecords, view_of_pend_nil s hp, hne, view_addAll]
  exact ⟨rfl, rfl, rfl⟩

theorem putRecords_pend (rs : List Rec) (s : Sess) (hp : s.pend = []) : (putRecords rs s).pend = [] := by
  by_cases h : newRecords s.db [] rs = []
  · rw [putRecords_of_nil hp h]; exact hp
  · exact (putRecords_of_ne hp h).2.1
end RedunModel.Db
