import RedunModel.Model.MonitorLocked
import RedunModel.Lemmas.ListAux
namespace RedunModel.MonitorLocked

def holdsS : SPh → Bool
  | .test | .set | .new | .start | .unlock => true
  | _ => false

/-- the monitor thread is in its loop outside the critical section -/
def looping : MPh → Bool
  | .lock | .snap | .forHead | .proc => true
  | _ => false

/-- The hand-off protocol by who holds the lock (nobody, the submitter, the monitor thread): flag and lock
are determined by the two program counters; a job in the pending map is vouched for by the flag (a
thread that will test the map again under the lock) or by the submitter on its way to the lock. -/
inductive Hand (p : List Job) : Bool → Option Tid → SPh → MPh → Prop
  | nRun {sp ph} : holdsS sp = false → looping ph = true → Hand p true none sp ph
  | nDead {sp} : holdsS sp = false → (p ≠ [] → sp = .lock) → Hand p false none sp .dead
  | sRunTest {ph} : looping ph = true → Hand p true (some .S) .test ph
  | sRunUnlock {ph} : looping ph = true → Hand p true (some .S) .unlock ph
  | sDeadTest : Hand p false (some .S) .test .dead
  | sDeadSet : Hand p false (some .S) .set .dead
  | sNew : Hand p true (some .S) .new .dead
  | sStart : Hand p true (some .S) .start .unstarted
  | mTest {sp} : holdsS sp = false → Hand p true (some .M) sp .test
  | mUnlock {sp} : holdsS sp = false → Hand p true (some .M) sp .unlock
  | mClear {sp} : holdsS sp = false → (p = [] ∨ sp = .lock) → Hand p true (some .M) sp .clear
  | mExit {sp} : holdsS sp = false → (p = [] ∨ sp = .lock) → Hand p false (some .M) sp .unlockExit

def rest (s : State) : List Job :=
  match s.sph with
  | .ins => s.cur :: s.todo
  | _ => s.todo

structure Inv (jobs : List Job) (s : State) : Prop where
  oldDead : ∀ m ∈ s.old, m.ph = .dead
  hand : Hand s.pending s.flag s.lock s.sph s.mon.ph
  cons : ∀ j, s.submitted.count j = s.pending.count j + s.reported.count j
  prog : jobs = s.submitted ++ rest s
  doneNil : s.sph = .done → s.todo = []

theorem inv_init (jobs : List Job) : Inv jobs (init jobs) := by
  unfold init
  split <;> exact ⟨nofun, .nDead rfl (absurd rfl), fun _ => rfl, rfl, by simp⟩

theorem finishS_sph (s : State) : (finishS s).sph = .done ∨ (finishS s).sph = .ins := by
  unfold finishS; split <;> simp

/-- In each mode of `Hand` that the line's phase excludes, the class hypothesis of the mode (`holdsS sp = false`,
`looping ph = true`) is absurd. -/
theorem inv_stepS (jobs : List Job) (s s' : State) (h : Inv jobs s) (hs : stepS s = some s') : Inv jobs s' := by
  obtain ⟨fl, p, lk, rep, sub, sp, c, t, ⟨ph, it, mc⟩, old⟩ := s
  obtain ⟨ho, hh, hc, hp, hd⟩ := h
  cases sp <;> simp only [stepS] at hs
  case ins =>
    cases hs
    refine ⟨ho, ?_, fun j => ?_, by rw [List.append_assoc]; exact hp, nofun⟩
    · cases hh with
      | nRun _ hl => exact .nRun rfl hl
      | nDead => exact .nDead rfl fun _ => rfl
      | mTest => exact .mTest rfl
      | mUnlock => exact .mUnlock rfl
      | mClear => exact .mClear rfl (.inr rfl)
      | mExit => exact .mExit rfl (.inr rfl)
    · have := hc j
      simp only [List.count_append] at this ⊢
      omega
  case lock =>
    split at hs <;> cases hs
    refine ⟨ho, ?_, hc, hp, nofun⟩
    cases hh with
    | nRun _ hl => exact .sRunTest hl
    | nDead => exact .sDeadTest
  case test =>
    cases fl <;> simp only [Bool.false_eq_true, ↓reduceIte] at hs <;> cases hs <;> refine ⟨ho, ?_, hc, hp, nofun⟩
    · cases hh with
      | sDeadTest => exact .sDeadSet
      | nDead hs | mExit hs => cases hs
    · cases hh with
      | sRunTest hl => exact .sRunUnlock hl
      | nRun hs | mTest hs | mUnlock hs | mClear hs => cases hs
  case set =>
    cases hs
    refine ⟨ho, ?_, hc, hp, nofun⟩
    cases hh with
    | sDeadSet => exact .sNew
    | nRun hs | nDead hs | mTest hs | mUnlock hs | mClear hs | mExit hs => cases hs
  case new =>
    cases hs
    cases hh with
    | sNew =>
      exact ⟨fun m hm => (List.mem_append.1 hm).elim (ho m) fun hm => List.mem_singleton.1 hm ▸ rfl, .sStart, hc, hp, nofun⟩
    | nRun hs | nDead hs | mTest hs | mUnlock hs | mClear hs | mExit hs => cases hs
  case start =>
    cases hs
    refine ⟨ho, ?_, hc, hp, nofun⟩
    cases hh with
    | sStart => exact .sRunUnlock rfl
    | nRun hs | nDead hs | mTest hs | mUnlock hs | mClear hs | mExit hs => cases hs
  case unlock =>
    cases hs
    cases hh with
    | sRunUnlock hl =>
      -- the end of the `_submit` call: the next job is taken from the to-do list
      unfold finishS
      split
      · rename_i ht; exact ⟨ho, .nRun rfl hl, hc, hp, fun _ => ht⟩
      · rename_i ht; exact ⟨ho, .nRun rfl hl, hc, hp.trans (congrArg _ ht), nofun⟩
    | nRun hs | nDead hs | mTest hs | mUnlock hs | mClear hs | mExit hs => cases hs
  case done => cases hs

/-- Outside the critical section (`looping`) no mode of `Hand` constrains the pending map, so the lines that read or
shrink it need no argument (`loop`). -/
theorem inv_stepM (jobs : List Job) (s s' : State) (m' : Mon) (h : Inv jobs s) (hs : stepMon s .M s.mon = some (s', m')) :
    Inv jobs { s' with mon := m' } := by
  obtain ⟨fl, p, lk, rep, sub, sp, c, t, ⟨ph, it, mc⟩, old⟩ := s
  obtain ⟨ho, hh, hc, hp, hd⟩ := h
  have loop {p' ph'} (hl : looping ph = true) (hl' : looping ph' = true) : Hand p' fl lk sp ph' := by
    cases hh with
    | nRun hs => exact .nRun hs hl'
    | sRunTest => exact .sRunTest hl'
    | sRunUnlock => exact .sRunUnlock hl'
    | nDead | sDeadTest | sDeadSet | sNew | sStart | mTest | mUnlock | mClear | mExit => cases hl
  cases ph <;> simp only [stepMon] at hs
  case unstarted | dead => cases hs
  case lock =>
    split at hs <;> cases hs
    refine ⟨ho, ?_, hc, hp, hd⟩
    cases hh with
    | nRun hs => exact .mTest hs
  case test =>
    split at hs <;> cases hs <;> refine ⟨ho, ?_, hc, hp, hd⟩
    · cases hh with
      | mTest hs => exact .mUnlock hs
      | nRun _ hl | sRunTest hl | sRunUnlock hl => cases hl
    · rename_i hne
      cases hh with
      | mTest hs =>
        cases p with
        | nil => exact .mClear hs (.inl rfl)
        | cons => exact absurd rfl hne
      | nRun _ hl | sRunTest hl | sRunUnlock hl => cases hl
  case clear =>
    cases hs
    refine ⟨ho, ?_, hc, hp, hd⟩
    cases hh with
    | mClear hs hp => exact .mExit hs hp
    | nRun _ hl | sRunTest hl | sRunUnlock hl => cases hl
  case unlockExit =>
    cases hs
    refine ⟨ho, ?_, hc, hp, hd⟩
    cases hh with
    | mExit hs hp => exact .nDead hs hp.resolve_left
    | nRun _ hl | sRunTest hl | sRunUnlock hl => cases hl
  case unlock =>
    cases hs
    refine ⟨ho, ?_, hc, hp, hd⟩
    cases hh with
    | mUnlock hs => exact .nRun hs rfl
    | nRun _ hl | sRunTest hl | sRunUnlock hl => cases hl
  case snap => cases hs; exact ⟨ho, loop rfl rfl, hc, hp, hd⟩
  case forHead => split at hs <;> cases hs <;> exact ⟨ho, loop rfl rfl, hc, hp, hd⟩
  case proc =>
    split at hs <;> cases hs
    · rename_i hm
      exact ⟨ho, loop rfl rfl, fun j => (hc j).trans (count_erase_add_count_snoc p rep mc j hm).symm, hp, hd⟩
    · exact ⟨ho, loop rfl rfl, hc, hp, hd⟩

theorem step_cases {s s' : State} {t : Tid} (hs : step s t = some s') :
    (t = .S ∧ stepS s = some s') ∨
    (∃ s'' m', t = .M ∧ stepMon s .M s.mon = some (s'', m') ∧ s' = { s'' with mon := m' }) ∨
    ∃ k m s'' m', t = .O k ∧ s.old[k]? = some m ∧ stepMon s (.O k) m = some (s'', m') ∧
      s' = { s'' with old := s''.old.set k m' } := by
  cases t <;> simp only [step] at hs
  case S => exact .inl ⟨rfl, hs⟩
  case M =>
    split at hs <;> cases hs
    exact .inr (.inl ⟨_, _, rfl, by assumption, rfl⟩)
  case O k =>
    split at hs
    · cases hs
    · split at hs <;> cases hs
      exact .inr (.inr ⟨k, _, _, _, rfl, by assumption, by assumption, rfl⟩)

theorem inv_step (jobs : List Job) (s s' : State) (t : Tid) (h : Inv jobs s) (hs : step s t = some s') : Inv jobs s' := by
  rcases step_cases hs with ⟨rfl, hs⟩ | ⟨s'', m', rfl, hm, rfl⟩ | ⟨k, m, s'', m', rfl, hk, hm, rfl⟩
  · exact inv_stepS jobs s s' h hs
  · exact inv_stepM jobs s _ _ h hm
  · -- a thread created earlier has ended: it takes no step
    have hd := h.oldDead m (List.mem_of_getElem? hk)
    simp [stepMon, hd] at hm

theorem reachable_inv {jobs : List Job} {s : State} (h : Reachable jobs s) : Inv jobs s := by
  induction h with
  | init => exact inv_init jobs
  | step t _ hs ih => exact inv_step _ _ _ t ih hs

theorem Hand.done_nil {fl : Bool} {lk : Option Tid} {ph : MPh} {p : List Job} (h : Hand p fl lk .done ph)
    (hm : ph = .dead ∨ ph = .unstarted) : p = [] := by
  rcases hm with rfl | rfl
  · cases h with
    | nRun _ hl => cases hl
    | nDead _ hp => exact Classical.byContradiction fun hne => nomatch hp hne
  · cases h with
    | nRun _ hl => cases hl

theorem Inv.pending_nil {jobs : List Job} {s : State} (h : Inv jobs s) (hd : s.sph = .done)
    (hm : s.mon.ph = .dead ∨ s.mon.ph = .unstarted) : s.pending = [] :=
  (hd ▸ h.hand).done_nil hm

theorem reachable_run (jobs : List Job) (sched : List Tid) :
    ∀ s, Reachable jobs s → Reachable jobs (run s sched) := by
  induction sched with
  | nil => intro s h; exact h
  | cons t ts ih =>
    intro s h
    simp only [run]
    split
    · rename_i s' hs; exact ih s' (Reachable.step t h hs)
    · exact ih s h
end RedunModel.MonitorLocked
