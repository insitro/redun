/-
Event counts of `SchedCore`, and dry runs: there nothing waits for limits or holds them (`Lim.dry`), nothing is registered in
`_pending_jobs` and nobody collapses (`NoReg`; its step is part of `step_all`, in SchedTwin), so `checkPending`, `releaseIf`,
`finalize` and the folds over twins do nothing, and the handlers reduce to a few exits (`execJob_dry_cases`, `resolveJob_dry`,
`rejectJob_dry`).
-/
import RedunModel.Lemmas.SchedLive
namespace RedunModel.SchedCore

/-- number of queued events of job `j` -/
def tk (s : S) (j : JobId) : Nat := s.queue.countP (fun e => evJob e == j)

theorem tk_append (s s' : S) (l : List Ev) (h : s'.queue = s.queue ++ l) (j : JobId) :
    tk s' j = tk s j + l.countP (fun e => evJob e == j) := by
  unfold tk; rw [h, List.countP_append]

theorem tk_tl (s : S) (e : Ev) (rest : List Ev) (hq : s.queue = e :: rest) (j : JobId) :
    tk s j = tk (tl s) j + (if evJob e = j then 1 else 0) := by
  unfold tk tl
  rw [hq]
  simp only [List.tail_cons, List.countP_cons, beq_iff_eq]

theorem tk_pos_of_mem {s : S} {e : Ev} (h : e ∈ s.queue) : 1 ≤ tk s (evJob e) :=
  List.countP_pos_iff.mpr ⟨e, h, by simp⟩

theorem checkPending_nil (p : Prog) (s : S) (h : s.pendingLimits = []) : checkPending p s = s := by
  unfold checkPending
  rw [h]
  simp only [scanPending, List.map_nil, List.append_nil]
  cases s
  simp_all

theorem finalize_nil (p : Prog) (s : S) (j : JobId) (h : s.pendingJobs = []) : finalize p s j = s := by
  unfold finalize lookupPending
  rw [h]; simp

theorem lookupPending_nil (s : S) (k : Nat × Nat) (h : s.pendingJobs = []) : lookupPending s k = none := by
  unfold lookupPending; rw [h]; rfl

theorem releaseIf_of_not_holds (p : Prog) (s : S) (j : JobId) (h : s.holds j = false) : releaseIf p s j = s := by
  unfold releaseIf; simp [h]

/-- Nothing is registered in `_pending_jobs` and no job has collapsed.  So it is in a dry run: the only registration is on the
submission exit of `_exec_job_main_thread`, which a dry run never takes (`execJob_dry_cases`), and with nothing registered no job
finds a twin to collapse onto. -/
def NoReg (s : S) : Prop := s.pendingJobs = [] ∧ ∀ i, (s.jobs i).twins = []

theorem execJob_dry_cases (p : Prog) (hdr : p.dryrun = true) (s : S) (j : JobId) (hpl : s.pendingLimits = [])
    (hn : NoReg s) {P : S → Prop}
    (cached : ∀ ev, ((∃ f, ev = Ev.done j f) ∨ ev = Ev.reject j) → cacheLookup s (spec p s j) ≠ Hit.miss →
      P (enqueue (setJob s j fun js => { js with wasCached := true }) ev))
    (noExec : P (enqueue s (Ev.reject j)))
    (stop : P s) : P (execJob p s j) := by
  refine execJob_cases (motive := P) p s j ?_ ?_ ?_ ?_ ?_ ?_
  · intro t _ h; rw [lookupPending_nil s _ hn.1] at h; cases h
  · intro h _ hh hm
    rw [checkPending_nil p _ (show (setJob s j _).pendingLimits = [] from hpl)]
    exact cached _ (hitEv_completion j h) (hh ▸ hm)
  · intro _ _ h; rw [hdr] at h; cases h
  · intro _ _ _; split
    · exact stop
    · exact noExec
  · intro _ _ h; rw [hdr] at h; cases h
  · intro _ _ h; rw [hdr] at h; cases h

theorem resolveJob_dry (p : Prog) (s : S) (j : JobId) (hn : NoReg s) :
    Settle s (resolveJob p s j) j false := by
  have eff := settleEff p false s j
  rw [resolveJob_eq, eff.tw, hn.2 j, List.foldl_nil, finalize_nil p _ j (eff.pj.trans hn.1)]
  exact eff

theorem rejectJob_dry (p : Prog) (s : S) (j : JobId) (hh : s.holds j = false) (hn : NoReg s) : Settle s (rejectJob p s j) j true := by
  have eff := settleEff p true s j
  rw [rejectJob_eq, releaseIf_of_not_holds p s j hh, rejectRest_eq, eff.tw, hn.2 j, List.foldl_nil,
    finalize_nil p _ j (eff.pj.trans hn.1)]
  exact eff

theorem spawn_noReg (s : S) (j : JobId) (cs : List SpecId) (h : NoReg s) : NoReg (spawn s j cs) :=
  spawn_ind s j cs h
    (fun _ _ h => ⟨h.1, fun i => List.eq_nil_iff_forall_not_mem.mpr fun _ ht => nomatch h.2 i ▸ (spawnOne_twin ht).2⟩)
    (fun s n h => ⟨h.1, fun i => (setJob_keep (·.twins) s j (fun js => { js with waiting := n }) (fun _ => rfl) i).trans (h.2 i)⟩)
    fun _ h => h

end RedunModel.SchedCore
