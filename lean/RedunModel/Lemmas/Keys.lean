/-
Helper lemmas for the cache-key model (C15): positional filtering as one pass over slots (`kept`),
defaults merged under explicit keywords (`finalKw`), membership characterisations, and equality of keys
in those terms (`evalKey_eq_iff`, `callKey_congr`, `callKey_congr_kw`).
-/
import RedunModel.Model.Keys
import RedunModel.Lemmas.Pre
namespace RedunModel.Keys
open RedunModel.Pre List

/-- Positional filtering written as one pass with the slot (bound parameter) of every index. -/
def kept (cfg : List String) : (Nat → Option String) → List Arg → List Arg
  | _, [] => []
  | f, a :: t => (if keepArg cfg (f 0) a then [a] else []) ++ kept cfg (fun i => f (i + 1)) t

/-- `slotOfPos` with the positional names and the `*args` name as parameters, for the induction in `kept_zip`. -/
def slotOf (ns : List String) (v : Option String) (i : Nat) : Option String :=
  if h : i < ns.length then some ns[i] else v

theorem kept_const (cfg : List String) (v : Option String) (args : List Arg) :
    kept cfg (fun _ => v) args = args.filter (fun a => keepArg cfg v a) := by
  induction args with
  | nil => rfl
  | cons a t ih =>
    simp only [kept, filter_cons, ih]
    split <;> simp

theorem kept_zip (cfg : List String) (v : Option String) (ns : List String) (args : List Arg) :
    (((ns.zip args).filter (fun na => keepArg cfg (some na.1) na.2)).map (·.2)
      ++ (args.drop ns.length).filter (fun a => keepArg cfg v a)) = kept cfg (slotOf ns v) args := by
  induction ns generalizing args with
  | nil =>
    have : slotOf [] v = fun _ => v := by funext i; simp [slotOf]
    simp [this, kept_const]
  | cons n ns ih =>
    cases args with
    | nil => simp [kept]
    | cons a t =>
      have hs : (fun i => slotOf (n :: ns) v (i + 1)) = slotOf ns v := by
        funext i; simp [slotOf]
      have h0 : slotOf (n :: ns) v 0 = some n := by simp [slotOf]
      simp only [zip_cons_cons, filter_cons, length_cons, drop_succ_cons, kept, hs, h0, ← ih t]
      split <;> simp

theorem filterArgs_eq_kept (cfg : List String) (sig : Sig) (args : List Arg) :
    filterArgs cfg sig args = kept cfg (slotOfPos sig) args := by
  have : slotOfPos sig = slotOf (posNames sig) (varPosName sig) := by
    funext i; simp [slotOfPos, slotOf]
  rw [this, ← kept_zip]; rfl

theorem keepArg_eq (cfg : List String) (s : Option String) (a : Arg) :
    keepArg cfg s a = (!(isConfig cfg s) && !a.ji) := by
  cases s <;> simp [keepArg, isConfig]

theorem kept_inj (cfg : List String) (f : Nat → Option String) (xs ys : List Arg)
    (hlen : xs.length = ys.length)
    (hji : ∀ (i : Nat) (a b : Arg), xs[i]? = some a → ys[i]? = some b → a.ji = b.ji)
    (heq : (kept cfg f xs).map argHash = (kept cfg f ys).map argHash)
    (i : Nat) (a b : Arg) (ha : xs[i]? = some a) (hb : ys[i]? = some b)
    (hk : keepArg cfg (f i) a = true) : a.h = b.h := by
  induction xs generalizing ys f i with
  | nil => cases ha
  | cons x xt ih =>
    cases ys with
    | nil => cases hb
    | cons y yt =>
      -- the test reads only the slot and the JobInfo flag, so both lists keep the same positions and line up
      have hkxy : keepArg cfg (f 0) y = keepArg cfg (f 0) x := by
        rw [keepArg_eq, keepArg_eq, hji 0 x y rfl rfl]
      rw [kept, kept, hkxy] at heq
      cases i with
      | zero =>
        cases ha; cases hb
        rw [if_pos hk, if_pos hk] at heq
        exact Pre.val.inj (cons.inj heq).1
      | succ j =>
        refine ih (fun i => f (i + 1)) yt (Nat.succ.inj hlen) (fun i => hji (i + 1)) ?_ j ha hb hk
        split at heq
        · exact (cons.inj heq).2
        · exact heq

theorem kept_stable (cfg : List String) (f : Nat → Option String) (xs ys : List Arg)
    (hlen : xs.length = ys.length)
    (hrel : ∀ (i : Nat) (a b : Arg), xs[i]? = some a → ys[i]? = some b →
      a = b ∨ isConfig cfg (f i) = true ∨ (a.ji = true ∧ b.ji = true)) :
    kept cfg f xs = kept cfg f ys := by
  induction xs generalizing ys f with
  | nil => cases ys with
    | nil => rfl
    | cons _ _ => cases hlen
  | cons x xt ih =>
    cases ys with
    | nil => cases hlen
    | cons y yt =>
      rw [kept, kept, ih (fun i => f (i + 1)) yt (Nat.succ.inj hlen) fun i => hrel (i + 1)]
      congr 1
      rcases hrel 0 x y rfl rfl with h | h | h
      · rw [h]
      · simp [keepArg_eq, h]
      · simp [keepArg_eq, h.1, h.2]

theorem hasKey_iff (kw : Kwargs) (k : String) : hasKey kw k = true ↔ k ∈ keys kw := by
  simp only [hasKey, any_eq_true, keys, mem_map, beq_iff_eq]

theorem defaultOf_some {n : Nat} {kw : Kwargs} {p : Param} {i : Nat} {e : String × Arg} :
    defaultOf n kw p i = some e ↔
      ¬ (i < n ∧ p.kind.positional = true) ∧ p.name ∉ keys kw ∧ p.default = some e.2 ∧ e.1 = p.name := by
  unfold defaultOf
  by_cases h1 : i < n ∧ p.kind.positional = true
  · simp [h1]
  · by_cases h2 : hasKey kw p.name = true
    · have := (hasKey_iff kw p.name).mp h2
      simp [h1, h2, this]
    · have h2' : p.name ∉ keys kw := fun h => h2 ((hasKey_iff kw p.name).mpr h)
      rw [if_neg h1, if_neg h2]
      cases hd : p.default with
      | none => simp
      | some d =>
        simp only [Option.some.injEq, h1, not_false_eq_true, h2', true_and]
        constructor
        · rintro rfl; exact ⟨rfl, rfl⟩
        · rintro ⟨h, h'⟩; cases e; simp_all

theorem mem_getArgDefaults {sig : Sig} {n : Nat} {kw : Kwargs} {e : String × Arg} :
    e ∈ getArgDefaults sig n kw ↔ ∃ p i, (p, i) ∈ sig.zipIdx ∧
      ¬ (i < n ∧ p.kind.positional = true) ∧ p.name ∉ keys kw ∧ p.default = some e.2 ∧ e.1 = p.name := by
  simp only [getArgDefaults, mem_filterMap, defaultOf_some, Prod.exists]

theorem defaults_disjoint (sig : Sig) (n : Nat) (kw : Kwargs) :
    ∀ k ∈ keys kw, k ∉ keys (getArgDefaults sig n kw) := by
  intro k hk hk'
  simp only [keys, mem_map] at hk'
  obtain ⟨e, he, rfl⟩ := hk'
  obtain ⟨p, i, _, _, h3, _, h5⟩ := mem_getArgDefaults.mp he
  rw [h5] at hk; exact h3 hk

theorem defaults_keys_sublist (sig : Sig) (n : Nat) (kw : Kwargs) (m : Nat) :
    (keys ((sig.zipIdx m).filterMap (fun pi => defaultOf n kw pi.1 pi.2))).Sublist (sig.map (·.name)) := by
  induction sig generalizing m with
  | nil => simp [keys]
  | cons p t ih =>
    simp only [zipIdx_cons, filterMap_cons, map_cons]
    cases h : defaultOf n kw p m with
    | none => exact (ih (m + 1)).cons _
    | some e =>
      have := (defaultOf_some.mp h).2.2.2
      simp only [keys, map_cons, this]
      exact (ih (m + 1)).cons_cons _

/-- the keyword dict that reaches `hash_args_eval` -/
def finalKw (sig : Sig) (n : Nat) (kw : Kwargs) : Kwargs := dictMerge (getArgDefaults sig n kw) kw

theorem finalKw_eq (sig : Sig) (n : Nat) (kw : Kwargs) (hn : (keys kw).Nodup) :
    finalKw sig n kw = getArgDefaults sig n kw ++ kw :=
  dictMerge_disjoint _ _ hn (defaults_disjoint sig n kw)

theorem finalKw_keys_nodup (sig : Sig) (n : Nat) (kw : Kwargs) (hsig : (sig.map (·.name)).Nodup)
    (hn : (keys kw).Nodup) : (keys (finalKw sig n kw)).Nodup := by
  rw [finalKw_eq sig n kw hn]
  simp only [keys, map_append]
  refine nodup_append.mpr ⟨Nodup.sublist (defaults_keys_sublist sig n kw 0) hsig, hn, ?_⟩
  intro a ha b hb e
  subst e
  exact defaults_disjoint sig n kw a hb ha

theorem keys_hashKw_filter (cfg : List String) (kw : Kwargs) :
    (keys (hashKw (filterKwargs cfg kw))).Sublist (keys kw) := by
  simp only [keys, hashKw, map_map, filterKwargs]
  exact (filter_sublist).map _

theorem mem_hashKw_filter {cfg : List String} {kw : Kwargs} {e : String × Pre} :
    e ∈ hashKw (filterKwargs cfg kw) ↔
      ∃ a, (e.1, a) ∈ kw ∧ keepArg cfg (some e.1) a = true ∧ e.2 = .val a.h := by
  simp only [hashKw, filterKwargs, mem_map, mem_filter, argHash]
  constructor
  · rintro ⟨⟨k, a⟩, ⟨h1, h2⟩, rfl⟩; exact ⟨a, h1, h2, rfl⟩
  · rintro ⟨a, h1, h2, h3⟩; exact ⟨(e.1, a), ⟨h1, h2⟩, by cases e; simp_all⟩

theorem mem_finalHash {cfg : List String} {sig : Sig} {n : Nat} {kw : Kwargs} (hn : (keys kw).Nodup)
    {e : String × Pre} : e ∈ hashKw (filterKwargs cfg (finalKw sig n kw)) ↔
      ∃ a, ((e.1, a) ∈ getArgDefaults sig n kw ∨ (e.1, a) ∈ kw) ∧ keepArg cfg (some e.1) a = true ∧
        e.2 = .val a.h := by
  simp only [mem_hashKw_filter, finalKw_eq sig n kw hn, mem_append]

theorem dictPart_eq_of_mem_iff (cfg : List String) (k1 k2 : Kwargs) (h1 : (keys k1).Nodup)
    (h2 : (keys k2).Nodup)
    (h : ∀ e, e ∈ hashKw (filterKwargs cfg k1) ↔ e ∈ hashKw (filterKwargs cfg k2)) :
    sortKw (hashKw (filterKwargs cfg k1)) = sortKw (hashKw (filterKwargs cfg k2)) := by
  have n1 : (keys (hashKw (filterKwargs cfg k1))).Nodup := Nodup.sublist (keys_hashKw_filter cfg k1) h1
  have n2 : (keys (hashKw (filterKwargs cfg k2))).Nodup := Nodup.sublist (keys_hashKw_filter cfg k2) h2
  exact sortKw_eq_of_perm ((perm_ext_iff_of_nodup (nodup_of_keys_nodup n1) (nodup_of_keys_nodup n2)).mpr h) n1

variable {th th' : Pre} {cfg cfg' : List String} {sig sig' : Sig} {args args' : List Arg} {kw kw' : Kwargs}

theorem callKey_snd : (callKey th cfg sig args kw).2 =
    taskArguments ((kept cfg (slotOfPos sig) args).map argHash)
      (hashKw (filterKwargs cfg (finalKw sig args.length kw))) := by
  simp only [callKey, hashArgsEval, filterArgs_eq_kept, finalKw]

theorem callKey_fst : (callKey th cfg sig args kw).1 = evalHash th (callKey th cfg sig args kw).2 := rfl

theorem evalKey_eq_iff :
    (callKey th cfg sig args kw).1 = (callKey th' cfg' sig' args' kw').1 ↔ th = th' ∧
      (kept cfg (slotOfPos sig) args).map argHash = (kept cfg' (slotOfPos sig') args').map argHash ∧
      sortKw (hashKw (filterKwargs cfg (finalKw sig args.length kw)))
        = sortKw (hashKw (filterKwargs cfg' (finalKw sig' args'.length kw'))) := by
  rw [callKey_fst, callKey_fst, evalHash_inj, callKey_snd, callKey_snd, taskArguments_inj]

theorem callKey_congr (ha : kept cfg (slotOfPos sig) args = kept cfg (slotOfPos sig) args')
    (hk : sortKw (hashKw (filterKwargs cfg (finalKw sig args.length kw)))
      = sortKw (hashKw (filterKwargs cfg (finalKw sig args'.length kw')))) :
    callKey th cfg sig args kw = callKey th cfg sig args' kw' := by
  have h2 : (callKey th cfg sig args kw).2 = (callKey th cfg sig args' kw').2 := by
    rw [callKey_snd, callKey_snd, taskArguments_inj, ha]; exact ⟨rfl, hk⟩
  exact Prod.ext (by rw [callKey_fst, callKey_fst, h2]) h2

theorem callKey_congr_kw (hsig : (sig.map (·.name)).Nodup) (hn : (keys kw).Nodup) (hn' : (keys kw').Nodup)
    (h : ∀ k a, keepArg cfg (some k) a = true →
      (((k, a) ∈ getArgDefaults sig args.length kw ∨ (k, a) ∈ kw) ↔
        ((k, a) ∈ getArgDefaults sig args.length kw' ∨ (k, a) ∈ kw'))) :
    callKey th cfg sig args kw = callKey th cfg sig args kw' :=
  callKey_congr rfl (dictPart_eq_of_mem_iff cfg _ _ (finalKw_keys_nodup sig _ kw hsig hn)
    (finalKw_keys_nodup sig _ kw' hsig hn') fun e => by
      simp only [mem_finalHash hn, mem_finalHash hn']
      exact exists_congr fun a => and_congr_left fun hk => h e.1 a hk.1)

end RedunModel.Keys
