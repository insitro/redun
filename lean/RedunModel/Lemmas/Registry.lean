/-
Helper lemmas for C37: dict primitives, the registry invariant `Inv` and its preservation by every
registry operation, name arithmetic for `wraps_task`.
-/
import RedunModel.Model.Registry
import RedunModel.Lemmas.AssocList
import RedunModel.Lemmas.ListAux
namespace RedunModel.Registry
open Assoc

def occ (h : H) (l : List (String × Task)) : Nat := (l.filter fun p => p.2.hash = h).length

/-- `_task_hash_counts[h]` read without inserting (absent = 0) -/
def cnt (h : H) (c : List (H × Nat)) : Nat := (lookup h c).getD 0

structure Inv (r : Reg) : Prop where
  keysNodup : (r.tasks.map (·.1)).Nodup
  keyFull : ∀ p ∈ r.tasks, p.1 = p.2.fullname
  exact : ∀ h, cnt h r.counts = occ h r.tasks
  pos : ∀ p ∈ r.counts, 1 ≤ p.2

section dict
variable {β : Type}

theorem lookup_eq (k : String) (l : List (String × β)) : lookup k l = l.lookup k :=
  lookup_eq_of_rec (fun _ => rfl) (fun _ _ _ _ => rfl) k l

theorem lookup_mem {k : String} {v : β} {l : List (String × β)} (h : lookup k l = some v) : (k, v) ∈ l :=
  mem_of_lookup (lookup_eq k l ▸ h)

theorem lookup_none_iff {k : String} {l : List (String × β)} : lookup k l = none ↔ k ∉ l.map (·.1) :=
  lookup_eq k l ▸ lookup_eq_none_iff

theorem lookup_of_mem {k : String} {v : β} {l : List (String × β)} (nd : (l.map (·.1)).Nodup)
    (h : (k, v) ∈ l) : lookup k l = some v :=
  lookup_eq k l ▸ Assoc.lookup_of_mem nd h

theorem lookup_append (k : String) (a b : List (String × β)) :
    lookup k (a ++ b) = (lookup k a).or (lookup k b) := by
  simp only [lookup_eq, List.lookup_append]

theorem erase_eq_filter (k : String) (l : List (String × β)) : erase k l = l.filter fun p => p.1 != k := by
  induction l with
  | nil => rfl
  | cons p rest ih =>
    obtain ⟨k2, v⟩ := p
    rw [erase, List.filter_cons, ih]
    by_cases h : k2 = k <;> simp [h]

theorem lookup_erase (k k' : String) (l : List (String × β)) :
    lookup k' (erase k l) = if k' = k then none else lookup k' l := by
  rw [lookup_eq, lookup_eq, erase_eq_filter, Assoc.lookup_erase]

theorem lookup_setKey (k k' : String) (v : β) (l : List (String × β)) :
    lookup k' (setKey k v l) = if k' = k then some v else lookup k' l := by
  rw [lookup_eq, lookup_eq]
  -- `setKey` writes `(k, v)` where the lemma has `(k', v)` under `k' = k`
  exact lookup_set_of_rec (set := setKey) (fun _ _ => rfl)
    (fun _ _ _ _ _ => ite_congr rfl (fun h => by rw [h]) fun _ => rfl) k k' v l

theorem erase_sublist (k : String) (l : List (String × β)) : (erase k l).Sublist l :=
  erase_eq_filter k l ▸ List.filter_sublist

theorem erase_of_lookup_none {k : String} {l : List (String × β)} (h : lookup k l = none) : erase k l = l :=
  (erase_eq_filter k l).trans (erase_of_not_mem (lookup_none_iff.1 h))

theorem forall_setKey {P : String × β → Prop} {k : String} {v : β} {l : List (String × β)} (hv : P (k, v))
    (hl : ∀ p ∈ l, P p) : ∀ p ∈ setKey k v l, P p := by
  induction l with
  | nil => simpa [setKey] using hv
  | cons q rest ih =>
    obtain ⟨k', v'⟩ := q
    have hr := ih fun p hp => hl p (List.mem_cons_of_mem _ hp)
    rw [setKey]
    split
    · exact List.forall_mem_cons.2 ⟨hv, fun p hp => hl p (List.mem_cons_of_mem _ hp)⟩
    · exact List.forall_mem_cons.2 ⟨hl _ List.mem_cons_self, hr⟩

end dict

theorem cnt_decr (h h' : H) (c : List (H × Nat)) :
    cnt h' (decr h c) = cnt h' c - if h = h' then 1 else 0 := by
  unfold decr
  by_cases e : h = h'
  · subst e
    cases hl : lookup h c with
    | none => simp [cnt, hl]
    | some n => dsimp only; split <;> simp [cnt, lookup_erase, lookup_setKey, *]
  · cases lookup h c with
    | none => simp [e]
    | some n => dsimp only; split <;> simp [cnt, lookup_erase, lookup_setKey, Ne.symm e]

theorem cnt_incr (h h' : H) (c : List (H × Nat)) :
    cnt h' (incr h c) = cnt h' c + if h = h' then 1 else 0 := by
  unfold incr
  by_cases e : h = h'
  · subst e; cases hl : lookup h c <;> simp [cnt, lookup_setKey, hl]
  · cases lookup h c <;> simp [cnt, lookup_setKey, e, Ne.symm e]

theorem pos_decr (h : H) (c : List (H × Nat)) (hp : ∀ p ∈ c, 1 ≤ p.2) : ∀ p ∈ decr h c, 1 ≤ p.2 := by
  unfold decr
  cases hl : lookup h c with
  | none => exact hp
  | some n =>
    have hn : 1 ≤ n := hp _ (lookup_mem hl)
    dsimp only
    split
    · exact fun p hpm => hp p ((erase_sublist _ _).mem hpm)
    · exact forall_setKey (show 1 ≤ n - 1 by omega) hp

theorem pos_incr (h : H) (c : List (H × Nat)) (hp : ∀ p ∈ c, 1 ≤ p.2) : ∀ p ∈ incr h c, 1 ≤ p.2 := by
  unfold incr
  cases lookup h c with
  | none => exact forall_setKey (Nat.le_refl 1) hp
  | some n => exact forall_setKey (Nat.le_add_left 1 n) hp

theorem occ_append (h : H) (a b : List (String × Task)) : occ h (a ++ b) = occ h a + occ h b := by
  simp [occ, List.filter_append]

theorem occ_cons (h : H) (p : String × Task) (l : List (String × Task)) :
    occ h (p :: l) = (if p.2.hash = h then 1 else 0) + occ h l := by
  simp only [occ, List.filter_cons, decide_eq_true_eq]
  split <;> simp [Nat.add_comm]

theorem occ_pos_iff (h : H) (l : List (String × Task)) : 0 < occ h l ↔ ∃ p ∈ l, p.2.hash = h := by
  simp [occ, List.length_pos_iff_exists_mem]

theorem occ_erase (h : H) {k : String} {t : Task} {l : List (String × Task)} (nd : (l.map (·.1)).Nodup)
    (hl : lookup k l = some t) : occ h (erase k l) + (if t.hash = h then 1 else 0) = occ h l := by
  induction l with
  | nil => cases hl
  | cons q rest ih =>
    obtain ⟨k', t'⟩ := q
    have ⟨hk, hr⟩ := List.nodup_cons.1 nd
    rw [lookup] at hl
    rw [erase, occ_cons]
    split at hl
    · cases hl
      subst_vars
      rw [if_pos rfl, erase_of_lookup_none (lookup_none_iff.mpr hk)]
      exact Nat.add_comm _ _
    · rw [if_neg ‹_›, occ_cons, ← ih hr hl]; omega

theorem inv_empty : Inv Reg.empty := ⟨List.nodup_nil, List.forall_mem_nil _, fun _ => rfl, List.forall_mem_nil _⟩

theorem erase_decr_inv (old : String) (t : Task) (r : Reg) (hi : Inv r) (hl : lookup old r.tasks = some t) :
    Inv ⟨erase old r.tasks, decr t.hash r.counts⟩ := by
  obtain ⟨nd, kf, ex, pos⟩ := hi
  refine ⟨nd.sublist ((erase_sublist _ _).map _), fun p hp => kf p ((erase_sublist _ _).mem hp), ?_, pos_decr _ _ pos⟩
  intro h
  rw [cnt_decr, ex]
  exact (Nat.eq_sub_of_add_eq (occ_erase h nd hl)).symm

theorem add_fresh_inv (t : Task) (r : Reg) (hi : Inv r) (hl : lookup t.fullname r.tasks = none) : Inv (add t r) := by
  obtain ⟨nd, kf, ex, pos⟩ := hi
  simp only [add, hl, erase_of_lookup_none hl]
  refine ⟨?_, List.forall_mem_append.2 ⟨kf, List.forall_mem_singleton.2 rfl⟩, ?_, pos_incr _ _ pos⟩
  · rw [List.map_append, List.nodup_append]
    refine ⟨nd, List.nodup_cons.2 ⟨nofun, List.nodup_nil⟩, fun a ha b hb e => lookup_none_iff.1 hl ?_⟩
    rwa [← show b = t.fullname from List.mem_singleton.1 hb, ← e]
  · intro h
    rw [cnt_incr, occ_append, occ_cons, ← ex h]
    rfl

theorem add_inv (t : Task) (r : Reg) (hi : Inv r) : Inv (add t r) := by
  cases hl : lookup t.fullname r.tasks with
  | none => exact add_fresh_inv t r hi hl
  | some old =>
    -- popping the task of the same name first leaves the name free
    have hfree : lookup t.fullname (erase t.fullname r.tasks) = none := by rw [lookup_erase, if_pos rfl]
    have : add t r = add t ⟨erase t.fullname r.tasks, decr old.hash r.counts⟩ := by
      simp only [add, hl, hfree, erase_of_lookup_none hfree]
    rw [this]
    exact add_fresh_inv t _ (erase_decr_inv _ old r hi hl) hfree

theorem rename_inv (old ns name : String) (r r' : Reg) (t' : Task) (hi : Inv r)
    (h : rename old ns name r = .ok (t', r')) : Inv r' := by
  unfold rename at h
  cases hl : lookup old r.tasks with
  | none => rw [hl] at h; cases h
  | some t =>
    rw [hl] at h
    cases h
    exact add_inv _ _ (erase_decr_inv old t r hi hl)

/-- the in-place update as a map over the values: keys, full names and hashes are untouched -/
theorem setWrapped_tasks (oid : Nat) (p : String) (r : Reg) :
    (setWrapped oid p r).tasks = r.tasks.map fun q => (q.1, if q.2.oid = oid then { q.2 with wrapped := some p } else q.2) := by
  apply List.map_congr_left
  intro q _
  dsimp only
  split <;> rfl

theorem setWrapped_inv (oid : Nat) (p : String) (r : Reg) (hi : Inv r) : Inv (setWrapped oid p r) := by
  obtain ⟨nd, kf, ex, pos⟩ := hi
  refine ⟨?_, ?_, ?_, pos⟩
  · rwa [setWrapped_tasks, List.map_map]
  · rw [setWrapped_tasks]
    intro q hq
    obtain ⟨q, hm, rfl⟩ := List.mem_map.1 hq
    have := kf q hm
    dsimp only
    split <;> exact this
  · intro h
    show cnt h r.counts = _
    rw [ex h, setWrapped_tasks, occ, occ, List.filter_map, List.length_map]
    congr 2
    funext q
    dsimp only [Function.comp]
    split <;> rfl

/-- `namespace.suffix` as computed by `recursive_rename` -/
def sfx (ns w : String) : String := if ns ≠ "" then ns ++ "." ++ w else w

theorem recursiveRename_inv (fuel : Nat) : ∀ (t : Task) (suffix : String) (r : Reg), Inv r →
    Inv (recursiveRename fuel t suffix r).1 := by
  induction fuel with
  | zero => exact fun _ _ _ hi => hi
  | succ n ih =>
    intro t s r hi
    -- the last step, from whatever registry hiding the wrapped task has left
    have last : ∀ r1 : Reg, Inv r1 → Inv (match rename t.fullname (sfx t.ns s) t.name r1 with
        | .error e => (r1, Except.error e)
        | .ok (t', r2) => (r2, .ok t'.fullname) : Reg × Except Err String).1 := by
      intro r1 h1
      split
      · exact h1
      · exact rename_inv _ _ _ _ _ _ h1 ‹_›
    rw [recursiveRename]
    cases t.wrapped with
    | none => exact last r hi
    | some w =>
      dsimp only
      cases get w r with
      | none => exact hi
      | some it =>
        have hin := ih it s r hi
        dsimp only
        generalize recursiveRename n it s r = inner at hin ⊢
        obtain ⟨r', res⟩ := inner
        cases res with
        | error e => exact hin
        | ok p => exact last _ (setWrapped_inv t.oid p r' hin)

theorem wrap_inv (t : Task) (w : String) (woid : Nat) (wh : H → H) (r : Reg) (hi : Inv r) :
    Inv (wrap t w woid wh r).1 := by
  have h1 := recursiveRename_inv (r.tasks.length + 1) t w r hi
  unfold wrap
  split
  · next heq => rwa [heq] at h1
  · next heq => rw [heq] at h1; exact add_inv _ _ h1

theorem step_inv (r : Reg) (op : Op) (hi : Inv r) : Inv (step r op) := by
  cases op <;> simp only [step]
  · exact add_inv _ r hi
  · split
    · exact rename_inv _ _ _ _ _ _ hi ‹_›
    · exact hi
  · split
    · exact hi
    · exact wrap_inv _ _ _ _ r hi
  all_goals exact hi

theorem run_inv (ops : List Op) : Inv (run ops) :=
  foldl_inv step ops _ inv_empty fun r op _ => step_inv r op

theorem getByHash_none_iff (r : Reg) (hi : Inv r) (h : H) : getByHash h r = none ↔ cnt h r.counts = 0 := by
  rw [hi.exact h]
  simp [getByHash, occ]

theorem getByHash_some (r : Reg) (h : H) (t : Task) (hs : getByHash h r = some t) :
    t.hash = h ∧ ∃ k, (k, t) ∈ r.tasks := by
  simp only [getByHash, Option.map_eq_some_iff] at hs
  obtain ⟨p, hp, rfl⟩ := hs
  exact ⟨by simpa using List.find?_some hp, p.1, List.mem_of_find?_eq_some hp⟩

theorem mem_taskHashes_iff (r : Reg) (hi : Inv r) (h : H) : h ∈ taskHashes r ↔ 0 < cnt h r.counts := by
  simp only [taskHashes, List.mem_map, List.mem_filter, gt_iff_lt, decide_eq_true_eq]
  constructor
  · rintro ⟨⟨h', n⟩, ⟨hm, _⟩, rfl⟩
    cases hl : lookup h' r.counts with
    | none => exact absurd (List.mem_map.2 ⟨_, hm, rfl⟩) (lookup_none_iff.1 hl)
    | some m => rw [cnt, hl]; exact hi.pos _ (lookup_mem hl)
  · intro hc
    cases hl : lookup h r.counts with
    | none => rw [cnt, hl] at hc; cases hc
    | some m => rw [cnt, hl] at hc; exact ⟨(h, m), ⟨lookup_mem hl, hc⟩, rfl⟩

theorem get_add_self (t : Task) (r : Reg) : get t.fullname (add t r) = some t := by
  simp [get, add, lookup_append, lookup_erase, lookup]

theorem get_add_ne (t : Task) (r : Reg) (k : String) (h : k ≠ t.fullname) : get k (add t r) = get k r := by
  simp [get, add, lookup_append, lookup_erase, lookup, h, Ne.symm h]

theorem get_erase_ne (k k' : String) (r : Reg) (c : List (H × Nat)) (h : k' ≠ k) :
    get k' ⟨erase k r.tasks, c⟩ = get k' r := by
  simp [get, lookup_erase, h]

theorem get_setWrapped (k : String) (oid : Nat) (p : String) (r : Reg) :
    get k (setWrapped oid p r) = (get k r).map (fun t => if t.oid = oid then { t with wrapped := some p } else t) := by
  rw [get, get, setWrapped_tasks, lookup_eq, lookup_eq]
  exact lookup_map (fun _ t => if t.oid = oid then { t with wrapped := some p } else t) k r.tasks

theorem fullname_length (ns name : String) :
    (fullname ns name).length = if ns = "" then name.length else ns.length + 1 + name.length := by
  have h1 : (".": String).length = 1 := by decide
  by_cases e : ns = "" <;> simp [fullname, e, String.length_append, h1]

/-- the new namespace is formatted like a full name: `recursive_rename` repeats `Task._format_fullname` -/
theorem sfx_eq_fullname (ns w : String) : sfx ns w = fullname ns w := by rw [sfx, fullname, ite_not]

/-- hiding a task under a non-empty wrapper name makes its full name longer: hidden and visible names differ -/
theorem fullname_sfx_length (ns name w : String) (hw : w ≠ "") :
    (fullname (sfx ns w) name).length = (fullname ns name).length + w.length + 1 := by
  rw [sfx_eq_fullname]
  have hne : fullname ns w ≠ "" := by
    intro h
    have := congrArg String.length h
    rw [fullname_length] at this
    by_cases e : ns = ""
    · simp [e] at this; exact hw this
    · simp [e] at this
  rw [fullname_length, fullname_length, fullname_length]
  by_cases e : ns = ""
  · subst e; simp [hne]; omega
  · simp [e, hne]; omega

theorem recursiveRename_plain {fuel : Nat} (hf : fuel ≠ 0) (r : Reg) (t : Task) (w : String)
    (hreg : get t.fullname r = some t) (hplain : t.wrapped = none) :
    recursiveRename fuel t w r =
      (add { t with ns := sfx t.ns w } ⟨erase t.fullname r.tasks, decr t.hash r.counts⟩,
       .ok (fullname (sfx t.ns w) t.name)) := by
  obtain ⟨n, rfl⟩ := Nat.exists_eq_succ_of_ne_zero hf
  rw [get] at hreg
  simp only [recursiveRename, hplain, rename, hreg, sfx]
  rfl

/-- hiding a registered wrapper `t` once the task it wraps has been hidden (as `q`, leaving `r'`): the pointer of
`t` is updated in place, then `t` (as found afterwards, `t1`) is renamed -/
theorem recursiveRename_wrapped (fuel : Nat) (r r' : Reg) (t it t1 : Task) (w p q : String)
    (hw : t.wrapped = some p) (hg : get p r = some it) (hin : recursiveRename fuel it w r = (r', .ok q))
    (h1 : get t.fullname (setWrapped t.oid q r') = some t1) :
    recursiveRename (fuel + 1) t w r =
      (add { t1 with ns := sfx t.ns w, name := t.name }
        ⟨erase t.fullname (setWrapped t.oid q r').tasks, decr t1.hash (setWrapped t.oid q r').counts⟩,
       .ok (fullname (sfx t.ns w) t.name)) := by
  rw [get] at h1
  simp only [recursiveRename, hw, hg, hin, rename, h1, sfx]
  rfl

end RedunModel.Registry
