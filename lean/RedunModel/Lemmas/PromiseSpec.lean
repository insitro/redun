/-
Composition of the collector invariants of `RedunModel.Lemmas.PromiseColl` over every machine step and every
operation (`CInv`), and the invariant of the collectors' target promises (`TInv`): unless user code called
`do_resolve`/`do_reject` on the target itself, it is pending while inputs are outstanding (and, for `Promise.all`,
none has been seen rejected), fulfilled with the collected results exactly when all have reported, rejected with the
error of the first `fail` callback that ran.  These invariants do not fit `Stable`: a `then()` keeps them only if its
callbacks are not collector closures (the loop's own registrations are treated apart, `advanced`), a push only if the
frame's promise has the right origin, a settlement only if it is not a stray one of a collector's target; so `step` and
`act` are gone through case by case (`GInv_step`, `GInv_act`).  `Reach.ginv`: all of this holds in every reachable
state.  `GInv.coll_spec`: what it says of a collector's returned promise once nothing is running, in terms of the
statuses of the inputs, for both kinds of collector at once.
-/
import RedunModel.Lemmas.PromiseColl
namespace RedunModel.Promise

structure CInv (s : State) : Prop where
  i : Inv s
  o : OInv s
  l : LInv s
  r : RInv s

theorem CInv_settle {s : State} (C : CInv s) (b q v) : CInv (settle b q v s) :=
  ⟨Inv_settle C.i b q v, OInv_settle C.o b q v, LInv_settle C.l b q v, RInv_settle C.r b q v⟩

/-- a function body or a `wrapper` continuation (not a loop of the library) -/
def Frame.plain : Frame → Bool
  | .finish .. | .script .. => true
  | _ => false

theorem CInv.push {s : State} (C : CInv s) (f : Frame) (hp : f.plain = true) (hf : FrameOk s f) : CInv (push f s) := by
  have h1 : ∀ v todo, f ≠ .notify v todo := by rintro v todo rfl; cases hp
  have h2 : ∀ m a i rest, f ≠ .loop m a i rest := by rintro m a i rest rfl; cases hp
  have h3 : f.todo = [] := by cases f <;> first | rfl | cases hp
  exact ⟨C.i.push f h1, C.o.push f h3 hf, C.l.push f h2, C.r.push f h1⟩

theorem origin_of_cb {s : State} (O : OInv s) {c f q} (hc : InSys s c) (hk : c.kind = .wrap f q) :
    origin s q = some .chained := by
  have := O.cbs c hc
  unfold Cb.q at this; rw [hk] at this; exact this

theorem CInv_invoked_other {s : State} (C : CInv s) {v c todo stk}
    (hs : s.stack = .notify v (c :: todo) :: stk) (hk : c.kind.counts = false) : CInv (invoked s v c todo stk) :=
  ⟨C.i.invoked hs, OInv_invoked C.o hs, LInv_invoked C.l hs, RInv_invoked_other C.r hs hk⟩

theorem origin_invoked (s : State) (v c todo stk) (p) : origin (invoked s v c todo stk) p = origin s p := rfl
theorem origin_emit (s : State) (e p) : origin (emit e s) p = origin s p := rfl
theorem origin_setColl (s : State) (a r p) : origin (setColl s a r) p = origin s p := rfl

theorem CInv_init : CInv init := by
  have hno : ∀ c, ¬ InSys init c := by
    rintro c (⟨p, pr, b, hp, _⟩ | ⟨v, todo, hm, _⟩)
    · exact init_heap hp
    · exact init_stack hm
  exact ⟨Inv_init,
    ⟨fun c h => absurd h (hno c), fun c h => absurd h (hno c), fun _ _ h => absurd h init_stack,
      fun _ _ _ _ h => absurd h init_stack, fun _ _ _ _ h => absurd h init_stack, fun _ _ h => absurd h init_colls⟩,
    ⟨fun _ _ _ _ h => absurd h init_stack, fun _ => Nat.zero_le _, fun _ _ h => absurd h init_colls⟩,
    ⟨fun _ _ h => absurd h init_colls, fun _ _ _ _ h => absurd h init_colls, fun _ _ h => absurd h init_colls,
      fun _ _ h => absurd h init_colls, fun _ _ _ _ _ h => absurd h init_colls, fun _ _ _ _ h => absurd h init_colls,
      fun c _ _ h => absurd h (hno c)⟩⟩

/-- `e` is the error the first of the collector's `fail` callbacks was invoked with (log: newest first) -/
def FirstFail (rids : List Nat) (e : Val) (log : List Event) : Prop :=
  ∃ l1 rid l2, log = l1 ++ Event.invoke rid .rej e :: l2 ∧ rid ∈ rids ∧ ∀ rid' ∈ rids, calls rid' .rej l2 = 0

def TOk (s : State) (r : Coll) : Prop :=
  match r.mode with
  | .all =>
    (status s r.target = some .pending → r.numDone < r.subs.length ∧ ∀ rid ∈ r.rids, calls rid .rej s.log = 0) ∧
    (∀ v, status s r.target = some (.settled .res v) → v = .list r.results ∧ r.numDone = r.subs.length) ∧
    (∀ e, status s r.target = some (.settled .rej e) → FirstFail r.rids e s.log)
  | .wait =>
    (status s r.target = some .pending → r.numDone < r.subs.length) ∧
    (∀ b v, status s r.target = some (.settled b v) →
      b = .res ∧ v = .list (r.subs.map .prom) ∧ r.numDone = r.subs.length)

/-- unless user code called `do_resolve`/`do_reject` on the target itself (with or without effect), its state is the one
the collector's closures gave it -/
def TInv (s : State) : Prop :=
  ∀ (a : Nat) (r : Coll), s.colls[a]? = some r → Event.direct r.target ∉ s.log → TOk s r

theorem FirstFail.mono {rids extra : List Nat} {e : Val} {log pre : List Event} (h : FirstFail rids e log)
    (hx : ∀ rid ∈ extra, calls rid .rej log = 0) : FirstFail (rids ++ extra) e (pre ++ log) := by
  obtain ⟨l1, rid, l2, h1, h2, h3⟩ := h
  refine ⟨pre ++ l1, rid, l2, by rw [h1, List.append_assoc], List.mem_append_left _ h2, ?_⟩
  intro rid' hr
  rcases List.mem_append.mp hr with hr | hr
  · exact h3 rid' hr
  · have := hx rid' hr
    rw [h1, calls_append, calls_cons] at this
    omega

/-- the target and the closure state are untouched; the log grew by entries that are not rejections of the
collector's inputs; the loop may have registered further (so far uncalled) inputs -/
theorem TOk.transfer {s s' : State} {r r' : Coll} {pre : List Event} {extra : List Nat} (h : TOk s r)
    (hst : status s' r.target = status s r.target)
    (hm : r'.mode = r.mode) (ht : r'.target = r.target) (hn : r'.numDone = r.numDone) (hs : r'.subs = r.subs)
    (hres : r'.results = r.results) (hrids : r'.rids = r.rids ++ extra)
    (hlog : s'.log = pre ++ s.log) (hpre : r.mode = .all → ∀ rid ∈ r'.rids, calls rid .rej pre = 0)
    (hextra : ∀ rid ∈ extra, calls rid .rej s.log = 0) : TOk s' r' := by
  unfold TOk at *
  rw [hm, ht, hn, hs, hres, hst]
  cases hmode : r.mode <;> simp only [hmode] at h ⊢
  · refine ⟨?_, h.2.1, ?_⟩
    · intro hp
      refine ⟨(h.1 hp).1, ?_⟩
      intro rid hr
      rw [hlog, calls_append, hpre hmode rid hr]
      rw [hrids] at hr
      rcases List.mem_append.mp hr with hr | hr
      · simpa using (h.1 hp).2 rid hr
      · simpa using hextra rid hr
    · intro e he
      rw [hrids, hlog]
      exact (h.2.2 e he).mono hextra
  · exact h

theorem TOk.same {s s' : State} {r : Coll} (h : TOk s r) (hst : status s' r.target = status s r.target)
    (hlog : s'.log = s.log) : TOk s' r :=
  h.transfer (pre := []) (extra := []) hst rfl rfl rfl rfl rfl (by simp) (by rw [hlog]; rfl) (by intros; rfl) (by simp)

theorem TInv.same {s s' : State} (T : TInv s) (hc : s'.colls = s.colls) (hlog : s'.log = s.log)
    (hst : ∀ (a : Nat) (r : Coll), s.colls[a]? = some r → Event.direct r.target ∉ s.log →
      status s' r.target = status s r.target) : TInv s' := by
  intro a r h hd
  rw [hc] at h
  rw [hlog] at hd
  exact (T a r h hd).same (hst a r h hd) hlog

theorem OInv.target_lt {s : State} (O : OInv s) {a : Nat} {r : Coll} (h : s.colls[a]? = some r) : r.target < s.heap.length :=
  lt_of_getElem?_map (O.coll a r h)

theorem TInv_settle {s : State} (O : OInv s) (T : TInv s) (b q v)
    (hq : (∀ a, origin s q ≠ some (.coll a)) ∨ Event.direct q ∈ s.log) : TInv (settle b q v s) := by
  refine T.same (settle_colls ..) (settle_log ..) fun a r h hd => ?_
  by_cases ht : r.target = q
  · exact absurd (ht ▸ O.coll a r h) (hq.resolve_right (fun hq => hd (ht ▸ hq)) a)
  · exact status_settle_ne ht

theorem TInv.emit {s : State} (T : TInv s) (e : Event) (he : ∀ rid b v, e ≠ .invoke rid b v) : TInv (emit e s) :=
  fun a r h hd => (T a r h fun hm => hd (List.mem_cons_of_mem _ hm)).transfer (pre := [e]) (extra := []) rfl rfl rfl rfl rfl
    rfl (by simp) rfl (fun _ rid _ => by rw [calls_cons, isInv_false he]; rfl) (by simp)

theorem TInv_thenOp {s : State} (O : OInv s) (T : TInv s) (p r j) : TInv (thenOp p r j s) := by
  by_cases hp : p < s.heap.length
  · exact T.same (thenOp_colls ..) (thenOp_fields hp r j).2.2.1 (fun _ _ h _ => status_thenOp (O.target_lt h))
  · rw [thenOp_bad hp]; exact T.emit _ nofun

theorem TInv_newProm {s : State} (O : OInv s) (T : TInv s) (o) : TInv (newProm o s) :=
  T.same rfl rfl (fun _ _ h _ => status_newProm (O.target_lt h))

theorem TInv.restack {s : State} (T : TInv s) (st : List Frame) : TInv { s with stack := st } :=
  T.same rfl rfl (fun _ _ _ _ => rfl)

structure GInv (s : State) : Prop where
  c : CInv s
  t : TInv s

theorem GInv.pop {s : State} (G : GInv s) {f rest} (hs : s.stack = f :: rest)
    (hn : f.todo = []) (hl : f.rest = []) :
    GInv { s with stack := rest } := ⟨⟨G.c.i.pop hs hn, G.c.o.pop hs, G.c.l.pop hs hl, G.c.r.pop hs⟩, G.t.restack rest⟩

theorem GInv.emit {s : State} (G : GInv s) (e : Event) (he : ∀ rid b v, e ≠ .invoke rid b v) : GInv (emit e s) :=
  ⟨⟨G.c.i.emit e he, G.c.o.emit e, G.c.l.emit e, G.c.r.emit e he⟩, G.t.emit e he⟩

theorem GInv.push {s : State} (G : GInv s) (f : Frame) (hp : f.plain = true) (hf : FrameOk s f) : GInv (push f s) :=
  ⟨G.c.push f hp hf, G.t.restack _⟩

theorem GInv_settle {s : State} (G : GInv s) (b q v)
    (hq : (∀ a, origin s q ≠ some (.coll a)) ∨ Event.direct q ∈ s.log) : GInv (settle b q v s) :=
  ⟨CInv_settle G.c b q v, TInv_settle G.c.o G.t b q v hq⟩

theorem GInv_newProm {s : State} (G : GInv s) (o) : GInv (newProm o s) :=
  ⟨⟨Inv_newProm G.c.i o, OInv_newProm G.c.o o, LInv_newProm G.c.l o, RInv_newProm G.c.r o⟩, TInv_newProm G.c.o G.t o⟩

theorem GInv_thenOp {s : State} (G : GInv s) (p r j)
    (hr : ∀ f, r = some f ∨ j = some f → f.ofColl = false)
    (hadp : ∀ b p', (r = some (.adopt b p') ∨ j = some (.adopt b p')) → origin s p' = some .chained) :
    GInv (thenOp p r j s) :=
  ⟨⟨Inv_thenOp G.c.i p r j, OInv_thenOp G.c.o p r j hadp, LInv_thenOp G.c.l p r j, RInv_thenOp G.c.r p r j hr⟩,
    TInv_thenOp G.c.o G.t p r j⟩

theorem not_coll_of {s : State} {q o} (h : origin s q = some o) (ho : ∀ a, o ≠ .coll a) :
    ∀ a, origin s q ≠ some (.coll a) := by
  intro a h'; rw [h] at h'; cases h'; exact ho a rfl

theorem GInv_finish {s : State} (G : GInv s) (r q) (hq : origin s q = some .chained) : GInv (finish r q s) := by
  unfold finish
  split
  · refine GInv_thenOp (G.emit _ (by intros; simp)) _ _ _ ?_ ?_
    · intro f hf
      rcases hf with hf | hf <;> cases hf <;> rfl
    · intro b p' h
      rcases h with h | h <;> cases h <;> exact hq
  · exact GInv_settle G _ _ _ (.inl (not_coll_of hq (by intros; simp)))

theorem GInv_kont {s : State} (G : GInv s) (arg k) (hk : KontOk s k) : GInv (kont arg k s) := by
  unfold kont
  split
  · exact G
  · exact GInv_finish G _ _ hk
  · exact GInv_finish G _ _ hk
  · exact GInv_settle G _ _ _ (.inl (not_coll_of hk (by intros; simp)))
  · exact GInv_settle G _ _ _ (.inl (not_coll_of hk (by intros; simp)))
  · exact G

theorem status_withColl_new (m ps) (s : State) : status (withColl m ps s) s.heap.length = some .pending := by
  simp [status, withColl, newProm]

theorem status_withColl_old {m ps} {s : State} {t} (h : t < s.heap.length) :
    status (withColl m ps s) t = status s t := status_newProm h

theorem TInv_collect {s : State} (O : OInv s) (T : TInv s) (m ps) : TInv (collect m ps s) := by
  rw [collect_eq]
  by_cases hrefs : refsOk ps s = true
  case neg => rw [if_neg hrefs]; exact T.emit _ nofun
  rw [if_pos hrefs]
  split
  · next hemp =>
    -- no inputs: the new target is fulfilled at once
    have hps : ps = [] := by simpa using hemp
    intro a r h hd
    rw [settle_colls] at h
    rw [settle_log] at hd
    rcases getElem?_snoc_eq_some.mp h with h | ⟨_, rfl⟩
    · have hlt := O.target_lt h
      refine (T a r h hd).same ?_ (settle_log ..)
      rw [status_settle_ne (Nat.ne_of_lt hlt), status_withColl_old hlt]
    · unfold TOk
      rw [show status _ (newColl m ps s).target = _ from status_settle_pending (status_withColl_new m ps s) _ _]
      cases m <;> simp [newColl, hps]
  · next hne =>
    intro a r h hd
    rcases getElem?_snoc_eq_some.mp h with h | ⟨_, rfl⟩
    · exact (T a r h hd).same (status_withColl_old (m := m) (ps := ps) (O.target_lt h)) rfl
    · have hpos : 0 < ps.length := List.length_pos_iff.mpr (by simpa using hne)
      unfold TOk
      rw [show status (push _ (withColl m ps s)) (newColl m ps s).target = _ from status_withColl_new m ps s]
      cases m <;> simp [newColl, hpos]

theorem TInv_advanced {s : State} (I : Inv s) (O : OInv s) (T : TInv s) {m a i p ps stk r}
    (TT : LoopTop s m a i p ps stk r) : TInv (advanced s m a i p ps stk) := by
  obtain ⟨hcolls, _, hlog, hstat, _⟩ := advanced_fields TT
  intro a' x h hd
  rw [hcolls] at h
  rw [hlog] at hd
  -- the loop's collector has one more registration, so far uncalled
  rcases (set_lookup (lt_of_getElem? TT.coll)).mp h with ⟨rfl, rfl⟩ | ⟨_, h⟩
  · refine (T a' r TT.coll hd).transfer (pre := []) (extra := [s.regs.length]) (hstat _ (O.target_lt TT.coll))
      rfl rfl rfl rfl rfl rfl (by rw [hlog]; rfl) (by intros; rfl) ?_
    intro rid hr
    cases List.mem_singleton.mp hr
    exact (I.fresh (Nat.le_refl _) .rej).2
  · exact (T a' x h hd).same (hstat _ (O.target_lt h)) hlog

theorem TOk_invoked {s : State} (T : TInv s) {v c todo stk} {a : Nat} {x : Coll} (h : s.colls[a]? = some x)
    (hd : Event.direct x.target ∉ s.log)
    (hnot : x.mode = .all → ∀ rid ∈ x.rids, ¬(c.rid = rid ∧ c.br = .rej)) :
    TOk (invoked s v c todo stk) x := by
  refine (T a x h hd).transfer (pre := [.invoke c.rid c.br v]) (extra := []) rfl rfl rfl rfl rfl rfl (by simp) rfl ?_ (by simp)
  intro hm rid hr
  have := hnot hm rid hr
  simp only [calls_cons, Event.isInv, Bool.and_eq_true, beq_iff_eq]
  simp [this]; rfl

theorem RInv.not_complete {s : State} (I : Inv s) (R : RInv s) {v c todo stk} (hs : s.stack = .notify v (c :: todo) :: stk)
    {a : Nat} {r : Coll} (hr : s.colls[a]? = some r) (hc : c.rid ∈ r.rids) : r.numDone < r.subs.length := by
  have hzero := I.head_uncalled hs
  have h1 : r.rids.countP (doneP r.mode s.log) < r.rids.length := by
    refine Nat.lt_of_le_of_ne List.countP_le_length fun e => ?_
    have := List.countP_eq_length.mp e _ hc
    cases hm : r.mode <;> simp [doneP, hm, hzero] at this
  rw [← R.done a r hr] at h1
  have := (R.len a r hr).1
  omega

theorem origin_ne_of_coll {s : State} (O : OInv s) {a a' : Nat} {r x : Coll} (hr : s.colls[a]? = some r)
    (hx : s.colls[a']? = some x) (hne : a' ≠ a) : x.target ≠ r.target := by
  intro e
  have h1 := O.coll a r hr
  have h2 := O.coll a' x hx
  rw [e, h1] at h2
  simp at h2; exact hne h2.symm

theorem TInv_invoked_nofail {s : State} (R : RInv s) (T : TInv s) {v c todo stk}
    (hs : s.stack = .notify v (c :: todo) :: stk) (hk : c.kind.fails = false) : TInv (invoked s v c todo stk) := by
  intro a x h hd
  refine TOk_invoked T h (fun hm => hd (List.mem_cons_of_mem _ hm)) ?_
  intro hm rid hr ⟨h1, h2⟩
  obtain ⟨k, hk'⟩ := List.getElem?_of_mem hr
  obtain ⟨q, hq⟩ := R.kind a x k c h (InSys_head hs) (h1 ▸ hk')
  rw [hm, h2] at hq
  rw [hq] at hk; cases hk

theorem status_after {s2 : State} {t t' : Nat} {b v} (h : t' ≠ t) : status (settle b t v s2) t' = status s2 t' :=
  status_settle_ne h

/-- what the last counting closure of a collector resolves the target with -/
def Coll.final (r : Coll) : Val :=
  match r.mode with
  | .all => .list r.results
  | .wait => .list (r.subs.map .prom)

/-- `TOk` without the distinction between the two kinds of collector -/
theorem TOk_iff {s : State} {r : Coll} : TOk s r ↔
    (status s r.target = some .pending →
      r.numDone < r.subs.length ∧ (r.mode = .all → ∀ rid ∈ r.rids, calls rid .rej s.log = 0)) ∧
    (∀ v, status s r.target = some (.settled .res v) → v = r.final ∧ r.numDone = r.subs.length) ∧
    (∀ e, status s r.target = some (.settled .rej e) → r.mode = .all ∧ FirstFail r.rids e s.log) := by
  unfold TOk Coll.final
  cases r.mode
  · simp
  · simp only [reduceCtorEq, false_implies, and_true, false_and, imp_false]
    exact ⟨fun ⟨h1, h2⟩ => ⟨h1, fun v h => (h2 _ v h).2, fun e h => nomatch (h2 _ e h).1⟩,
      fun ⟨h1, h2, h3⟩ => ⟨h1, fun b v h => match b, h with | .res, h => ⟨rfl, h2 v h⟩ | .rej, h => (h3 v h).elim⟩⟩

/-- a counting closure of collector `a` ran to its end: the target is resolved by it exactly if it was pending and
this was the last input -/
theorem TInv_counted {s : State} (C : CInv s) (T : TInv s) {v c todo stk a q r res' V}
    (hs : s.stack = .notify v (c :: todo) :: stk) (hk : c.kind.fails = false) (hr : s.colls[a]? = some r)
    (hf : Counts r c v res' V) :
    let s2 := push (.finish .none q) (setColl (invoked s v c todo stk) a { r with results := res', numDone := r.numDone + 1 })
    TInv (if r.numDone + 1 = r.subs.length then settle .res r.target V s2 else s2) := by
  intro s2
  have T1 : TInv (invoked s v c todo stk) := TInv_invoked_nofail C.r T hs hk
  have hnc := C.r.not_complete C.i hs hr hf.1
  have hV : V = Coll.final { r with results := res', numDone := r.numDone + 1 } := by
    rcases hf.2 with ⟨hm, _, _, _, _, rfl⟩ | ⟨hm, _, rfl⟩ <;> simp [Coll.final, hm]
  -- the final state has the log and the records of `s2`; only the target may have changed, if this was the last input
  generalize hsf : (if r.numDone + 1 = r.subs.length then settle .res r.target V s2 else s2) = sf
  have hl : sf.log = s2.log := by rw [← hsf]; split <;> simp [settle_log]
  have hc : sf.colls = s2.colls := by rw [← hsf]; split <;> simp [settle_colls]
  intro a' x hx hd
  rw [hc] at hx
  rw [hl] at hd
  rcases (set_lookup (lt_of_getElem? hr)).mp hx with ⟨rfl, rfl⟩ | ⟨hne, hx⟩
  · have T0 := TOk_iff.mp (T1 a' r hr hd)
    refine TOk_iff.mpr ?_
    simp only [hl]
    by_cases hA : r.numDone + 1 = r.subs.length ∧ status s r.target = some .pending
    · rw [show status sf r.target = some (.settled .res V) by
        rw [← hsf, if_pos hA.1, status_settle]; exact if_pos ⟨rfl, hA.2⟩]
      exact ⟨nofun, fun v' h' => by cases h'; exact ⟨hV, hA.1⟩, nofun⟩
    · rw [show status sf r.target = status s r.target by
        rw [← hsf]; split
        · next hn => rw [status_settle]; exact if_neg fun h => hA ⟨hn, h.2⟩
        · rfl]
      exact ⟨fun hp => ⟨Nat.lt_of_le_of_ne hnc fun hn => hA ⟨hn, hp⟩, (T0.1 hp).2⟩,
        fun v' h' => absurd (T0.2.1 v' h').2 (Nat.ne_of_lt hnc), T0.2.2⟩
  · refine (T1 a' x hx hd).same ?_ hl
    rw [← hsf]; split
    · exact status_settle_ne (origin_ne_of_coll C.o hr hx hne)
    · rfl

theorem TInv_allFail {s : State} (C : CInv s) (T : TInv s) {v c todo stk a q r}
    (hs : s.stack = .notify v (c :: todo) :: stk) (hk : c.kind = .wrap (.allFail a) q) (hr : s.colls[a]? = some r) :
    TInv (settle .rej r.target v (push (.finish .none q) (invoked s v c todo stk))) := by
  have hcs := InSys_head hs
  obtain ⟨hbr, r0, hr0, hmode, hrid⟩ := C.r.rid c _ q hcs hk
  rw [hr] at hr0; cases hr0
  intro a' x hx hd
  rw [settle_colls] at hx
  rw [settle_log] at hd
  have hd0 : Event.direct x.target ∉ s.log := fun hm => hd (List.mem_cons_of_mem _ hm)
  by_cases hne : a' = a
  · subst hne
    cases hr.symm.trans hx
    have T0 := TOk_iff.mp (T a' r hr hd0)
    refine TOk_iff.mpr ?_
    rw [status_settle, settle_log]
    show _ ∧ _ ∧ ∀ e, _ → _ ∧ FirstFail r.rids e (.invoke c.rid c.br v :: s.log)
    rw [hbr]
    split
    · next h =>
      -- this is the first `fail` to run: while the target was pending none of the registrations had been rejected
      exact ⟨nofun, nofun, fun e he => by cases he; exact ⟨hmode, [], c.rid, s.log, rfl, hrid, (T0.1 h.2).2 hmode⟩⟩
    · next h =>
      refine ⟨fun hp => absurd ⟨rfl, hp⟩ h, fun v' h' => ?_, fun e h' => ⟨hmode, ?_⟩⟩
      · exact absurd (T0.2.1 v' h').2 (Nat.ne_of_lt (C.r.not_complete C.i hs hr hrid))
      · simpa using ((T0.2.2 e h').2).mono (pre := [.invoke c.rid .rej v]) (extra := []) (by simp)
  · refine (TOk_invoked (v := v) (c := c) (todo := todo) (stk := stk) T hx hd0 ?_).same
      (status_settle_ne (origin_ne_of_coll C.o hr hx hne)) (settle_log ..)
    rintro _ rid hr' ⟨rfl, _⟩
    exact hne (C.r.one_coll hcs hr hx hrid hr')

theorem GInv_collect {s : State} (G : GInv s) (m ps) : GInv (collect m ps s) :=
  ⟨⟨Inv.stable.collect m ps G.c.i, OInv_collect G.c.o m ps, LInv_collect G.c.l m ps, RInv_collect G.c.r m ps⟩,
    TInv_collect G.c.o G.t m ps⟩

theorem GInv_invoked {s : State} (G : GInv s) {v c todo stk} (hs : s.stack = .notify v (c :: todo) :: stk)
    (h1 : c.kind.counts = false) (h2 : c.kind.fails = false) : GInv (invoked s v c todo stk) :=
  ⟨CInv_invoked_other G.c hs h1, TInv_invoked_nofail G.c.r G.t hs h2⟩

theorem GInv_counted {s : State} (G : GInv s) {v c todo stk a q r f res' V}
    (hs : s.stack = .notify v (c :: todo) :: stk) (hk : c.kind = .wrap f q) (hnf : (CbKind.wrap f q).fails = false)
    (hr : s.colls[a]? = some r) (hf : Counts r c v res' V) :
    let s2 := push (.finish .none q) (setColl (invoked s v c todo stk) a { r with results := res', numDone := r.numDone + 1 })
    GInv (if r.numDone + 1 = r.subs.length then settle .res r.target V s2 else s2) := by
  intro s2
  have C2 : CInv (setColl (invoked s v c todo stk) a { r with results := res', numDone := r.numDone + 1 }) :=
    ⟨(G.c.i.invoked hs).setColls _, (OInv_invoked G.c.o hs).setColl hr rfl,
      (LInv_invoked G.c.l hs).setColl hr rfl rfl rfl, RInv_invoked_counted G.c.i G.c.r hs hr hf⟩
  have C3 : CInv s2 := C2.push (.finish .none q) rfl (origin_of_cb G.c.o (InSys_head hs) hk)
  refine ⟨?_, TInv_counted G.c G.t hs (hk ▸ hnf) hr hf⟩
  split
  · exact CInv_settle C3 _ _ _
  · exact C3

theorem GInv_allFail {s : State} (G : GInv s) {v c todo stk a q r}
    (hs : s.stack = .notify v (c :: todo) :: stk) (hk : c.kind = .wrap (.allFail a) q) (hr : s.colls[a]? = some r) :
    GInv (settle .rej r.target v (push (.finish .none q) (invoked s v c todo stk))) :=
  ⟨CInv_settle ((CInv_invoked_other G.c hs (by rw [hk]; rfl)).push (.finish .none q) rfl
      (origin_of_cb G.c.o (InSys_head hs) hk)) _ _ _,
    TInv_allFail G.c G.t hs hk hr⟩

theorem GInv_invokeBody {s : State} (G : GInv s) {v c todo stk} (hs : s.stack = .notify v (c :: todo) :: stk) :
    GInv (invokeBody c v (invoked s v c todo stk)) := by
  have hcs := InSys_head hs
  unfold invokeBody
  split
  · next q hk =>
    have hoq : origin s q = some .chained := by
      have := G.c.o.cbs c hcs; rwa [Cb.q, hk] at this
    exact GInv_settle (GInv_invoked G hs (by rw [hk]; rfl) (by rw [hk]; rfl)) _ _ _
      (.inl (not_coll_of (s := invoked s v c todo stk) hoq nofun))
  · next f q hk =>
    have hoq : origin s q = some .chained := origin_of_cb G.c.o hcs hk
    unfold callFn
    split
    · exact ((GInv_invoked G hs (by rw [hk]; rfl) (by rw [hk]; rfl)).emit _ (by intros; simp)).push
        (.script v _ (.wrapper _ q)) rfl hoq
    · -- a bound method passed by the user: a settlement by user code
      exact GInv_settle (((GInv_invoked G hs (by rw [hk]; rfl) (by rw [hk]; rfl)).emit _ (by intros; simp)).push
        (.finish v q) rfl hoq) _ _ _ (.inr (List.mem_cons_self ..))
    · next b p =>
      -- adoption settles a chained promise
      have hop : origin s p = some .chained := G.c.o.adp c hcs b p q hk
      exact GInv_settle ((GInv_invoked G hs (by rw [hk]; rfl) (by rw [hk]; rfl)).push (.finish v q) rfl hoq) _ _ _
        (.inl (not_coll_of (s := push _ (invoked s v c todo stk)) hop nofun))
    · next a i =>
      obtain ⟨hb, r, hr, hm, hi⟩ := G.c.r.rid c _ q hcs hk
      rw [show (invoked s v c todo stk).colls[a]? = some r from hr]
      simp only [List.length_set, (G.c.r.len a r hr).2 hm]
      exact GInv_counted G hs hk rfl hr ⟨List.mem_of_getElem? hi, .inl ⟨hm, hb, i, hi, rfl, rfl⟩⟩
    · next a =>
      obtain ⟨_, r, hr, _, _⟩ := G.c.r.rid c _ q hcs hk
      rw [show (invoked s v c todo stk).colls[a]? = some r from hr]
      exact GInv_allFail G hs hk hr
    · next a =>
      obtain ⟨r, hr, hm, hi⟩ := G.c.r.rid c _ q hcs hk
      rw [show (invoked s v c todo stk).colls[a]? = some r from hr]
      exact GInv_counted G hs hk rfl hr ⟨hi, .inr ⟨hm, rfl, rfl⟩⟩

theorem GInv_act {s : State} (G : GInv s) (arg a) : GInv (act arg a s) := by
  unfold act
  split
  · next p r j =>
    refine GInv_thenOp G _ _ _ ?_ ?_
    · intro f hf
      rcases hf with hf | hf
      · cases r <;> cases hf; rfl
      · cases j <;> cases hf; rfl
    · intro b p' h
      rcases h with h | h
      · cases r <;> simp at h
      · cases j <;> simp at h
  · split
    · exact GInv_settle (G.emit _ (by intros; simp)) _ _ _ (.inr (List.mem_cons_self ..))
    · exact G.emit _ (by intros; simp)
  · split
    · exact GInv_settle (G.emit _ (by intros; simp)) _ _ _ (.inr (List.mem_cons_self ..))
    · exact G.emit _ (by intros; simp)
  · exact GInv_newProm G _
  · exact (GInv_newProm G _).push (.script .none _ (.ctor _ s.heap.length)) rfl (origin_newProm_new _ _)
  · exact GInv_collect G _ _
  · exact GInv_collect G _ _

theorem GInv_advanced {s : State} (G : GInv s) {m a i p ps stk} (hs : s.stack = .loop m a i (p :: ps) :: stk) :
    GInv (advanced s m a i p ps stk) := by
  obtain ⟨r, T⟩ := G.c.l.loopTop hs
  exact ⟨⟨Inv_thenOp ((Inv.stable.note _ (G.c.i.pop hs rfl)).push (.loop m a (i + 1) ps) nofun) _ _ _, OInv_advanced G.c.o T,
    LInv_advanced G.c.l T, RInv_advanced G.c.i G.c.r T⟩, TInv_advanced G.c.i G.c.o G.t T⟩

theorem GInv_step {s s' : State} (G : GInv s) (h : step s = some s') : GInv s' := by
  unfold step at h
  split at h
  · cases h
  · next f rest hst =>
    have htop : f ∈ s.stack := hst ▸ List.mem_cons_self ..
    dsimp only at h
    split at h <;> simp only [Option.some.injEq] at h <;> subst h
    · exact G.pop hst rfl rfl
    · rw [invoke_eq]; exact GInv_invokeBody G hst
    · exact GInv_finish (G.pop hst rfl rfl) _ _ (G.c.o.frameOk htop)
    · exact GInv_kont (G.pop hst rfl rfl) _ _ (G.c.o.frameOk htop)
    · next arg a acts k => exact GInv_act ((G.pop hst rfl rfl).push (.script arg acts k) rfl (G.c.o.frameOk htop)) _ _
    · exact G.pop hst rfl rfl
    · exact GInv_advanced G hst

theorem GInv_init : GInv init := ⟨CInv_init, fun _ _ h => absurd h init_colls⟩

theorem Evolves.ginv {s s' : State} (h : Evolves s s') (G : GInv s) : GInv s' := by
  induction h with
  | refl => exact G
  | step _ hs ih => exact GInv_step ih hs
  | op arg a _ ih => exact GInv_act ih arg a

theorem Reach.ginv {s : State} (h : Reach s) : GInv s := Evolves.ginv h GInv_init

theorem GInv.quiet_registered {s : State} (G : GInv s) (hq : s.stack = []) {a : Nat} {r : Coll} (hr : s.colls[a]? = some r) :
    r.rids.length = r.subs.length := by
  have hlen := (G.c.r.len a r hr).1
  by_cases h : r.rids.length < r.subs.length
  · have := G.c.l.run a r hr h
    rw [hq] at this; simp [loopCnt] at this
  · omega

theorem GInv.done_iff {s : State} (G : GInv s) (hq : s.stack = []) {a : Nat} {r : Coll} (hr : s.colls[a]? = some r) :
    r.numDone = r.subs.length ↔ ∀ rid ∈ r.rids, doneP r.mode s.log rid = true := by
  rw [G.c.r.done a r hr, ← G.quiet_registered hq hr, List.countP_eq_length]

/-- input `p` has reported to a collector of kind `m`: fulfilled (`Promise.all`) / settled either way (`wait_promises`) -/
def Reported (m : Mode) (s : State) (p : Nat) : Prop :=
  ∃ b v, status s p = some (.settled b v) ∧ (m = .all → b = .res)

theorem Inv.quiet_reported {s : State} (I : Inv s) (hq : s.stack = []) {rid p : Nat} (hr : s.regs[rid]? = some p) (m : Mode) :
    doneP m s.log rid = true ↔ Reported m s p := by
  obtain ⟨st, hst⟩ := status_some_of_lt (I.regs_lt rid p hr)
  have Q := I.count hr
  rw [hq] at Q
  unfold Reported
  rw [hst]
  cases st with
  | pending =>
    have h1 := (Q.1 hst .res).2
    have h2 := (Q.1 hst .rej).2
    cases m <;> simp [doneP, h1, h2]
  | settled b v =>
    have h1 := I.quiet_called hq hr hst
    have h2 := fun b' hb => (((Q.2 b v hst).2 b' hb).2)
    cases b
    · have := h2 .rej nofun; cases m <;> simp [doneP, h1, this]
    · have := h2 .res nofun; cases m <;> simp [doneP, h1, this]

/-- **A collector once nothing is running** (unless user code called `do_resolve`/`do_reject` on the returned promise
itself): pending with an input that has not reported and (`Promise.all`) no input rejected; or fulfilled with
`r.final`, every input having reported (`Promise.all`: `results` holds the inputs' values in input order); or
(`Promise.all` only) rejected with the error of the first `fail` callback that ran, the error of a rejected input. -/
theorem GInv.coll_spec {s : State} (G : GInv s) (hq : s.stack = []) {a : Nat} {r : Coll} (hr : s.colls[a]? = some r)
    (hd : Event.direct r.target ∉ s.log) :
    (status s r.target = some .pending ∧ (∃ (i p : Nat), r.subs[i]? = some p ∧ ¬ Reported r.mode s p) ∧
      (r.mode = .all → ∀ (i p : Nat) (e : Val), r.subs[i]? = some p → status s p ≠ some (.settled .rej e))) ∨
    (status s r.target = some (.settled .res r.final) ∧ ∀ (i p : Nat), r.subs[i]? = some p → Reported r.mode s p ∧
      (r.mode = .all → ∃ v, r.results[i]? = some v ∧ status s p = some (.settled .res v))) ∨
    (r.mode = .all ∧ ∃ e, status s r.target = some (.settled .rej e) ∧ FirstFail r.rids e s.log ∧
      ∃ (j p : Nat), r.subs[j]? = some p ∧ status s p = some (.settled .rej e)) := by
  have I := G.c.i
  -- every registration of the record is on one of its inputs, and (the loop is through) every input has one
  have back : ∀ rid ∈ r.rids, ∃ (i p : Nat), r.subs[i]? = some p ∧ s.regs[rid]? = some p := fun rid hrid =>
    let ⟨i, hi⟩ := List.getElem?_of_mem hrid; ⟨i, G.c.r.reg a r i rid hr hi⟩
  have pair : ∀ (i p : Nat), r.subs[i]? = some p → ∃ rid, r.rids[i]? = some rid ∧ s.regs[rid]? = some p := by
    intro i p hp
    have hi : i < r.rids.length := by rw [G.quiet_registered hq hr]; exact lt_of_getElem? hp
    obtain ⟨p', h1, h2⟩ := G.c.r.reg a r i _ hr (List.getElem?_eq_getElem hi)
    rw [hp] at h1; cases h1
    exact ⟨_, List.getElem?_eq_getElem hi, h2⟩
  have T := TOk_iff.mp (G.t a r hr hd)
  have hdone := G.done_iff hq hr
  obtain ⟨st, hst⟩ := status_some_of_lt (G.c.o.target_lt hr)
  rw [hst] at T
  cases st with
  | pending =>
    obtain ⟨hlt, hnorej⟩ := T.1 rfl
    refine .inl ⟨hst, Classical.byContradiction fun hno => Nat.ne_of_lt hlt (hdone.mpr fun rid hrid => ?_), ?_⟩
    · obtain ⟨i, p, hp, hreg⟩ := back rid hrid
      exact (I.quiet_reported hq hreg _).mpr (Classical.byContradiction fun h => hno ⟨i, p, hp, h⟩)
    · intro hm i p e hp he
      obtain ⟨rid, hrid, hreg⟩ := pair i p hp
      have := I.quiet_called hq hreg he
      have := hnorej hm rid (List.mem_of_getElem? hrid)
      omega
  | settled b v =>
    cases b with
    | res =>
      obtain ⟨rfl, hn⟩ := T.2.1 v rfl
      refine .inr (.inl ⟨hst, fun i p hp => ?_⟩)
      obtain ⟨rid, hrid, hreg⟩ := pair i p hp
      have hrep := (I.quiet_reported hq hreg _).mp (hdone.mp hn rid (List.mem_of_getElem? hrid))
      refine ⟨hrep, fun hm => ?_⟩
      obtain ⟨b, v, hv, hb⟩ := hrep
      cases hb hm
      have hc := I.quiet_called hq hreg hv
      obtain ⟨v', hmem⟩ := calls_pos_iff.mp (show 0 < calls rid .res s.log by omega)
      have h1 := (I.logs rid .res v' hmem).status hreg
      rw [hv] at h1; cases h1
      exact ⟨v, G.c.r.res a r i rid v hr hm hrid hmem, hv⟩
    | rej =>
      obtain ⟨hm, hff⟩ := T.2.2 v rfl
      refine .inr (.inr ⟨hm, v, hst, hff, ?_⟩)
      obtain ⟨l1, rid', l2, hlog, hrid', _⟩ := hff
      obtain ⟨j, p', hp', hreg'⟩ := back rid' hrid'
      exact ⟨j, p', hp', (I.logs rid' .rej v (by rw [hlog]; simp)).status hreg'⟩

end RedunModel.Promise
