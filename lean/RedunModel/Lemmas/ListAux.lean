/-
Facts about `List` that several models need and core does not have.
-/
namespace RedunModel

/-- a list is cut at the first occurrence of a separator in one way only -/
theorem append_cons_inj {α : Type} {e : α} {l₁ l₂ r₁ r₂ : List α} (h1 : e ∉ l₁) (h2 : e ∉ l₂)
    (h : l₁ ++ e :: r₁ = l₂ ++ e :: r₂) : l₁ = l₂ ∧ r₁ = r₂ := by
  induction l₁ generalizing l₂ with
  | nil =>
    cases l₂ with
    | nil => exact ⟨rfl, (List.cons.inj h).2⟩
    | cons c t => exact absurd ((List.cons.inj h).1 ▸ List.mem_cons_self) h2
  | cons a t ih =>
    cases l₂ with
    | nil => exact absurd ((List.cons.inj h).1 ▸ List.mem_cons_self) h1
    | cons b u =>
      obtain ⟨e1, e2⟩ := ih (fun m => h1 (.tail _ m)) (fun m => h2 (.tail _ m)) (List.cons.inj h).2
      exact ⟨by rw [(List.cons.inj h).1, e1], e2⟩

/-- … and at the last occurrence -/
theorem append_cons_inj_right {α : Type} {e : α} {l₁ l₂ r₁ r₂ : List α} (h1 : e ∉ r₁) (h2 : e ∉ r₂)
    (h : l₁ ++ e :: r₁ = l₂ ++ e :: r₂) : l₁ = l₂ ∧ r₁ = r₂ := by
  have := append_cons_inj (e := e) (l₁ := r₁.reverse) (l₂ := r₂.reverse) (r₁ := l₁.reverse) (r₂ := l₂.reverse)
    (by simpa) (by simpa) (by simpa using congrArg List.reverse h)
  exact ⟨List.reverse_inj.1 this.2, List.reverse_inj.1 this.1⟩

theorem countP_flip {α : Type} {l : List α} {P P' : α → Bool} {x : α} (hnd : l.Nodup) (hx : x ∈ l)
    (hne : ∀ y ∈ l, y ≠ x → P' y = P y) (h0 : P x = false) (h1 : P' x = true) :
    l.countP P' = l.countP P + 1 := by
  induction l with
  | nil => cases hx
  | cons y ys ih =>
    rw [List.nodup_cons] at hnd
    simp only [List.countP_cons]
    by_cases hxy : x = y
    · subst hxy
      rw [List.countP_congr fun z hz => by rw [hne z (.tail _ hz) fun e => hnd.1 (e ▸ hz)], h0, h1]; rfl
    · rw [ih hnd.2 ((List.mem_cons.1 hx).resolve_left hxy) fun z hz => hne z (.tail _ hz),
        hne y List.mem_cons_self (Ne.symm hxy)]
      omega

theorem foldl_inv {σ α : Type} {I : σ → Prop} (f : σ → α → σ) (l : List α) (s : σ) (h0 : I s)
    (step : ∀ s a, a ∈ l → I s → I (f s a)) : I (l.foldl f s) := by
  induction l generalizing s with
  | nil => exact h0
  | cons a l ih =>
    exact ih (f s a) (step s a List.mem_cons_self h0) fun s' b hb => step s' b (List.mem_cons_of_mem a hb)

/-- folding "append unless already there" (a Python list used as an ordered set) adds exactly the new elements -/
theorem mem_foldl_append_new {α : Type} [∀ (x : α) (l : List α), Decidable (x ∈ l)] {xs acc : List α} {y : α} :
    y ∈ xs.foldl (fun l x => if x ∈ l then l else l ++ [x]) acc ↔ y ∈ acc ∨ y ∈ xs := by
  induction xs generalizing acc with
  | nil => simp
  | cons x xs ih =>
    rw [List.foldl_cons, ih, List.mem_cons, ← or_assoc]
    refine or_congr_left ?_
    split
    · exact ⟨.inl, fun h => h.elim id (· ▸ ‹_›)⟩
    · simp

theorem count_erase_add_count_snoc {α : Type} [BEq α] [LawfulBEq α] (p l : List α) (c j : α) (h : p.contains c = true) :
    (p.erase c).count j + (l ++ [c]).count j = p.count j + l.count j := by
  have : 0 < p.count c := List.count_pos_iff.2 (List.contains_iff_mem.1 h)
  rw [List.count_erase, List.count_append, List.count_cons, List.count_nil]
  by_cases e : c = j
  · subst e; simp only [beq_self_eq_true, if_true]; omega
  · simp only [beq_iff_eq, e, if_false]; omega

end RedunModel
