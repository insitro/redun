/-
Event uniqueness and twin bookkeeping of `SchedCore` for real (and dry) runs (C06, second clause):
every job has at most one "token" (a queued event, a place in the waiting list, or being in flight), a
settled job has none, `Promise.all` never under-counts, and a collapsed duplicate settles exactly as the job
it was collapsed onto.

First the invariant `Tok`.  Every handler is a chain of steps of four kinds: a frame (`FtW`: nothing `Tok` reads
changes; `Ft`: the same, `waiting` aside), a token taken away (`tok_shrink`), a token given to the job being handled,
which has none (`tok_enqueue`, `tok_pendAppend`, `tok_setInfl`, with `Hd`), and the steps that change job fields
(`tok_addTwin`, `tok_spawnOne`, `Settle.tok`).  The first three kinds and `tok_addTwin` keep `next`, `status`,
`parent` and `evalFailed`, and are instances of one lemma, `tok_step`.

Then the induction over `Reachable` that carries the invariants that need each other (`All`, `reachable_all`): its step
(`step_all`) takes every invariant at the state before the step, takes the head event off the queue once, and hands each handler
lemma what is known of that event's job (`tok_head_facts`, `All.execHd`).  The accounting invariant `Core` is not carried: it is
`Tok` read on `occA`, `C`, `Q` plus the limits invariant `Lim` and `TwQ` (`core_of`).  `reachable_inv`, `reachable_live`,
`reachable_tok`, `reachable_noReg`, `reachable_cse` are its projections.

Then, without any invariant, what one step settles and records (`Obs`, `SetObs`, `step_eff`); with `reachable_tok` this
gives `settled_stable`, `twin_outcome`, `twin_step` and, for the same-execution table, `reachable_cseW` and
`cse_hit_witness`.
-/
import RedunModel.Lemmas.SchedFrame
import RedunModel.Lemmas.SchedLim
import RedunModel.Lemmas.SchedCse
namespace RedunModel.SchedCore

/-- number of tokens of job `j`: queued events, waiting-list entries, being in flight -/
def tot (s : S) (j : JobId) : Nat :=
  tk s j + s.pendingLimits.count j + (if s.inflight j then 1 else 0)

theorem countP_map_exec (l : List JobId) (j : JobId) :
    (l.map Ev.exec).countP (fun e => evJob e == j) = l.count j := by
  induction l with
  | nil => rfl
  | cons a l ih =>
    rw [List.map_cons, List.countP_cons, List.count_cons, ih]; rfl

theorem tot_checkPending (p : Prog) (s : S) (j : JobId) : tot (checkPending p s) j = tot s j := by
  unfold tot tk
  rw [checkPending_queue, checkPending_pend, checkPending_inflight, List.countP_append, countP_map_exec]
  have := scan_count p s.specOf s.used s.pendingLimits [] (fun _ => 0) j
  omega

theorem count_exec_le_tk (s : S) (j : JobId) : s.queue.count (Ev.exec j) ≤ tk s j := by
  unfold tk
  rw [List.count_eq_countP]
  apply List.countP_mono_left
  intro e _ he
  simp only [beq_iff_eq] at he
  subst he; simp [evJob]

theorem EW_le_tot (s : S) (j : JobId) : EW s j ≤ tot s j := by
  unfold EW tot
  have := count_exec_le_tk s j
  omega

theorem tk_le_tot (s : S) (j : JobId) : tk s j ≤ tot s j := by unfold tot; omega

theorem EW_pos_of_mem {s : S} {j : JobId} (h : Ev.exec j ∈ s.queue) : 1 ≤ EW s j :=
  Nat.le_trans (List.count_pos_iff.mpr h) (Nat.le_add_right _ _)

theorem tot_pos_of_mem {s : S} {e : Ev} (h : e ∈ s.queue) : 1 ≤ tot s (evJob e) :=
  Nat.le_trans (tk_pos_of_mem h) (tk_le_tot s _)

theorem not_mem_of_tot_zero {s : S} {e : Ev} {j : JobId} (h : tot s j = 0) (he : evJob e = j) : e ∉ s.queue := by
  intro hm
  have := tot_pos_of_mem hm
  rw [he] at this; omega

theorem infl_false_of_tot_zero {s : S} {j : JobId} (h : tot s j = 0) : s.inflight j = false := by
  unfold tot at h
  by_cases hi : s.inflight j = true
  · simp [hi] at h
  · simpa using hi

theorem EW_zero_of_tot_zero {s : S} {j : JobId} (h : tot s j = 0) : EW s j = 0 :=
  Nat.le_zero.mp (h ▸ EW_le_tot s j)

/-- `x` exempts one job from the `Promise.all` lower bound (its children are being spawned); `y` is the job
being rejected, whose twins are still being rejected in-line. -/
structure Tok (s : S) (x y : Option JobId) : Prop where
  tok : ∀ j, tot s j ≤ 1 ∧ (¬ pend s j → tot s j = 0) ∧ (s.next ≤ j → tot s j = 0 ∧ pend s j)
  par : ∀ j c, c < s.next → (s.jobs c).parent = some j → pend s c → (s.jobs j).evalFailed = false →
    tot s j = 0 ∧ pend s j
  -- up to the handling of its `done` event a job has no children
  pre : ∀ j, (1 ≤ EW s j ∨ s.inflight j = true ∨ ∃ f, Ev.done j f ∈ s.queue) → noKids s j
  -- a job still to be executed has no twins (they join a registered, hence submitted, job)
  pre2 : ∀ j, 1 ≤ EW s j → (s.jobs j).twins = []
  rej : ∀ j c, c < s.next → (s.jobs c).parent = some j → (s.jobs c).status = Status.rejected →
    (s.jobs j).evalFailed = true
  -- `Promise.all` never under-counts: `waiting` covers the pending children (`Live.cnt` is the converse)
  lb : ∀ j, some j ≠ x → (s.jobs j).evalFailed = false → cntPend s j ≤ (s.jobs j).waiting
  parlt : ∀ c par, c < s.next → (s.jobs c).parent = some par → par < c
  -- a twin `t` of `X`: waits without token while `X` is pending; is not rejected if `X` resolved; is rejected if `X`
  -- was (`y` aside); is served by `done t true` only; has no children; `X` is no twin; `t` has no other
  -- representative; `t` has been created
  tw : ∀ X t, t ∈ (s.jobs X).twins →
    (pend s X → pend s t ∧ tot s t = 0) ∧
    ((s.jobs X).status = Status.resolved → (s.jobs t).status ≠ Status.rejected) ∧
    (some X ≠ y → (s.jobs X).status = Status.rejected → (s.jobs t).status = Status.rejected) ∧
    Ev.reject t ∉ s.queue ∧ Ev.done t false ∉ s.queue ∧ noKids s t ∧ ¬ Tw s X ∧
    (∀ Y, t ∈ (s.jobs Y).twins → Y = X) ∧ t < s.next
  nodup : ∀ X, (s.jobs X).twins.Nodup

theorem Tok.tw_wait {s : S} {x y : Option JobId} {X t : JobId} (ht : Tok s x y) (hm : t ∈ (s.jobs X).twins) :
    pend s X → pend s t ∧ tot s t = 0 := (ht.tw X t hm).1
theorem Tok.tw_noReject {s : S} {x y : Option JobId} {X t : JobId} (ht : Tok s x y) (hm : t ∈ (s.jobs X).twins) :
    Ev.reject t ∉ s.queue := (ht.tw X t hm).2.2.2.1
theorem Tok.tw_noRedo {s : S} {x y : Option JobId} {X t : JobId} (ht : Tok s x y) (hm : t ∈ (s.jobs X).twins) :
    Ev.done t false ∉ s.queue := (ht.tw X t hm).2.2.2.2.1
theorem Tok.tw_noKids {s : S} {x y : Option JobId} {X t : JobId} (ht : Tok s x y) (hm : t ∈ (s.jobs X).twins) :
    noKids s t := (ht.tw X t hm).2.2.2.2.2.1
theorem Tok.tw_notTw {s : S} {x y : Option JobId} {X t : JobId} (ht : Tok s x y) (hm : t ∈ (s.jobs X).twins) :
    ¬ Tw s X := (ht.tw X t hm).2.2.2.2.2.2.1
theorem Tok.tw_uniq {s : S} {x y : Option JobId} {X t : JobId} (ht : Tok s x y) (hm : t ∈ (s.jobs X).twins) :
    ∀ Y, t ∈ (s.jobs Y).twins → Y = X := (ht.tw X t hm).2.2.2.2.2.2.2.1
theorem Tok.tw_lt {s : S} {x y : Option JobId} {X t : JobId} (ht : Tok s x y) (hm : t ∈ (s.jobs X).twins) :
    t < s.next := (ht.tw X t hm).2.2.2.2.2.2.2.2

/-- the job whose event is being handled: created, still pending, and left without a token when the event was
taken off the queue -/
structure Hd (s : S) (j : JobId) : Prop where
  tot0 : tot s j = 0
  pd : pend s j
  lt : j < s.next

/-- The walk through the clauses of `Tok` for a step that keeps `next` and the job fields that `Tok` reads, `waiting`
and `twins` aside.  A job outside `G` can only lose tokens and queued events.  A job in `G` (the job being handled) may
gain a token: `hG` asks that it has none and no children, and what `Tok.pre2`, `.tw` ask of a job that has a token.  Twins may
be added: `htw` asks of a new twin `t` of `X` the clause of `Tok.tw` in `s'`, that `t` was no twin and had none, and
that `X` is not waiting to be executed. -/
theorem tok_step {s s' : S} {x x' y : Option JobId} (G : JobId → Prop) [DecidablePred G] (ht : Tok s x y)
    (hn : s'.next = s.next) (hst : ∀ i, (s'.jobs i).status = (s.jobs i).status)
    (hef : ∀ i, (s'.jobs i).evalFailed = (s.jobs i).evalFailed)
    (hpa : ∀ i, (s'.jobs i).parent = (s.jobs i).parent)
    (hlb : ∀ i, some i ≠ x' → (s.jobs i).evalFailed = false → cntPend s i ≤ (s'.jobs i).waiting)
    (htot : ∀ i, tot s' i ≤ tot s i + (if G i then 1 else 0)) (hEW : ∀ i, ¬ G i → EW s' i ≤ EW s i)
    (hinfl : ∀ i, ¬ G i → s'.inflight i = true → s.inflight i = true)
    (hq : ∀ e, (∀ k, e ≠ Ev.exec k) → e ∈ s'.queue → e ∈ s.queue ∨ G (evJob e))
    (hG : ∀ j, G j → Hd s j ∧ noKids s j ∧ (1 ≤ EW s' j → (s.jobs j).twins = []) ∧
      ∀ X, j ∈ (s.jobs X).twins → ¬ pend s X ∧ Ev.reject j ∉ s'.queue ∧ Ev.done j false ∉ s'.queue)
    (htw : ∀ X t, t ∈ (s'.jobs X).twins → t ∈ (s.jobs X).twins ∨
      ¬ Tw s t ∧ (s.jobs t).twins = [] ∧ EW s' X = 0 ∧
      (pend s' X → pend s' t ∧ tot s' t = 0) ∧
      ((s'.jobs X).status = Status.resolved → (s'.jobs t).status ≠ Status.rejected) ∧
      (some X ≠ y → (s'.jobs X).status = Status.rejected → (s'.jobs t).status = Status.rejected) ∧
      Ev.reject t ∉ s'.queue ∧ Ev.done t false ∉ s'.queue ∧ noKids s' t ∧ ¬ Tw s' X ∧
      (∀ Y, t ∈ (s'.jobs Y).twins → Y = X) ∧ t < s'.next)
    (hnd : ∀ X, (s'.jobs X).twins.Nodup) : Tok s' x' y := by
  have hpend : ∀ i, pend s' i ↔ pend s i := by intro i; unfold pend; rw [hst]
  have hnoKids := noKids_congr hn hpa
  have hle : ∀ i, ¬ G i → tot s' i ≤ tot s i := fun i hi => by simpa only [if_neg hi, Nat.add_zero] using htot i
  have hz : ∀ i, ¬ G i → tot s i = 0 → tot s' i = 0 := fun i hi h => Nat.le_zero.mp (h ▸ hle i hi)
  have hold : ∀ i, ¬ G i → ∀ e, (∀ k, e ≠ Ev.exec k) → evJob e = i → e ∈ s'.queue → e ∈ s.queue :=
    fun i hi e hk he hm => (hq e hk hm).resolve_right fun h => hi (he ▸ h)
  refine ⟨fun i => ?_, fun i c hc hpc hpp he => ?_, fun i hpre' => ?_, fun i hi => ?_, fun i c hc hpc hs => ?_,
    fun i hx he => ?_, fun c par hc hpc => ?_, fun X t hm => ?_, hnd⟩
  · obtain ⟨a, b, c⟩ := ht.tok i
    rw [hpend, hn]
    by_cases hi : G i
    · obtain ⟨⟨g1, g2, g3⟩, -⟩ := hG i hi
      have := htot i
      rw [if_pos hi, g1] at this
      exact ⟨this, fun h => absurd g2 h, fun h => absurd g3 (Nat.not_lt.mpr h)⟩
    · exact ⟨Nat.le_trans (hle i hi) a, fun h => hz i hi (b h), fun h => ⟨hz i hi (c h).1, (c h).2⟩⟩
  · rw [hn] at hc; rw [hpa] at hpc; rw [hpend] at hpp; rw [hef] at he
    rw [hpend]
    obtain ⟨a, b⟩ := ht.par i c hc hpc hpp he
    by_cases hi : G i
    · exact absurd hpc ((hG i hi).2.1 c hc)
    · exact ⟨hz i hi a, b⟩
  · rw [hnoKids]
    by_cases hi : G i
    · exact (hG i hi).2.1
    · exact ht.pre i (hpre'.imp (fun a => Nat.le_trans a (hEW i hi)) (Or.imp (hinfl i hi)
        fun ⟨f, a⟩ => ⟨f, hold i hi _ (fun _ => nofun) rfl a⟩))
  · have h0 : (s.jobs i).twins = [] := by
      by_cases hj : G i
      · exact (hG i hj).2.2.1 hi
      · exact ht.pre2 i (Nat.le_trans hi (hEW i hj))
    refine List.eq_nil_iff_forall_not_mem.mpr fun t hm => ?_
    rcases htw i t hm with h | ⟨-, -, h, -⟩
    · rw [h0] at h; cases h
    · omega
  · rw [hn] at hc; rw [hpa] at hpc; rw [hst] at hs
    rw [hef]; exact ht.rej i c hc hpc hs
  · rw [hef] at he
    rw [cntPend_congr hn hpa hst]; exact hlb i hx he
  · rw [hn] at hc; rw [hpa] at hpc; exact ht.parlt c par hc hpc
  · rcases htw X t hm with hm | ⟨-, -, -, hN⟩
    case inr => exact hN
    obtain ⟨a, b, c, d, e', f, g, i, k⟩ := ht.tw X t hm
    have hGt : G t → ¬ pend s X ∧ Ev.reject t ∉ s'.queue ∧ Ev.done t false ∉ s'.queue :=
      fun h => (hG t h).2.2.2 X hm
    refine ⟨fun hpX => ?_, by rw [hst, hst]; exact b, by rw [hst, hst]; exact c, ?_, ?_,
      (hnoKids t).mpr f, fun ⟨Z, hZ⟩ => (htw Z X hZ).elim (fun h => g ⟨Z, h⟩) (fun h => by rw [h.2.1] at hm; cases hm),
      fun Y hY => (htw Y t hY).elim (i Y) fun h => absurd ⟨X, hm⟩ h.1, by rw [hn]; exact k⟩
    · rw [hpend] at hpX
      rw [hpend]
      exact ⟨(a hpX).1, hz t (fun h => (hGt h).1 hpX) (a hpX).2⟩
    · by_cases htj : G t
      · exact (hGt htj).2.1
      · exact fun h => d (hold t htj _ (fun _ => nofun) rfl h)
    · by_cases htj : G t
      · exact (hGt htj).2.2
      · exact fun h => e' (hold t htj _ (fun _ => nofun) rfl h)

/-- frame: tokens, non-exec events and the job fields that `Tok` reads are unchanged, `waiting` aside (`FtW`) -/
structure Ft (s s' : S) : Prop where
  next : s'.next = s.next
  infl : s'.inflight = s.inflight
  st : ∀ i, (s'.jobs i).status = (s.jobs i).status
  ef : ∀ i, (s'.jobs i).evalFailed = (s.jobs i).evalFailed
  par : ∀ i, (s'.jobs i).parent = (s.jobs i).parent
  tw : ∀ i, (s'.jobs i).twins = (s.jobs i).twins
  ew : ∀ j, EW s' j = EW s j
  tt : ∀ j, tot s' j = tot s j
  qm : ∀ e, (∀ k, e ≠ Ev.exec k) → (e ∈ s'.queue ↔ e ∈ s.queue)

theorem Ft.refl (s : S) : Ft s s :=
  ⟨rfl, rfl, fun _ => rfl, fun _ => rfl, fun _ => rfl, fun _ => rfl, fun _ => rfl, fun _ => rfl, fun _ _ => Iff.rfl⟩

theorem Ft.trans {a b c : S} (h1 : Ft a b) (h2 : Ft b c) : Ft a c :=
  ⟨h2.next.trans h1.next, h2.infl.trans h1.infl, fun i => (h2.st i).trans (h1.st i),
    fun i => (h2.ef i).trans (h1.ef i), fun i => (h2.par i).trans (h1.par i), fun i => (h2.tw i).trans (h1.tw i),
    fun j => (h2.ew j).trans (h1.ew j), fun j => (h2.tt j).trans (h1.tt j),
    fun e he => (h2.qm e he).trans (h1.qm e he)⟩

theorem Ft.pendIff {s s' : S} (h : Ft s s') (j : JobId) : pend s' j ↔ pend s j := by unfold pend; rw [h.st]
theorem Ft.twIff {s s' : S} (h : Ft s s') (j : JobId) : Tw s' j ↔ Tw s j := by unfold Tw; simp only [h.tw]
theorem Ft.noKidsIff {s s' : S} (h : Ft s s') (j : JobId) : noKids s' j ↔ noKids s j := noKids_congr h.next h.par j

theorem Ft.hd {s s' : S} {j : JobId} (h : Ft s s') (hd : Hd s j) : Hd s' j :=
  ⟨by rw [h.tt]; exact hd.tot0, (h.pendIff j).mpr hd.pd, by rw [h.next]; exact hd.lt⟩

theorem Ft.tok_of_lb {s s' : S} {x x' y : Option JobId} (h : Ft s s') (ht : Tok s x y)
    (hlb : ∀ j, some j ≠ x' → (s.jobs j).evalFailed = false → cntPend s j ≤ (s'.jobs j).waiting) : Tok s' x' y :=
  tok_step (G := fun _ => False) ht (hn := h.next) (hst := h.st) (hef := h.ef) (hpa := h.par) (hlb := hlb)
    (htot := fun i => Nat.le_of_eq (h.tt i)) (hEW := fun i _ => Nat.le_of_eq (h.ew i))
    (hinfl := fun _ _ hi => h.infl ▸ hi) (hq := fun e he hm => Or.inl ((h.qm e he).mp hm)) (hG := nofun)
    (htw := fun X _ hm => Or.inl (h.tw X ▸ hm)) (hnd := fun X => by rw [h.tw]; exact ht.nodup X)

/-- a frame that keeps `waiting` too, hence `Tok` as it is (`FtW.tok`) -/
structure FtW (s s' : S) : Prop where
  ft : Ft s s'
  wt : ∀ i, (s'.jobs i).waiting = (s.jobs i).waiting

theorem FtW.refl (s : S) : FtW s s := ⟨Ft.refl s, fun _ => rfl⟩
theorem FtW.trans {a b c : S} (h1 : FtW a b) (h2 : FtW b c) : FtW a c :=
  ⟨h1.ft.trans h2.ft, fun i => (h2.wt i).trans (h1.wt i)⟩
theorem FtW.tok {s s' : S} {x y : Option JobId} (h : FtW s s') (ht : Tok s x y) : Tok s' x y :=
  h.ft.tok_of_lb ht fun j hx he => by rw [h.wt]; exact ht.lb j hx he

theorem ftw_of_eq {s s' : S} (hn : s'.next = s.next) (hi : s'.inflight = s.inflight) (hj : s'.jobs = s.jobs)
    (hq : s'.queue = s.queue) (hpl : s'.pendingLimits = s.pendingLimits) : FtW s s' :=
  ⟨⟨hn, hi, fun _ => by rw [hj], fun _ => by rw [hj], fun _ => by rw [hj], fun _ => by rw [hj],
    fun _ => by unfold EW; rw [hq, hpl], fun _ => by unfold tot tk; rw [hq, hpl, hi], fun _ _ => by rw [hq]⟩,
    fun _ => by rw [hj]⟩

theorem ftw_cached (s : S) (j : JobId) : FtW s (setJob s j fun js => { js with wasCached := true }) :=
  ⟨⟨rfl, rfl, setJob_keep (·.status) s j _ fun _ => rfl, setJob_keep (·.evalFailed) s j _ fun _ => rfl,
    setJob_keep (·.parent) s j _ fun _ => rfl, setJob_keep (·.twins) s j _ fun _ => rfl,
    fun _ => rfl, fun _ => rfl, fun _ _ => Iff.rfl⟩, setJob_keep (·.waiting) s j _ fun _ => rfl⟩

theorem ftw_checkPending (p : Prog) (s : S) : FtW s (checkPending p s) :=
  ⟨⟨rfl, rfl, fun _ => rfl, fun _ => rfl, fun _ => rfl, fun _ => rfl, fun j => checkPending_EW p s j,
    fun j => tot_checkPending p s j,
    fun e he => by rw [checkPending_queue]; exact mem_append_exec_iff _ _ e he⟩, fun _ => rfl⟩

theorem ftw_consume (p : Prog) (s : S) (j : JobId) : FtW s (consume p s j) := ftw_of_eq rfl rfl rfl rfl rfl
theorem ftw_release (p : Prog) (s : S) (j : JobId) : FtW s (release p s j) := ftw_of_eq rfl rfl rfl rfl rfl

theorem ftw_releaseIf (p : Prog) (s : S) (j : JobId) : FtW s (releaseIf p s j) :=
  releaseIf_cases p s j (fun _ => (ftw_release p s j).trans (ftw_checkPending p _)) fun _ => FtW.refl s

theorem ftw_finalize (p : Prog) (s : S) (j : JobId) : FtW s (finalize p s j) := by
  rw [finalize_eq]; exact ftw_of_eq rfl rfl rfl rfl rfl

/-- tokens only disappear: the head event is taken off the queue, or the executor reports -/
theorem tok_shrink {s : S} {x y : Option JobId} (ht : Tok s x y) {q : List Ev} {f : JobId → Bool}
    (hq : q.Sublist s.queue) (hf : ∀ i, f i = true → s.inflight i = true) :
    Tok { s with queue := q, inflight := f } x y := by
  refine tok_step (G := fun _ => False) ht (hn := rfl) (hst := fun _ => rfl) (hef := fun _ => rfl) (hpa := fun _ => rfl)
    (hlb := ht.lb) (htw := fun _ _ => Or.inl) (hnd := ht.nodup) (htot := fun j => Nat.le_trans ?_ (Nat.le_add_right _ _))
    (hEW := fun j _ => Nat.add_le_add_right (hq.count_le _) _) (hinfl := fun i _ => hf i)
    (hq := fun e _ hm => Or.inl (hq.subset hm)) (hG := nofun)
  unfold tot tk
  refine Nat.add_le_add (Nat.add_le_add_right hq.countP_le _) ?_
  split
  · rw [if_pos (hf j ‹_›)]; exact Nat.le_refl _
  · exact Nat.zero_le _

theorem tok_tl {s : S} {x y : Option JobId} (ht : Tok s x y) : Tok (tl s) x y :=
  tok_shrink ht (List.tail_sublist _) fun _ h => h

theorem tot_append (s s' : S) (l : List Ev) (hq : s'.queue = s.queue ++ l) (hpl : s'.pendingLimits = s.pendingLimits)
    (hi : s'.inflight = s.inflight) (j : JobId) : tot s' j = tot s j + l.countP (fun e => evJob e == j) := by
  unfold tot
  rw [tk_append s s' l hq, hpl, hi]
  omega

theorem tot_enqueue (s : S) (e : Ev) (j : JobId) :
    tot (enqueue s e) j = tot s j + (if evJob e = j then 1 else 0) := by
  rw [tot_append s (enqueue s e) [e] rfl rfl rfl]
  simp only [List.countP_cons, List.countP_nil, beq_iff_eq, Nat.zero_add]

theorem tok_enqueue {s : S} {x y : Option JobId} (e : Ev) (j : JobId) (ht : Tok s x y) (hej : evJob e = j)
    (hne : ∀ k, e ≠ Ev.exec k) (hd : Hd s j) (hnk : noKids s j)
    (htwin : ∀ X, j ∈ (s.jobs X).twins → ¬ pend s X ∧ e ≠ Ev.reject j ∧ e ≠ Ev.done j false) :
    Tok (enqueue s e) x y := by
  have htot := hd.tot0
  have hnew : ∀ e', evJob e' = j → e' ∈ (enqueue s e).queue → e' = e :=
    fun e' he' h => ((mem_enqueue_iff s e e').mp h).resolve_left (not_mem_of_tot_zero htot he')
  have hEW := (fr_enqueue s e hne).ew
  have hEW0 : ¬ 1 ≤ EW (enqueue s e) j := by rw [hEW, EW_zero_of_tot_zero htot]; exact Nat.not_succ_le_zero 0
  refine tok_step (G := (j = ·)) ht (hn := rfl) (hst := fun _ => rfl) (hef := fun _ => rfl) (hpa := fun _ => rfl)
    (hlb := ht.lb) (htw := fun _ _ => Or.inl) (hnd := ht.nodup)
    (htot := fun i => Nat.le_of_eq (hej ▸ tot_enqueue s e i))
    (hEW := fun i _ => Nat.le_of_eq (hEW i)) (hinfl := fun _ _ h => h)
    (hq := fun e' _ h => ((mem_enqueue_iff s e e').mp h).imp id fun h' => by rw [h']; exact hej.symm)
    (hG := fun i hi => ?_)
  subst hi
  refine ⟨hd, hnk, fun h => absurd h hEW0, fun X hm => ⟨(htwin X hm).1, fun h => ?_, fun h => ?_⟩⟩
  · exact (htwin X hm).2.1 (hnew _ rfl h).symm
  · exact (htwin X hm).2.2 (hnew _ rfl h).symm

theorem tok_pendAppend {s : S} {x y : Option JobId} (j : JobId) (ht : Tok s x y) (hd : Hd s j) (hnk : noKids s j)
    (htw : (s.jobs j).twins = []) (hnt : ¬ Tw s j) :
    Tok { s with pendingLimits := s.pendingLimits ++ [j] } x y := by
  refine tok_step (G := (· = j)) ht (hn := rfl) (hst := fun _ => rfl) (hef := fun _ => rfl) (hpa := fun _ => rfl)
    (hlb := ht.lb) (htw := fun _ _ => Or.inl) (hnd := ht.nodup) (htot := fun i => Nat.le_of_eq ?_)
    (hEW := fun i hi => by rw [EW_pendAppend, if_neg hi]; exact Nat.le_refl _) (hinfl := fun _ _ h => h)
    (hq := fun _ _ h => Or.inl h) (hG := fun i hi => ?_)
  · unfold tot
    show tk s i + (s.pendingLimits ++ [j]).count i + (if s.inflight i = true then 1 else 0) = _
    rw [count_append_one]; omega
  · subst hi
    exact ⟨hd, hnk, fun _ => htw, fun X hm => absurd ⟨X, hm⟩ hnt⟩

theorem tok_setInfl {s : S} {x y : Option JobId} (j : JobId) (sub : List JobId) (ht : Tok s x y)
    (hd : Hd s j) (hnk : noKids s j) (htw : (s.jobs j).twins = [])
    (hnt : ¬ Tw s j) :
    Tok { s with inflight := fun i => if i = j then true else s.inflight i, submits := sub } x y := by
  have htot := hd.tot0
  have hi := infl_false_of_tot_zero htot
  refine tok_step (G := (· = j)) ht (hn := rfl) (hst := fun _ => rfl) (hef := fun _ => rfl) (hpa := fun _ => rfl)
    (hlb := ht.lb) (htw := fun _ _ => Or.inl) (hnd := ht.nodup) (htot := fun i => Nat.le_of_eq ?_)
    (hEW := fun _ _ => Nat.le_refl _) (hinfl := fun i hi h => by simpa [hi] using h)
    (hq := fun _ _ h => Or.inl h) (hG := fun i hi => ?_)
  · unfold tot tk
    by_cases e : i = j
    · subst e; simp [hi]
    · simp [e]
  · subst hi
    exact ⟨hd, hnk, fun _ => htw, fun X hm => absurd ⟨X, hm⟩ hnt⟩

/-- `Job.collapse`: the pre-exec job `j` (no token left) joins the twins of the pending, non-collapsed `t0` -/
theorem tok_addTwin {s s' : S} {x y : Option JobId} {j t0 : JobId} (h : Collapsed s s' t0 j) (ht : Tok s x y) (hd : Hd s j)
    (hnk : noKids s j) (htwj : (s.jobs j).twins = []) (hnt : ¬ Tw s j)
    (hpt : pend s t0) (hnt0 : ¬ Tw s t0) (hne : t0 ≠ j) (hew0 : EW s t0 = 0) : Tok s' x y := by
  have ⟨htot, hp, hlt⟩ := hd
  have hTw : ∀ u, Tw s' u → Tw s u ∨ u = j := fun u ⟨X, hX⟩ => (h.mem hX).imp (fun a => ⟨X, a⟩) (·.1)
  have htt : ∀ i, tot s' i = tot s i := by intro i; unfold tot tk; rw [h.queue, h.pl, h.infl]
  have hj0 : ∀ e, evJob e = j → e ∉ s.queue := fun e he => not_mem_of_tot_zero htot he
  refine tok_step (G := fun _ => False) ht (hn := h.next) (hst := h.st) (hef := h.ef) (hpa := h.par)
    (hlb := fun i hx he => by rw [h.wt]; exact ht.lb i hx he) (htot := fun i => Nat.le_of_eq (htt i))
    (hEW := fun i _ => Nat.le_of_eq (h.ew i)) (hinfl := fun _ _ hi => h.infl ▸ hi)
    (hq := fun _ _ hm => Or.inl (h.queue ▸ hm)) (hG := nofun) (htw := fun X t hm => ?_) (hnd := fun X => ?_)
  · refine (h.mem hm).imp id fun ⟨e1, e2⟩ => ?_
    subst e1; subst e2
    unfold pend at hpt
    refine ⟨hnt, htwj, by rw [h.ew]; exact hew0, fun _ => ⟨by unfold pend; rw [h.st]; exact hp, by rw [htt]; exact htot⟩,
      ?_, ?_, ?_, ?_, ?_, ?_, ?_, by rw [h.next]; exact hlt⟩
    · intro hr; rw [h.st, hpt] at hr; cases hr
    · intro _ hr; rw [h.st, hpt] at hr; cases hr
    · rw [h.queue]; exact hj0 _ rfl
    · rw [h.queue]; exact hj0 _ rfl
    · exact (noKids_congr h.next h.par _).mpr hnk
    · intro hT
      rcases hTw X hT with c' | c'
      · exact hnt0 c'
      · exact hne c'
    · intro Y hY
      rcases h.mem hY with h1 | ⟨_, h1⟩
      · exact absurd ⟨Y, h1⟩ hnt
      · exact h1
  · rw [h.tw]; split
    · rename_i e; subst e
      rw [List.nodup_append]
      refine ⟨ht.nodup X, by simp, ?_⟩
      intro a ha b hb
      rw [List.mem_singleton.mp hb]
      intro e; subst e; exact hnt ⟨X, ha⟩
    · exact ht.nodup X

theorem tot_spawnOne (s : S) (j : JobId) (c : SpecId) (i : JobId) :
    tot (spawnOne s j c) i = tot s i + (if s.next = i then 1 else 0) := by
  rw [tot_append s (spawnOne s j c) [Ev.exec s.next] rfl rfl rfl]
  simp only [List.countP_cons, List.countP_nil, beq_iff_eq, evJob, Nat.zero_add]

theorem tok_spawnOne {s : S} {y : Option JobId} {j : JobId} {c : SpecId} (ht : Tok s (some j) y)
    (hd : Hd s j) (hnt : ¬ Tw s j) :
    Tok (spawnOne s j c) (some j) y := by
  have ⟨htot, hp, hlt⟩ := hd
  have hjn : j ≠ s.next := Nat.ne_of_lt hlt
  have hjobs := spawnOne_jobs_ne s j c
  have hpend : ∀ i, i ≠ s.next → (pend (spawnOne s j c) i ↔ pend s i) := by
    intro i hi; unfold pend; rw [hjobs i hi]
  have htn := tot_spawnOne s j c
  have htne : ∀ i, i ≠ s.next → tot (spawnOne s j c) i = tot s i := by
    intro i hi; rw [htn, if_neg fun e => hi e.symm]; rfl
  have hEWne : ∀ i, i ≠ s.next → EW (spawnOne s j c) i = EW s i := by
    intro i hi; rw [spawnOne_EW, if_neg hi]; rfl
  -- a parent is older than its child, so the fresh id is nobody's parent
  have hnokid : ∀ c', c' < s.next → (s.jobs c').parent ≠ some s.next := fun c' hc' hp' =>
    Nat.lt_irrefl _ (Nat.lt_trans (ht.parlt c' _ hc' hp') hc')
  have hfresh := (ht.tok s.next).2.2 (Nat.le_refl _)
  have hj0 : ∀ e, evJob e = j → e ∉ s.queue := fun e he => not_mem_of_tot_zero htot he
  have hold : ∀ e, (∀ k, e ≠ Ev.exec k) → e ∈ (spawnOne s j c).queue → e ∈ s.queue := fun e he hm =>
    (spawnOne_mem.mp hm).resolve_right (he _)
  have hnoKids_old : ∀ i, i ≠ j → noKids s i → noKids (spawnOne s j c) i := by
    intro i hij h c' hc' hpc
    rcases spawnOne_kid hc' hpc with ⟨_, e⟩ | ⟨hc'', hpc⟩
    · exact hij e
    · exact h c' hc'' hpc
  refine ⟨?_, ?_, ?_, ?_, ?_, ?_, ?_, ?_, ?_⟩
  · intro i
    by_cases hin : i = s.next
    · subst hin
      rw [htn, hfresh.1]
      refine ⟨by simp, fun h => absurd (by unfold pend; rw [spawnOne_jobs_new]) h, fun h => ?_⟩
      exact absurd h (Nat.not_succ_le_self _)
    · obtain ⟨a, b, d⟩ := ht.tok i
      rw [htne i hin, hpend i hin]
      exact ⟨a, b, fun h => d (Nat.le_of_succ_le h)⟩
  · intro i c' hc' hpc hpp he
    rcases spawnOne_kid hc' hpc with ⟨_, rfl⟩ | ⟨hc'', hpc⟩
    · rw [htne _ hjn, hpend _ hjn]; exact ⟨htot, hp⟩
    · have hin : i ≠ s.next := fun e => hnokid c' hc'' (e ▸ hpc)
      rw [hjobs i hin] at he
      rw [htne i hin, hpend i hin]
      exact ht.par i c' hc'' hpc ((hpend c' (Nat.ne_of_lt hc'')).mp hpp) he
  · intro i hq
    by_cases hin : i = s.next
    · subst hin
      intro c' hc' hpc
      rcases spawnOne_kid hc' hpc with ⟨_, e⟩ | ⟨hc'', hpc⟩
      · exact hjn e.symm
      · exact hnokid c' hc'' hpc
    · have hq' : 1 ≤ EW s i ∨ s.inflight i = true ∨ ∃ f, Ev.done i f ∈ s.queue :=
        hq.imp (fun a => by rw [← hEWne i hin]; exact a) (Or.imp_right fun ⟨f, a⟩ => ⟨f, hold _ (fun _ => nofun) a⟩)
      refine hnoKids_old i (fun e => ?_) (ht.pre i hq')
      -- the handled job has no token
      subst e
      rcases hq' with a | a | ⟨f, a⟩
      · have := EW_zero_of_tot_zero htot; omega
      · rw [infl_false_of_tot_zero htot] at a; cases a
      · exact hj0 _ rfl a
  · intro i hi
    by_cases hin : i = s.next
    · subst hin; rw [spawnOne_jobs_new]
    · rw [hEWne i hin] at hi; rw [hjobs i hin]; exact ht.pre2 i hi
  · intro i c' hc' hpc hs
    rcases spawnOne_kid hc' hpc with ⟨rfl, _⟩ | ⟨hc'', hpc⟩
    · rw [spawnOne_jobs_new] at hs; cases hs
    · rw [hjobs c' (Nat.ne_of_lt hc'')] at hs
      rw [hjobs i fun e => hnokid c' hc'' (e ▸ hpc)]
      exact ht.rej i c' hc'' hpc hs
  · intro i hx he
    have hij : i ≠ j := fun e => hx (by rw [e])
    rw [spawnOne_cnt, if_neg hij]
    by_cases hin : i = s.next
    · subst hin
      rw [cntPend_zero_of_noKids hnokid]; exact Nat.zero_le _
    · rw [hjobs i hin] at he ⊢
      exact ht.lb i hx he
  · intro c' par hc' hpc
    rcases spawnOne_kid hc' hpc with ⟨rfl, rfl⟩ | ⟨hc'', hpc⟩
    · exact hlt
    · exact ht.parlt c' par hc'' hpc
  · intro X t hm
    obtain ⟨hXn, hm⟩ := spawnOne_twin hm
    obtain ⟨a, b, c', d, e', f, g, i, k⟩ := ht.tw X t hm
    have htn' : t ≠ s.next := Nat.ne_of_lt k
    refine ⟨?_, ?_, ?_, fun hq => d (hold _ (fun _ => nofun) hq), fun hq => e' (hold _ (fun _ => nofun) hq),
      hnoKids_old t (fun e => hnt (e ▸ ⟨X, hm⟩)) f, fun h => g (spawnOne_Tw s j c X h),
      fun Y hY => i Y (spawnOne_twin hY).2, Nat.lt_succ_of_lt k⟩
    · intro hpX
      rw [hpend X hXn] at hpX
      rw [hpend t htn', htne t htn']; exact a hpX
    · rw [hjobs X hXn, hjobs t htn']; exact b
    · rw [hjobs X hXn, hjobs t htn']; exact c'
  · intro X
    by_cases hXn : X = s.next
    · subst hXn; rw [spawnOne_jobs_new]; exact List.nodup_nil
    · rw [hjobs X hXn]; exact ht.nodup X

theorem tok_exempt {s : S} {y : Option JobId} (j : JobId) (ht : Tok s none y) : Tok s (some j) y :=
  { ht with lb := fun i _ he => ht.lb i (by simp) he }

theorem tok_spawnFold {j : JobId} {y : Option JobId} (cs : List SpecId) (s : S) (ht : Tok s (some j) y)
    (hd : Hd s j) (hnt : ¬ Tw s j) :
    Tok (cs.foldl (fun s c => spawnOne s j c) s) (some j) y :=
  (spawnFold_ind (I := fun s' => Tok s' (some j) y ∧ tot s' j = 0 ∧ pend s' j ∧ ¬ Tw s' j) j cs s hd.lt ⟨ht, hd.tot0, hd.pd, hnt⟩
    fun s' c _ hlt' ⟨a, b, d, e⟩ =>
      have hjn : j ≠ s'.next := Nat.ne_of_lt hlt'
      ⟨tok_spawnOne a ⟨b, d, hlt'⟩ e, by rw [tot_spawnOne, b, if_neg hjn.symm],
        by unfold pend; rw [spawnOne_jobs_ne s' j c j hjn]; exact d, fun h => e (spawnOne_Tw s' j c j h)⟩).1

theorem ft_setWaiting (s : S) (j : JobId) (n : Nat) : Ft s (setJob s j fun js => { js with waiting := n }) :=
  ⟨rfl, rfl, setJob_keep (·.status) s j _ fun _ => rfl, setJob_keep (·.evalFailed) s j _ fun _ => rfl,
    setJob_keep (·.parent) s j _ fun _ => rfl, setJob_keep (·.twins) s j _ fun _ => rfl,
    fun _ => rfl, fun _ => rfl, fun _ _ => Iff.rfl⟩

theorem tok_setWaiting {s : S} {y : Option JobId} {j : JobId} (n : Nat) (ht : Tok s (some j) y)
    (hn : (s.jobs j).evalFailed = false → cntPend s j ≤ n) :
    Tok (setJob s j fun js => { js with waiting := n }) none y := by
  refine (ft_setWaiting s j n).tok_of_lb ht ?_
  intro i _ he
  by_cases hij : i = j
  · subst hij; simp only [setJob, if_true]; exact hn he
  · simp only [setJob, hij, if_false]
    exact ht.lb i (fun e => hij (Option.some.inj e)) he

theorem tok_spawn {s : S} {j : JobId} (cs : List SpecId) (ht : Tok s none none) (hd : Hd s j) (hnk : noKids s j)
    (hnt : ¬ Tw s j) : Tok (spawn s j cs) none none := by
  refine spawn_cases s j cs (fun _ => ?_) (fun _ => ?_)
  · have fw := ft_setWaiting s j 0
    exact tok_enqueue _ j (tok_setWaiting 0 (tok_exempt j ht) fun _ => Nat.le_of_eq (cntPend_zero_of_noKids hnk)) rfl
      (fun _ => nofun) (fw.hd hd) ((fw.noKidsIff j).mpr hnk)
      (fun X hm => absurd ⟨X, by rw [fw.tw] at hm; exact hm⟩ hnt)
  · have e := (spawnFold_frame j cs s).2.1 j
    rw [if_pos rfl, cntPend_zero_of_noKids hnk] at e
    exact tok_setWaiting cs.length (tok_spawnFold cs s (tok_exempt j ht) hd hnt) fun _ => by omega

theorem doneJob_tok (p : Prog) (s : S) (j : JobId) (f : Bool) (ht : Tok s none none) (hd : Hd s j) (hnk : noKids s j)
    (hnt : f = false → ¬ Tw s j)
    (hX : ∀ X, j ∈ (s.jobs X).twins → ¬ pend s X) : Tok (doneJob p s j f) none none := by
  rw [doneJob_eq]
  have f2 : ∀ et, FtW s { releaseIf p s j with evalTable := et } := fun _ =>
    (ftw_releaseIf p s j).trans (ftw_of_eq rfl rfl rfl rfl rfl)
  refine doneRest_anyTable p _ j f (P := fun s' => Tok s' none none) (fun _ et => ?_) (fun hf et => ?_)
  · exact tok_enqueue _ j ((f2 et).tok ht) rfl (fun _ => nofun) ((f2 et).ft.hd hd) (((f2 et).ft.noKidsIff j).mpr hnk)
      (fun X hm => ⟨fun h => hX X (by rw [← (f2 et).ft.tw]; exact hm) (((f2 et).ft.pendIff X).mp h), nofun, nofun⟩)
  · exact tok_spawn _ ((f2 et).tok ht) ((f2 et).ft.hd hd) (((f2 et).ft.noKidsIff j).mpr hnk)
      fun h => hnt hf (((f2 et).ft.twIff j).mp h)

section
variable {s s' : S} {u : JobId} {b : Bool}

/-- the only token a settling step creates is the event that tells the parent -/
theorem Settle.tot_eq (h : Settle s s' u b) (i : JobId) :
    tot s' i = tot s i ∨ (tot s' i = tot s i + 1 ∧ Told s u b i) := by
  unfold tot
  rw [h.pl, h.infl]
  rcases h.queue with q | ⟨par, t, q⟩
  · left; unfold tk; rw [q]
  · rw [tk_append s s' _ q]
    simp only [List.countP_cons, List.countP_nil, evJob_tellEv, beq_iff_eq, Nat.zero_add]
    by_cases e : par = i
    · rw [if_pos e]; exact Or.inr ⟨by omega, e ▸ t⟩
    · rw [if_neg e]; exact Or.inl rfl

theorem Settle.tot_other (h : Settle s s' u b) (i : JobId) (hne : (s.jobs u).parent ≠ some i) : tot s' i = tot s i :=
  (h.tot_eq i).resolve_right fun a => hne a.2.1

/-- stated as the folds over the twins of `u` ask it of their list (`hl` of `serveTwins_tok`, `rejectTwins_tok`) -/
theorem Settle.twins_wait {y : Option JobId} (h : Settle s s' u b) (ht : Tok s none y) (hd : Hd s u) (t : JobId)
    (hm : t ∈ (s'.jobs u).twins) : t ∈ (s'.jobs u).twins ∧ pend s' t ∧ tot s' t = 0 := by
  have hm0 : t ∈ (s.jobs u).twins := by rw [h.tw] at hm; exact hm
  have a := ht.tw_wait hm0 hd.pd
  have htu : t ≠ u := by intro e; subst e; exact ht.tw_notTw hm0 ⟨t, hm0⟩
  refine ⟨hm, ?_, ?_⟩
  · unfold pend; rw [h.st, if_neg htu]; exact a.1
  · rw [h.tot_other t (ht.tw_noKids hm0 u hd.lt)]; exact a.2

/-- The pending job `u`, its last event taken off the queue, settles on branch `b`.  A twin settles like the job
it was collapsed onto (`hX`); a rejected job is the one being handled, or one of its twins (`hy`). -/
theorem Settle.tok {y : Option JobId} (h : Settle s s' u b) (ht : Tok s none y)
    (hd : Hd s u)
    (hk : ∀ c, c < s.next → (s.jobs c).parent = some u → pend s c → (s.jobs u).evalFailed = true)
    (hX : ∀ X, u ∈ (s.jobs X).twins → (s.jobs X).status = outcome b)
    (hy : b = true → some u = y ∨ Tw s u) : Tok s' none y := by
  have ⟨htot, hp, hlt⟩ := hd
  have hpend := h.pendIff
  have hparne : ∀ par, (s.jobs u).parent = some par → par ≠ u := by
    intro par hpar e; have := ht.parlt u par hlt hpar; subst e; exact Nat.lt_irrefl _ this
  have hmem : ∀ e, e ∈ s'.queue → e ∈ s.queue ∨ ((s.jobs u).parent = some (evJob e) ∧ ∀ k f, e ≠ Ev.done k f) := by
    intro e he
    refine (h.mem he).imp id ?_
    rintro ⟨par, t, rfl⟩
    exact ⟨by rw [evJob_tellEv]; exact t.1, fun k f => by cases b <;> nofun⟩
  have hnoKids := noKids_congr h.next h.par
  have hTw : ∀ i, Tw s' i ↔ Tw s i := Tw_congr h.tw
  have hef0 : ∀ i, (s'.jobs i).evalFailed = false →
      (s.jobs i).evalFailed = false ∧ (b = true → (s.jobs u).parent ≠ some i) := by
    intro i he
    rw [h.ef] at he
    split at he
    · cases he
    · rename_i hn; exact ⟨he, fun hb hpar => hn ⟨hb, hpar⟩⟩
  -- `Promise.all` still counts every pending child: a resolved child is counted off
  have hlb : ∀ i, (s'.jobs i).evalFailed = false → cntPend s' i ≤ (s'.jobs i).waiting := by
    intro i he
    obtain ⟨he0, hnb⟩ := hef0 i he
    have h0 := ht.lb i (by simp) he0
    rw [h.wt]
    rcases h.cnt i with ⟨e, n⟩ | ⟨e, hpar⟩
    · rw [e, if_neg fun c => n ⟨c.2, hp, hlt⟩]; exact h0
    · have hb : b = false := by
        cases b
        · rfl
        · exact absurd hpar (hnb rfl)
      rw [if_pos ⟨hb, hpar⟩]; omega
  refine ⟨?_, ?_, ?_, ?_, ?_, ?_, ?_, ?_, ?_⟩
  · intro i
    obtain ⟨a, b', c⟩ := ht.tok i
    rw [h.next]
    rcases h.tot_eq i with e | ⟨e, e1, e2, _⟩
    · rw [e]
      refine ⟨a, fun hnp => ?_, fun hn => ⟨(c hn).1, ?_⟩⟩
      · by_cases hij : i = u
        · subst hij; exact htot
        · exact b' (fun hpi => hnp ((hpend i).mpr ⟨hpi, hij⟩))
      · exact (hpend i).mpr ⟨(c hn).2, fun e' => absurd hlt (Nat.not_lt.mpr (e' ▸ hn))⟩
    · obtain ⟨t0, pp⟩ := ht.par i u hlt e1 hp e2
      rw [e, t0]
      refine ⟨by omega, fun hnp => absurd ((hpend i).mpr ⟨pp, hparne i e1⟩) hnp, fun hn => ?_⟩
      exact absurd (Nat.lt_trans (ht.parlt u i hlt e1) hlt) (Nat.not_lt.mpr hn)
  · intro i c hc hpc hpp he
    rw [h.next] at hc; rw [h.par] at hpc
    obtain ⟨he0, hnb⟩ := hef0 i he
    obtain ⟨hpp0, _⟩ := (hpend c).mp hpp
    have hiu : i ≠ u := by
      intro e; subst e
      have := hk c hc hpc hpp0; rw [he0] at this; cases this
    obtain ⟨t0, pp⟩ := ht.par i c hc hpc hpp0 he0
    refine ⟨?_, (hpend i).mpr ⟨pp, hiu⟩⟩
    rcases h.tot_eq i with e | ⟨_, e1, _, e3⟩
    · rw [e]; exact t0
    · -- `i` was told: of a rejection its evaluation would have failed; of a resolution only by its last child
      exfalso
      cases b with
      | true => exact hnb rfl e1
      | false =>
        have hl := hlb i he
        rw [h.wt, if_pos ⟨rfl, e1⟩, e3 rfl] at hl
        exact cntPend_eq_zero.mp (Nat.le_zero.mp hl) c (by rw [h.next]; exact hc) (by rw [h.par]; exact hpc) hpp
  · intro i hq
    rw [hnoKids]; apply ht.pre i
    rcases hq with a | a | ⟨f, a⟩
    · exact Or.inl (by rw [← h.ew]; exact a)
    · exact Or.inr (Or.inl (by rw [← h.infl]; exact a))
    · exact Or.inr (Or.inr ⟨f, (hmem _ a).resolve_right fun n => n.2 i f rfl⟩)
  · intro i hi; rw [h.ew] at hi; rw [h.tw]; exact ht.pre2 i hi
  · intro i c hc hpc hs
    rw [h.next] at hc; rw [h.par] at hpc; rw [h.st] at hs
    rw [h.ef]
    by_cases hcu : c = u
    · subst hcu
      rw [if_pos rfl] at hs
      have hb : b = true := by
        cases b
        · exact absurd hs (by decide)
        · rfl
      rw [if_pos ⟨hb, hpc⟩]
    · rw [if_neg hcu] at hs
      have := ht.rej i c hc hpc hs
      split
      · rfl
      · exact this
  · intro i _ he; exact hlb i he
  · intro c par hc hpc
    rw [h.next] at hc; rw [h.par] at hpc; exact ht.parlt c par hc hpc
  · intro X t hm
    rw [h.tw] at hm
    obtain ⟨a, b', c, d, e', f, g, i, k⟩ := ht.tw X t hm
    -- no event of a twin is queued by the step: a twin has no children
    have hq : ∀ e, evJob e = t → e ∈ s'.queue → e ∈ s.queue := fun e he hm' =>
      (hmem e hm').resolve_right fun n => f u hlt (he ▸ n.1)
    refine ⟨?_, ?_, ?_, fun hq' => d (hq _ rfl hq'), fun hq' => e' (hq _ rfl hq'), (hnoKids t).mpr f,
      fun hT => g ((hTw X).mp hT), ?_, by rw [h.next]; exact k⟩
    · intro hpX
      obtain ⟨hpX0, _⟩ := (hpend X).mp hpX
      obtain ⟨pt, tt0⟩ := a hpX0
      have htu : t ≠ u := by
        intro e; subst e
        have := hX X hm; unfold pend at hpX0; rw [hpX0] at this; exact outcome_ne_pending b this.symm
      exact ⟨(hpend t).mpr ⟨pt, htu⟩, by rw [h.tot_other t (f u hlt)]; exact tt0⟩
    · intro hXr
      rw [h.st] at hXr ⊢
      by_cases htu : t = u
      · subst htu
        rw [if_pos rfl]
        by_cases hXu : X = t
        · rw [if_pos hXu] at hXr; rw [hXr]; nofun
        · rw [if_neg hXu] at hXr; rw [← hX X hm, hXr]; nofun
      · rw [if_neg htu]
        by_cases hXu : X = u
        · subst hXu; have := (a hp).1; unfold pend at this; rw [this]; nofun
        · rw [if_neg hXu] at hXr; exact b' hXr
    · intro hyX hXr
      rw [h.st] at hXr ⊢
      by_cases htu : t = u
      · subst htu
        have hXt : X ≠ t := by intro e; subst e; exact g ⟨_, hm⟩
        rw [if_neg hXt] at hXr
        rw [if_pos rfl, ← hX X hm]; exact hXr
      · rw [if_neg htu]
        by_cases hXu : X = u
        · subst hXu
          rw [if_pos rfl] at hXr
          have hb : b = true := by
            cases b
            · exact absurd hXr (by decide)
            · rfl
          exact (hy hb).elim (fun e => absurd e hyX) fun e => absurd e g
        · rw [if_neg hXu] at hXr; exact c hyX hXr
    · intro Y hY; rw [h.tw] at hY; exact i Y hY
  · intro X; rw [h.tw]; exact ht.nodup X

end

theorem serveTwins_tok {y : Option JobId} (j : JobId) (l : List JobId) (s : S) (ht : Tok s none y)
    (hl : ∀ t, t ∈ l → t ∈ (s.jobs j).twins ∧ pend s t ∧ tot s t = 0) (hnd : l.Nodup) (hnp : ¬ pend s j) :
    Tok (l.foldl serveTwin s) none y :=
  (foldl_inv_nodup (I := fun s => Tok s none y ∧ ¬ pend s j)
    (P := fun s t => t ∈ (s.jobs j).twins ∧ pend s t ∧ tot s t = 0) _ l hnd s ⟨ht, hnp⟩ hl
    fun s a ⟨ht, hnp⟩ ⟨hma, hpa, hta⟩ => by
      have fc := ftw_cached s a
      refine ⟨⟨tok_enqueue _ a (fc.tok ht) rfl (by intro k; simp) (fc.ft.hd ⟨hta, hpa, ht.tw_lt hma⟩)
          ((fc.ft.noKidsIff a).mpr (ht.tw_noKids hma)) ?_,
        fun h => hnp ((fc.ft.pendIff j).mp h)⟩, fun t hta' ⟨h1, h2, h3⟩ => ⟨?_, ?_, ?_⟩⟩
      · intro X hm
        rw [fc.ft.tw] at hm
        have : X = j := ht.tw_uniq hma X hm
        subst this
        exact ⟨fun h => hnp ((fc.ft.pendIff X).mp h), by simp, by simp⟩
      · show t ∈ ((setJob s a fun js => { js with wasCached := true }).jobs j).twins
        rw [fc.ft.tw]; exact h1
      · show pend (setJob s a fun js => { js with wasCached := true }) t
        exact (fc.ft.pendIff t).mpr h2
      · rw [serveTwin, tot_enqueue, fc.ft.tt, h3]
        have : ¬ a = t := fun e => hta' e.symm
        simp [evJob, this]).1

theorem rejectTwin_tok (p : Prog) (s : S) (j t : JobId) (ht : Tok s none (some j)) (hm : t ∈ (s.jobs j).twins)
    (hp : pend s t) (htot : tot s t = 0) (hrj : (s.jobs j).status = Status.rejected) :
    Tok (rejectTwin p s t) none (some j) ∧
    (∀ i, (s.jobs t).parent ≠ some i → tot (rejectTwin p s t) i = tot s i) := by
  rw [rejectTwin_eq]
  have f0 := ftw_cached s t
  generalize (setJob s t fun js => { js with wasCached := true }) = s0 at f0
  have eff := settleEff p true s0 t
  generalize settle p true s0 t = s2 at eff
  have t2 : Tok s2 none (some j) := by
    refine eff.tok (f0.tok ht) (f0.ft.hd ⟨htot, hp, ht.tw_lt hm⟩)
      (fun c hc hpc _ => absurd hpc ((f0.ft.noKidsIff t).mpr (ht.tw_noKids hm) c hc)) ?_
      fun _ => Or.inr ((f0.ft.twIff t).mpr ⟨j, hm⟩)
    intro X hX
    rw [f0.ft.tw] at hX
    have : X = j := ht.tw_uniq hm X hX
    subst this
    rw [f0.ft.st]; exact hrj
  have f3 := ftw_finalize p s2 t
  refine ⟨f3.tok t2, fun i' hne => ?_⟩
  rw [f3.ft.tt, eff.tot_other i' (by rw [f0.ft.par]; exact hne), f0.ft.tt]

/-- the twins still to be rejected wait without token; which twins and statuses the fold changes is read off `Sv` -/
theorem rejectTwins_tok (p : Prog) (j : JobId) (l : List JobId) (s : S) (ht : Tok s none (some j))
    (hl : ∀ t, t ∈ l → t ∈ (s.jobs j).twins ∧ pend s t ∧ tot s t = 0) (hnd : l.Nodup)
    (hrj : (s.jobs j).status = Status.rejected) : Tok (l.foldl (rejectTwin p) s) none (some j) :=
  (foldl_inv_nodup (I := fun s => Tok s none (some j) ∧ (s.jobs j).status = Status.rejected)
    (P := fun s t => t ∈ (s.jobs j).twins ∧ pend s t ∧ tot s t = 0) _ l hnd s ⟨ht, hrj⟩ hl
    fun s a ⟨ht, hrj⟩ ⟨hma, hpa, hta⟩ => by
      obtain ⟨t1, tt1⟩ := rejectTwin_tok p s j a ht hma hpa hta hrj
      have o := sv_rejectTwin p s a ⟨j, hma⟩
      have hja : j ∉ [a] := fun e => ht.tw_notTw hma ⟨j, List.mem_singleton.mp e ▸ hma⟩
      refine ⟨⟨t1, by rw [o.st, if_neg hja]; exact hrj⟩, fun t hta' ⟨h1, h2, h3⟩ => ⟨by rw [o.tw]; exact h1, ?_, ?_⟩⟩
      · unfold pend; rw [o.st, if_neg fun e => hta' (List.mem_singleton.mp e)]; exact h2
      · rw [tt1 t (ht.tw_noKids h1 a (ht.tw_lt hma))]; exact h3).1

theorem tok_close {s : S} {j : JobId} (ht : Tok s none (some j))
    (hc : (s.jobs j).status = Status.rejected → ∀ t, t ∈ (s.jobs j).twins → (s.jobs t).status = Status.rejected) :
    Tok s none none := by
  refine { ht with tw := ?_ }
  intro X t hm
  obtain ⟨a, b, c, d, e', f, g, i, k⟩ := ht.tw X t hm
  refine ⟨a, b, fun _ hX => ?_, d, e', f, g, i, k⟩
  by_cases hXj : X = j
  · subst hXj; exact hc hX t hm
  · exact c (fun e => hXj (Option.some.inj e)) hX

theorem tok_open {s : S} (j : JobId) (ht : Tok s none none) : Tok s none (some j) := by
  refine { ht with tw := ?_ }
  intro X t hm
  obtain ⟨a, b, c, d, e', f, g, i, k⟩ := ht.tw X t hm
  exact ⟨a, b, fun _ hX => c (by simp) hX, d, e', f, g, i, k⟩

theorem resolveJob_tok (p : Prog) (s : S) (j : JobId) (ht : Tok s none none) (hd : Hd s j)
    (hk : ∀ c, c < s.next → (s.jobs c).parent = some j → pend s c → (s.jobs j).evalFailed = true)
    (hX : ∀ X, j ∈ (s.jobs X).twins → (s.jobs X).status = Status.resolved) : Tok (resolveJob p s j) none none := by
  have eff := settleEff p false s j
  rw [resolveJob_eq]
  generalize settle p false s j = s2 at eff
  have t2 : Tok s2 none none := eff.tok ht hd hk hX nofun
  have hnp2 : ¬ pend s2 j := fun h => ((eff.pendIff j).mp h).2 rfl
  exact (ftw_finalize p _ j).tok
    (serveTwins_tok j (s2.jobs j).twins s2 t2 (eff.twins_wait ht hd) (t2.nodup j) hnp2)

theorem rejectJob_tok (p : Prog) (s : S) (j : JobId) (ht : Tok s none none) (hd : Hd s j)
    (hk : ∀ c, c < s.next → (s.jobs c).parent = some j → pend s c → (s.jobs j).evalFailed = true)
    (hnt : ¬ Tw s j) : Tok (rejectJob p s j) none none := by
  rw [rejectJob_eq, rejectRest_eq]
  have f0 := ftw_releaseIf p s j
  generalize releaseIf p s j = s0 at f0
  -- `y := j` from here to `tok_close`: `j` is rejected first, its twins one after the other
  have t0 := tok_open j (f0.tok ht)
  have hd0 := f0.ft.hd hd
  have hnt0 : ¬ Tw s0 j := fun h => hnt ((f0.ft.twIff j).mp h)
  have eff := settleEff p true s0 j
  generalize settle p true s0 j = s2 at eff
  have t2 : Tok s2 none (some j) := by
    refine eff.tok t0 hd0 ?_ (fun X hX => absurd ⟨X, hX⟩ hnt0) fun _ => Or.inl rfl
    intro c hc hpc hpp
    rw [f0.ft.next] at hc; rw [f0.ft.par] at hpc; rw [f0.ft.pendIff] at hpp; rw [f0.ft.ef]
    exact hk c hc hpc hpp
  have hrj2 : (s2.jobs j).status = Status.rejected := by rw [eff.st, if_pos rfl]; rfl
  have t3 := rejectTwins_tok p j (s2.jobs j).twins s2 t2 (eff.twins_wait t0 hd0) (t2.nodup j) hrj2
  have o := sv_rejectTwins p (s2.jobs j).twins s2 fun t ht => ⟨j, ht⟩
  generalize (List.foldl (rejectTwin p) s2 (s2.jobs j).twins) = s3 at t3 o
  have f4 := ftw_finalize p s3 j
  refine tok_close (f4.tok t3) ?_
  intro _ t hm
  rw [f4.ft.tw, o.tw] at hm
  rw [f4.ft.st, o.st, if_pos hm]; rfl

theorem tok_cachedExit (p : Prog) (s : S) (j : JobId) (ev : Ev) (hev : (∃ f, ev = Ev.done j f) ∨ ev = Ev.reject j)
    (ht : Tok s none none) (hd : Hd s j) (hnk : noKids s j)
    (hnt : ¬ Tw s j) :
    Tok (enqueue (checkPending p (setJob s j fun js => { js with wasCached := true })) ev) none none := by
  have fc := (ftw_cached s j).trans (ftw_checkPending p _)
  have t1 := fc.tok ht
  have hnk1 := (fc.ft.noKidsIff j).mpr hnk
  refine tok_enqueue ev j t1 ?_ ?_ (fc.ft.hd hd) hnk1
    (fun X hm => absurd ((fc.ft.twIff j).mp ⟨X, hm⟩) hnt)
  · rcases hev with ⟨f, rfl⟩ | rfl <;> rfl
  · intro k; rcases hev with ⟨f, rfl⟩ | rfl <;> simp

theorem execJob_tok (p : Prog) (s : S) (j : JobId) (ht : Tok s none none) (x : ExecHd s j) (h0 : tot s j = 0) :
    Tok (execJob p s j) none none := by
  have hd : Hd s j := ⟨h0, x.pd, x.lt⟩
  refine execJob_cases (motive := fun s' => Tok s' none none) p s j ?_ ?_ ?_ ?_ ?_ ?_
  · intro t0 _ hlk
    obtain ⟨h1, h2, h3, h4⟩ := x.reg _ t0 hlk
    exact (ftw_checkPending p _).tok (tok_addTwin (collapsed s t0 j) ht hd x.nk x.tw0 x.nt h1 h2 h3 h4)
  · exact fun h _ _ _ => tok_cachedExit p s j _ (hitEv_completion j h) ht hd x.nk x.nt
  · exact fun _ _ _ _ => tok_pendAppend j ht hd x.nk x.tw0 x.nt
  · intro _ _ _
    split
    · exact ht
    · exact tok_enqueue _ j ht rfl (by intro k; simp) hd x.nk (fun X hm => absurd ⟨X, hm⟩ x.nt)
  · intro _ _ _ _ _
    have f1 := ftw_consume p s j
    exact tok_enqueue _ j (f1.tok ht) rfl (by intro k; simp) (f1.ft.hd hd) x.nk (fun X hm => absurd ⟨X, hm⟩ x.nt)
  · intro _ _ _ _ _
    have f2 : FtW s (register p (consume p s j) j) := by
      obtain ⟨pj, e⟩ := register_eq p (consume p s j) j
      rw [e]; exact ftw_of_eq rfl rfl rfl rfl rfl
    exact tok_setInfl j _ (f2.tok ht) (f2.ft.hd hd) ((f2.ft.noKidsIff j).mpr x.nk) (by rw [f2.ft.tw]; exact x.tw0)
      (fun h => x.nt ((f2.ft.twIff j).mp h))

theorem complete_tok (p : Prog) (s : S) (j : JobId) (ht : Tok s none none) (hi : s.inflight j = true)
    (hnt : ¬ Tw s j) : Tok (complete p s j) none none := by
  have hnk : noKids s j := ht.pre j (Or.inr (Or.inl hi))
  obtain ⟨a, b, c⟩ := ht.tok j
  have h1 : tot s j = 1 := by
    have : 1 ≤ tot s j := by unfold tot; simp [hi]
    omega
  have hp : pend s j := Classical.byContradiction fun hp => by have := b hp; omega
  have hlt : j < s.next := Nat.lt_of_not_le fun h => by have := (c h).1; omega
  have t1 : Tok { s with inflight := fun i => if i = j then false else s.inflight i } none none :=
    tok_shrink ht (List.Sublist.refl _) fun i h => by
      split at h
      · cases h
      · exact h
  have htot1 : tot { s with inflight := fun i => if i = j then false else s.inflight i } j = 0 := by
    unfold tot tk at h1 ⊢
    simp [hi] at h1 ⊢
    omega
  unfold complete
  refine tok_enqueue _ j t1 ?_ ?_ ⟨htot1, hp, hlt⟩ hnk (fun X hm => absurd ⟨X, hm⟩ hnt)
  · split <;> rfl
  · intro k; split <;> nofun

theorem tot_tl (s : S) (e : Ev) (rest : List Ev) (hq : s.queue = e :: rest) (j : JobId) :
    tot s j = tot (tl s) j + (if evJob e = j then 1 else 0) := by
  have := tk_tl s e rest hq j
  unfold tot
  show tk s j + s.pendingLimits.count j + (if s.inflight j = true then 1 else 0) =
    tk (tl s) j + s.pendingLimits.count j + (if s.inflight j = true then 1 else 0) + _
  omega

theorem tok_head_facts {s : S} (e : Ev) (rest : List Ev) (hq : s.queue = e :: rest) (ht : Tok s none none) :
    tot s (evJob e) = 1 ∧ Hd (tl s) (evJob e) := by
  have hm : e ∈ s.queue := by rw [hq]; simp
  have h1 := tot_pos_of_mem hm
  obtain ⟨a, b, c⟩ := ht.tok (evJob e)
  have h2 := tot_tl s e rest hq (evJob e)
  simp only [if_true] at h2
  refine ⟨by omega, by omega, ?_, ?_⟩
  · by_cases hp : pend s (evJob e)
    · exact hp
    · have := b hp; omega
  · by_cases hlt : evJob e < s.next
    · exact hlt
    · have := (c (Nat.le_of_not_lt hlt)).1; omega

theorem tok_init : Tok init none none := by
  have hj := init_jobs
  have htot : ∀ j, tot init j = if j = 0 then 1 else 0 := by
    intro j; unfold tot tk; simp only [init, List.countP_cons, List.countP_nil, evJob, beq_iff_eq]
    by_cases h : j = 0
    · subst h; simp
    · have : ¬ 0 = j := fun e => h e.symm
      simp [h, this]
  refine ⟨?_, ?_, ?_, fun j _ => (hj j).2.1, ?_, ?_, ?_, ?_, ?_⟩
  · intro j
    rw [htot]
    refine ⟨by split <;> omega, fun h => absurd (hj j).1 h, fun h => ⟨?_, (hj j).1⟩⟩
    have h1 : (1 : Nat) ≤ j := h
    have : j ≠ 0 := by intro e; rw [e] at h1; exact absurd h1 (by decide)
    simp [this]
  · intro j c _ hp; rw [(hj c).2.2.2.2] at hp; simp at hp
  · intro j _ c _ hp; rw [(hj c).2.2.2.2] at hp; simp at hp
  · intro j c _ hp; rw [(hj c).2.2.2.2] at hp; simp at hp
  · intro j _ _
    have : cntPend init j = 0 := by
      apply cntPend_zero_of_noKids
      intro c _ hp; rw [(hj c).2.2.2.2] at hp; simp at hp
    rw [this]; exact Nat.zero_le _
  · intro c par _ hp; rw [(hj c).2.2.2.2] at hp; simp at hp
  · intro X t hm; rw [(hj X).2.1] at hm; simp at hm
  · intro X; rw [(hj X).2.1]; simp

theorem count_exec_lt_tk {s : S} {j : JobId} {e : Ev} (he : e ∈ s.queue) (hj : evJob e = j) (hne : e ≠ Ev.exec j) :
    s.queue.count (Ev.exec j) < tk s j := by
  unfold tk
  generalize s.queue = l at he
  induction l with
  | nil => cases he
  | cons a l ih =>
    rw [List.count_cons, List.countP_cons]
    rcases List.mem_cons.mp he with rfl | h
    · have := count_exec_le_tk { s with queue := l } j
      unfold tk at this
      simp only [beq_iff_eq, hj, if_true, if_neg hne]
      exact Nat.lt_succ_of_le this
    · have := ih h
      by_cases ha : a = Ev.exec j
      · subst ha
        rw [if_pos (beq_self_eq_true _), if_pos (show (evJob (Ev.exec j) == j) = true from beq_self_eq_true j)]; omega
      · simp only [beq_iff_eq, ha, if_false]; omega

theorem quiet_of_Q {s : S} {j : JobId} (h1 : tot s j ≤ 1) (hq : Q s j) : EW s j = 0 ∧ s.inflight j = false := by
  have : s.queue.count (Ev.exec j) < tk s j := by
    rcases hq with (⟨f, a⟩ | a) | a
    · exact count_exec_lt_tk a rfl nofun
    · exact count_exec_lt_tk a rfl nofun
    · exact count_exec_lt_tk a rfl nofun
  unfold tot at h1
  unfold EW
  refine ⟨by omega, ?_⟩
  cases hi : s.inflight j
  · rfl
  · rw [hi] at h1; simp at h1; omega

theorem not_Q_of_tot_zero {s : S} {j : JobId} (h : tot s j = 0) : ¬ Q s j := by
  rintro ((⟨f, a⟩ | a) | a) <;> exact not_mem_of_tot_zero h rfl a

/-- a holder has its one token in flight or as a completion event -/
theorem EW_zero_of_holds {p : Prog} {s : S} (ht : Tok s none none) (hl : Lim p s none) {j : JobId}
    (hj : s.holds j = true) : EW s j = 0 := by
  have t1 := (ht.tok j).1
  rcases hl.wit j nofun hj with a | a
  · have := count_exec_le_tk s j
    unfold tot at t1; unfold EW
    rw [a] at t1; simp only [if_true] at t1; omega
  · exact (quiet_of_Q t1 (Or.inl a)).1

/-- `Core` is the token invariant read on `occA`, `C`, `Q`, plus the limits invariant `Lim` and `TwQ` (a collapsed job is
not waiting for execution). -/
theorem core_of {p : Prog} {s : S} (ht : Tok s none none) (ha : TwQ s) (hl : Lim p s none) : Core p s none := by
  have t1 := fun j => (ht.tok j).1
  have occ0 : ∀ j, EW s j = 0 → s.holds j = false → occA s j = 0 := fun j a b => by rw [occA_eq, a, b]; rfl
  refine ⟨hl.used_eq, fun j => ?_, fun j hj => ?_, hl.infl_holds, fun j hc => (quiet_of_Q (t1 j) (Or.inl hc)).2,
    hl.wit, fun j hq => (quiet_of_Q (t1 j) hq).1, fun X t hm => ?_, fun c par hp => ?_, fun j hj => ?_,
    hl.le_limit, hl.dry⟩
  · rw [occA_eq]
    cases hh : s.holds j
    · exact Nat.le_trans (Nat.le_of_eq (Nat.add_zero _)) (Nat.le_trans (EW_le_tot s j) (t1 j))
    · rw [EW_zero_of_holds ht hl hh]; exact Nat.le_refl _
  · have h0 := ((ht.tok j).2.2 hj).1
    exact ⟨occ0 j (EW_zero_of_tot_zero h0) (hl.not_holds fun a => Nat.not_lt.mpr hj a.1), infl_false_of_tot_zero h0,
      not_Q_of_tot_zero h0⟩
  · refine ⟨occ0 t (ha X t hm).1 (hl.not_holds fun a => a.2.2.1 ⟨X, hm⟩), ?_, (ha X t hm).2⟩
    cases hi : s.inflight t
    · rfl
    · exact absurd ⟨X, hm⟩ (hl.holder t (hl.infl_holds t hi)).2.2.1
  · have hc : c < s.next := Nat.lt_of_not_le fun h => by rw [(hl.fresh c h).1] at hp; cases hp
    have hnk : ¬ noKids s par := fun h => h c hc hp
    have hpre := fun a => hnk (ht.pre par a)
    refine ⟨occ0 par ?_ (hl.not_holds fun a => hnk a.2.1), ?_, Nat.lt_trans (ht.parlt c par hc hp) hc⟩
    · exact Nat.eq_zero_of_not_pos fun a => hpre (Or.inl a)
    · cases hi : s.inflight par
      · rfl
      · exact absurd (Or.inr (Or.inl hi)) hpre
  · exact occ0 j (hl.cq j hj) (hl.not_holds fun a => by rw [hj] at a; exact nomatch a.2.2.2)

/-- The invariants of a reachable state that need each other, proved by one induction: the step of each takes the others at the
state before the step.  (`DryInv`, `CseW` and `Fam` need at most these, at the state before, and have inductions of their own.) -/
structure All (p : Prog) (s : S) : Prop where
  tok : Tok s none none
  lim : Lim p s none
  pend : PendWit p s
  live : p.dryrun = false → Live p s none none
  noReg : p.dryrun = true → NoReg s
  cse : ProvScope p → CseInv p s

theorem All.twq {p : Prog} {s : S} (h : All p s) : TwQ s := fun X t hm => by
  cases hd : p.dryrun
  · exact (h.live hd).twq X t hm
  · rw [(h.noReg hd).2 X] at hm; cases hm

theorem All.inv {p : Prog} {s : S} (h : All p s) : Inv p s := ⟨core_of h.tok h.twq h.lim, h.pend⟩

theorem All.execHd {p : Prog} {s : S} (h : All p s) {j : JobId} {rest : List Ev} (hq : s.queue = Ev.exec j :: rest) :
    ExecHd (tl s) j := by
  have ht := h.tok
  have hEW : 1 ≤ EW s j := EW_pos_of_mem (by rw [hq]; exact List.mem_cons_self)
  have hd := (tok_head_facts _ rest hq ht).2
  refine ⟨EW_zero_of_tot_zero hd.tot0, hd.pd, hd.lt, ht.pre j (Or.inl hEW), ht.pre2 j hEW, fun ⟨X, hX⟩ => ?_, ?_, ?_,
    fun k t0 hlk => ?_⟩
  · have := (h.twq X j hX).1; omega
  · cases e : (s.jobs j).wasCached
    · exact e
    · have := h.lim.cq j e; omega
  · cases e : s.holds j
    · exact e
    · have := EW_zero_of_holds ht h.lim e; omega
  · -- a registration: in a real run the lifecycle invariant speaks of it; in a dry run there is none
    cases hdr : p.dryrun
    · obtain ⟨_, _, c, d, _, f⟩ := (h.live hdr).reg k t0 (mem_of_lookupPending hlk)
      exact ⟨f nofun, c, fun e => by subst e; omega, Nat.le_zero.mp (d ▸ tl_EW_le s t0)⟩
    · exact nomatch (lookupPending_nil s k (h.noReg hdr).1).symm.trans hlk

/-- One step, every invariant.  The head event is taken off the queue once; what is known of its job (`tok_head_facts`,
`ExecHd`) and the invariants at `tl s`, in their exempted forms, are computed once; each handler lemma is applied to them. -/
theorem step_all (p : Prog) (s t : S) (h : All p s) (hs : Step p s t) : All p t := by
  have ht := h.tok
  have t1 := fun j => (ht.tok j).1
  cases hs with
  | complete j _ hi =>
    exact ⟨complete_tok p s j h.tok hi fun t => (h.lim.holder j (h.lim.infl_holds j hi)).2.2.1 t,
      complete_lim p s j h.lim, h.pend.mono rfl rfl fun _ => List.mem_append_left _,
      fun hd => complete_live p s j (h.live hd), h.noReg, fun hps => complete_cse p s j (h.cse hps)⟩
  | pop _ hne =>
    cases hq : s.queue with
    | nil => exact absurd hq hne
    | cons e rest =>
      rw [pop_cons p hq]
      have hm : e ∈ s.queue := by rw [hq]; exact List.mem_cons_self
      -- no term below names `h1 : tot s (evJob e) = 1`: the `omega` calls find it in the context (restated as `tot s j = 1` where
      -- they need `evJob e` reduced)
      obtain ⟨h1, hd⟩ := tok_head_facts e rest hq ht
      have tt := tok_tl ht
      have lt := lim_tl p s e rest hq h.lim
      have at' : TwQ (tl s) := fun X t hm => ⟨Nat.le_zero.mp ((h.twq X t hm).1 ▸ tl_EW_le s t), (h.twq X t hm).2⟩
      have lv := fun hdr => live_tl p s e rest hq (h.live hdr)
      have it := fun hps => (same_tl s).inv (h.cse hps)
      have nr : p.dryrun = true → NoReg (tl s) := h.noReg
      have hdry := fun hdr => h.lim.dry hdr
      have pw := fun hne => pendWit_tl p s e rest hq hne h.pend
      -- a job with a token whose evaluation has not failed has no pending child
      have hk : ∀ c, c < s.next → (s.jobs c).parent = some (evJob e) → pend s c → (s.jobs (evJob e)).evalFailed = true :=
        fun c hc hpc hpp => by
          cases he : (s.jobs (evJob e)).evalFailed
          · have := (ht.par _ c hc hpc hpp he).1; omega
          · rfl
      cases e with
      | exec j =>
        have x := h.execHd hq
        refine ⟨execJob_tok p (tl s) j tt x hd.tot0, execJob_lim p (tl s) j lt x, execJob_pendWit p (tl s) j lt,
          fun hdr => execJob_live p hdr (tl s) j (lv hdr) x (failedOk_tl p s _ rest hq (h.live hdr) j nofun), fun hdr => ?_,
          fun hps => execJob_cse p hps (tl s) j (it hps) hd.lt⟩
        exact execJob_dry_cases p hdr (tl s) j (hdry hdr).1 (nr hdr)
            (fun ev _ _ => ⟨(nr hdr).1, fun i => ((fr_cached (tl s) j).tw i).trans ((nr hdr).2 i)⟩) (nr hdr) (nr hdr)
      | done j f =>
        have h1 : tot s j = 1 := h1
        have hni := (quiet_of_Q (t1 j) (Q_of_mem_done hm)).2
        have l1 := releaseIf_lim p (tl s) j lt hni
        have p1 := releaseIf_pendWit p (tl s) j lt hni (pw fun _ => nofun)
        refine ⟨doneJob_tok p (tl s) j f tt hd (ht.pre j (Or.inr (Or.inr ⟨f, hm⟩)))
            (fun hff ⟨X, hX⟩ => by subst hff; exact ht.tw_noRedo hX hm)
            (fun X hX hpX => by have := ((ht.tw X j hX).1 hpX).2; omega),
          doneRest_lim p _ j f l1 (releaseIf_frame p (tl s) j).2,
          doneRest_anyTable p _ j f (P := PendWit p) (fun _ _ => p1.mono rfl rfl fun _ => List.mem_append_left _)
            fun _ _ => spawn_pendWit p _ j _ (p1.mono rfl rfl fun _ => id),
          fun hdr => doneJob_live p (tl s) j f (lv hdr) hd.lt (failedOk_tl p s _ rest hq (h.live hdr) j nofun),
          fun hdr => ?_, fun hps => doneJob_cse p (tl s) j f (it hps)⟩
        show NoReg (doneJob p (tl s) j f)
        rw [doneJob_eq, releaseIf_of_not_holds p (tl s) j ((hdry hdr).2 j)]
        exact doneRest_anyTable p (tl s) j f (fun _ _ => nr hdr) (fun _ _ => spawn_noReg _ j _ (nr hdr))
      | resolve j =>
        have h1 : tot s j = 1 := h1
        have o := sv_resolveJob p (tl s) j
        refine ⟨resolveJob_tok p (tl s) j tt hd hk fun X hX => ?_, o.lim lt at', o.pendWit (pw fun _ => nofun),
          fun hdr => resolveJob_live p (tl s) j (lv hdr) (EW_zero_of_tot_zero hd.tot0), fun hdr => ?_,
          fun hps => resolveJob_cse p (tl s) j (it hps)⟩
        · obtain ⟨a, _, c, _⟩ := ht.tw X j hX
          rcases status_cases (s.jobs X).status with e | e | e
          · have := (a e).2; omega
          · exact e
          · have := c (by simp) e; rw [show (s.jobs j).status = _ from hd.pd] at this; cases this
        · have eff := resolveJob_dry p (tl s) j (nr hdr)
          exact ⟨eff.pj.trans (nr hdr).1, fun i => (eff.tw i).trans ((nr hdr).2 i)⟩
      | reject j =>
        have hni := (quiet_of_Q (t1 j) (Q_of_mem_reject hm)).2
        have g3 := (releaseIf_frame p (tl s) j).1
        have fr := fr_releaseIf p (tl s) j
        have o := sv_rejectRest p (releaseIf p (tl s) j) j
        refine ⟨rejectJob_tok p (tl s) j tt hd hk fun ⟨X, hX⟩ => ht.tw_noReject hX hm,
          o.lim (releaseIf_lim p (tl s) j lt hni) fun X t hm =>
            ⟨(fr.ew t).trans (at' X t (g3 ▸ hm)).1, fr.next ▸ (at' X t (g3 ▸ hm)).2⟩,
          o.pendWit (releaseIf_pendWit p (tl s) j lt hni (pw fun _ => nofun)),
          fun hdr => rejectJob_live p (tl s) j (lv hdr) (EW_zero_of_tot_zero hd.tot0), fun hdr => ?_,
          fun hps => rejectJob_cse p (tl s) j (it hps)⟩
        have eff := rejectJob_dry p (tl s) j ((hdry hdr).2 j) (nr hdr)
        exact ⟨eff.pj.trans (nr hdr).1, fun i => (eff.tw i).trans ((nr hdr).2 i)⟩

theorem reachable_all (p : Prog) (s : S) (h : Reachable p s) : All p s := by
  induction h with
  | init => exact ⟨tok_init, lim_init p, fun _ hne => absurd rfl hne, fun _ => live_init p,
      fun _ => ⟨rfl, fun i => (init_jobs i).2.1⟩, fun _ => cse_init p⟩
  | step _ hs ih => exact step_all p _ _ ih hs

theorem reachable_inv (p : Prog) (s : S) (h : Reachable p s) : Inv p s := (reachable_all p s h).inv

theorem reachable_live (p : Prog) (hd : p.dryrun = false) (s : S) (h : Reachable p s) : Live p s none none :=
  (reachable_all p s h).live hd

theorem reachable_tok (p : Prog) (s : S) (h : Reachable p s) : Tok s none none := (reachable_all p s h).tok

theorem reachable_noReg (p : Prog) (hdr : p.dryrun = true) (s : S) (h : Reachable p s) : NoReg s :=
  (reachable_all p s h).noReg hdr

theorem reachable_cse (p : Prog) (hps : ProvScope p) (s : S) (h : Reachable p s) : CseInv p s :=
  (reachable_all p s h).cse hps

/-- in a reachable state only created jobs are in flight: a bounded check suffices -/
theorem inflight_none_of_bounded (p : Prog) (s : S) (h : Reachable p s)
    (hb : ∀ j, j < s.next → s.inflight j = false) : ∀ j, s.inflight j = false := by
  intro j
  by_cases hj : j < s.next
  · exact hb j hj
  · exact infl_false_of_tot_zero (((reachable_tok p s h).tok j).2.2 (Nat.le_of_not_lt hj)).1

/-- effect of a handler that settles nobody: jobs may be created, nothing is recorded.  `Obs` and `SetObs` are read
off the handlers; no invariant is needed. -/
structure Obs (s s' : S) : Prop where
  next : s.next ≤ s'.next
  specOf : ∀ i, i < s.next → s'.specOf i = s.specOf i
  st : ∀ i, (s'.jobs i).status = (s.jobs i).status ∨ (s.next ≤ i ∧ (s'.jobs i).status = Status.pending)
  cse : s'.cse = s.cse

theorem Obs.trans {a b c : S} (h1 : Obs a b) (h2 : Obs b c) : Obs a c := by
  refine ⟨Nat.le_trans h1.next h2.next, fun i hi => ?_, fun i => ?_, h2.cse.trans h1.cse⟩
  · rw [h2.specOf i (Nat.lt_of_lt_of_le hi h1.next), h1.specOf i hi]
  · rcases h2.st i with e | ⟨e1, e2⟩
    · rw [e]; exact h1.st i
    · exact Or.inr ⟨Nat.le_trans h1.next e1, e2⟩

theorem obs_of_eq {s s' : S} (h1 : s'.next = s.next) (h2 : s'.specOf = s.specOf)
    (h3 : ∀ i, (s'.jobs i).status = (s.jobs i).status) (h4 : s'.cse = s.cse) : Obs s s' :=
  ⟨Nat.le_of_eq h1.symm, fun _ _ => by rw [h2], fun i => Or.inl (h3 i), h4⟩

theorem obs_setJob (s : S) (j : JobId) (f : JobSt → JobSt) (h : ∀ js, (f js).status = js.status) : Obs s (setJob s j f) := by
  refine obs_of_eq rfl rfl (fun i => ?_) rfl
  simp only [setJob]; split
  · exact h _
  · rfl

theorem obs_checkPending (p : Prog) (s : S) : Obs s (checkPending p s) := obs_of_eq rfl rfl (fun _ => rfl) rfl
theorem obs_enqueue (s : S) (e : Ev) : Obs s (enqueue s e) := obs_of_eq rfl rfl (fun _ => rfl) rfl
theorem obs_consume (p : Prog) (s : S) (j : JobId) : Obs s (consume p s j) := obs_of_eq rfl rfl (fun _ => rfl) rfl

theorem obs_execJob (p : Prog) (s : S) (j : JobId) : Obs s (execJob p s j) := by
  refine execJob_cases (motive := Obs s) p s j ?_ ?_ (fun _ _ _ _ => obs_of_eq rfl rfl (fun _ => rfl) rfl) ?_
    (fun _ _ _ _ _ => (obs_consume p s j).trans (obs_enqueue _ _)) ?_
  · exact fun t _ _ => (obs_setJob s t _ (by intro; rfl)).trans (obs_checkPending p _)
  · exact fun _ _ _ _ => ((obs_setJob s j _ (by intro; rfl)).trans (obs_checkPending p _)).trans (obs_enqueue _ _)
  · intro _ _ _
    split
    · exact obs_of_eq rfl rfl (fun _ => rfl) rfl
    · exact obs_enqueue s _
  · intro _ _ _ _ _
    refine (obs_consume p s j).trans (Obs.trans ?_ (obs_of_eq rfl rfl (fun _ => rfl) rfl : Obs _ (submit _ j)))
    unfold register
    split <;> exact obs_of_eq rfl rfl (fun _ => rfl) rfl

theorem obs_spawnOne (s : S) (j : JobId) (c : SpecId) : Obs s (spawnOne s j c) := by
  refine ⟨Nat.le_succ _, fun i hi => if_neg (Nat.ne_of_lt hi), fun i => ?_, rfl⟩
  by_cases hin : i = s.next
  · subst hin; rw [spawnOne_jobs_new]; exact Or.inr ⟨Nat.le_refl _, rfl⟩
  · rw [spawnOne_jobs_ne s j c i hin]; exact Or.inl rfl

theorem obs_spawn (s : S) (j : JobId) (cs : List SpecId) : Obs s (spawn s j cs) :=
  spawn_ind (I := Obs s) s j cs (obs_of_eq rfl rfl (fun _ => rfl) rfl) (fun s' c h => h.trans (obs_spawnOne s' j c))
    (fun s' _ h => h.trans (obs_setJob s' j _ fun _ => rfl)) fun s' h => h.trans (obs_enqueue s' _)

theorem obs_doneJob (p : Prog) (s : S) (j : JobId) (f : Bool) : Obs s (doneJob p s j f) := by
  have sm := same_releaseIf p s j
  have h0 : ∀ et, Obs s { releaseIf p s j with evalTable := et } := fun _ =>
    obs_of_eq sm.next sm.specOf (fr_releaseIf p s j).st sm.cse
  rw [doneJob_eq]
  exact doneRest_anyTable p _ j f (fun _ et => (h0 et).trans (obs_of_eq rfl rfl (fun _ => rfl) rfl))
    (fun _ et => (h0 et).trans (obs_spawn _ j _))

/-- What a settling step does to what the theorems below look at: the jobs in `U` are settled with outcome `b` and may
each record one entry.  Read off `Sv` (`Sv.setObs`). -/
structure SetObs (p : Prog) (s s' : S) (U : List JobId) (b : Bool) : Prop where
  next : s'.next = s.next
  specOf : s'.specOf = s.specOf
  st : ∀ i, (s'.jobs i).status = if i ∈ U then outcome b else (s.jobs i).status
  cse : ∀ e, e ∈ s'.cse → e ∈ s.cse ∨ ∃ u, u ∈ U ∧ (spec p s u).prov = true ∧ e = entryOf p s u b

section
variable {p : Prog} {s s' : S} {U : List JobId} {b : Bool} {i : JobId}

theorem SetObs.st_mem (h : SetObs p s s' U b) (hi : i ∈ U) : (s'.jobs i).status = outcome b := by
  rw [h.st, if_pos hi]

theorem SetObs.st_not_mem (h : SetObs p s s' U b) (hi : i ∉ U) : (s'.jobs i).status = (s.jobs i).status := by
  rw [h.st, if_neg hi]

/-- `r` is the state the settling part of the handler starts from (after `tl`, and after `releaseIf` in `rejectJob`),
which has the jobs and the table of `s` -/
theorem Sv.setObs {r : S} (o : Sv p r s' U b) (e1 : r.next = s.next) (e2 : r.specOf = s.specOf) (e3 : r.jobs = s.jobs)
    (e4 : r.cse = s.cse) : SetObs p s s' U b := by
  have hsp : ∀ u, spec p r u = spec p s u := fun u => by unfold spec; rw [e2]
  refine ⟨o.next.trans e1, o.specOf.trans e2, fun i => by rw [o.st, e3], fun e he => ?_⟩
  rw [← e4]
  refine ((o.cse e).mp he).imp_right fun ⟨u, hu, hp, he'⟩ => ⟨u, hu, hsp u ▸ hp, ?_⟩
  rw [he']; unfold entryOf; rw [hsp]

end

theorem resolveJob_serves (p : Prog) (s : S) (j t : JobId) (ht : t ∈ (s.jobs j).twins) :
    Ev.done t true ∈ (resolveJob p s j).queue := by
  rw [← (settleEff p false s j).tw] at ht
  rw [resolveJob_eq, finalize_eq]
  exact (fr_serveTwins _ _).2 t ht

theorem step_eff (p : Prog) (s s' : S) (hs : Step p s s') :
    Obs s s' ∨
    (∃ j rest, s.queue = Ev.resolve j :: rest ∧ SetObs p s s' [j] false ∧
      ∀ t, t ∈ (s.jobs j).twins → Ev.done t true ∈ s'.queue) ∨
    (∃ j rest, s.queue = Ev.reject j :: rest ∧ SetObs p s s' (j :: (s.jobs j).twins) true) := by
  cases hs with
  | complete j _ _ => exact Or.inl (obs_of_eq rfl rfl (fun _ => rfl) rfl)
  | pop _ hq =>
    cases hqe : s.queue with
    | nil => exact absurd hqe hq
    | cons e rest =>
      have ho : Obs s (tl s) := obs_of_eq rfl rfl (fun _ => rfl) rfl
      rw [pop_cons p hqe]
      cases e with
      | exec j => exact Or.inl (ho.trans (obs_execJob p _ j))
      | done j f => exact Or.inl (ho.trans (obs_doneJob p _ j f))
      | resolve j =>
        exact Or.inr (Or.inl ⟨j, rest, rfl, (sv_resolveJob p (tl s) j).setObs rfl rfl rfl rfl, resolveJob_serves p (tl s) j⟩)
      | reject j =>
        have g3 := (releaseIf_frame p (tl s) j).1
        have sm := same_releaseIf p (tl s) j
        have o := (sv_rejectRest p (releaseIf p (tl s) j) j).setObs (s := s) sm.next sm.specOf g3 sm.cse
        rw [g3] at o
        exact Or.inr (Or.inr ⟨j, rest, rfl, o⟩)

/-- C06 (`settle_once`): a settled promise keeps its branch. -/
theorem settled_stable (p : Prog) (s s' : S) (h : Reachable p s) (hs : Step p s s') (j : JobId)
    (hst : (s.jobs j).status ≠ Status.pending) : (s'.jobs j).status = (s.jobs j).status := by
  have ht := reachable_tok p s h
  have h0 : tot s j = 0 := (ht.tok j).2.1 hst
  rcases step_eff p s s' hs with o | ⟨X, rest, hq, o, _⟩ | ⟨X, rest, hq, o⟩
  · rcases o.st j with a | ⟨a, _⟩
    · exact a
    · exact absurd ((ht.tok j).2.2 a).2 hst
  · have h1 : tot s X = 1 := (tok_head_facts _ rest hq ht).1
    refine o.st_not_mem fun hm => ?_
    rw [List.mem_singleton.mp hm, h1] at h0
    cases h0
  · obtain ⟨h1, _, hpX, _⟩ := tok_head_facts _ rest hq ht
    refine o.st_not_mem fun hm => ?_
    rcases List.mem_cons.mp hm with e | e
    · rw [e, show tot s X = 1 from h1] at h0
      cases h0
    · exact hst ((ht.tw X j e).1 hpX).1

/-- C06 (`twin_same_outcome`): a collapsed duplicate that has settled has settled like the job it was collapsed onto. -/
theorem twin_outcome (p : Prog) (s : S) (h : Reachable p s) (X t : JobId) (hm : t ∈ (s.jobs X).twins)
    (hst : (s.jobs t).status ≠ Status.pending) : (s.jobs t).status = (s.jobs X).status := by
  obtain ⟨a, b, c, _⟩ := (reachable_tok p s h).tw X t hm
  rcases status_cases (s.jobs X).status with e | e | e
  · exact absurd (a e).1 hst
  · rw [e]
    rcases status_cases (s.jobs t).status with e' | e' | e'
    · exact absurd e' hst
    · exact e'
    · exact absurd e' (b e)
  · rw [e]; exact c (by simp) e

/-- C06 (`twin_settles_with_rep`): the step in which the representative settles settles (rejection) or serves
(resolution) every twin. -/
theorem twin_step (p : Prog) (s s' : S) (h : Reachable p s) (hs : Step p s s') (X t : JobId)
    (hm : t ∈ (s.jobs X).twins) (hpX : (s.jobs X).status = Status.pending) :
    ((s'.jobs X).status = Status.rejected → (s'.jobs t).status = Status.rejected) ∧
    ((s'.jobs X).status = Status.resolved → Ev.done t true ∈ s'.queue) := by
  have hnTw : ¬ Tw s X := (reachable_tok p s h).tw_notTw hm
  -- a step that does not settle `X` leaves it pending
  have hpend : ∀ {P Q : Prop}, (s'.jobs X).status = Status.pending →
      ((s'.jobs X).status = Status.rejected → P) ∧ ((s'.jobs X).status = Status.resolved → Q) :=
    fun e => by rw [e]; exact ⟨nofun, nofun⟩
  rcases step_eff p s s' hs with o | ⟨Y, rest, hq, o, hd⟩ | ⟨Y, rest, hq, o⟩
  · rcases o.st X with a | ⟨_, a⟩
    · exact hpend (a.trans hpX)
    · exact hpend a
  · by_cases e : X ∈ [Y]
    · rw [o.st_mem e]
      exact ⟨nofun, fun _ => hd t (List.mem_singleton.mp e ▸ hm)⟩
    · exact hpend ((o.st_not_mem e).trans hpX)
  · by_cases e : X ∈ Y :: (s.jobs Y).twins
    · have hXY : X = Y := (List.mem_cons.mp e).resolve_right fun e' => hnTw ⟨Y, e'⟩
      rw [o.st_mem e, o.st_mem (List.mem_cons_of_mem _ (hXY ▸ hm))]
      exact ⟨fun _ => rfl, nofun⟩
    · exact hpend ((o.st_not_mem e).trans hpX)

/-- every recorded same-execution entry is the outcome of a settled, provenance-recording job with that key
(C06 `cse_entry_witness`) -/
def CseW (p : Prog) (s : S) : Prop :=
  ∀ e, e ∈ s.cse → ∃ j, j < s.next ∧ (spec p s j).key = e.key ∧ (spec p s j).ctx = e.ctx ∧
    (spec p s j).prov = true ∧ (s.jobs j).status = outcome e.isErr

theorem cseW_step {p : Prog} {s s' : S} (b : Bool) (hw : CseW p s) (hnext : s.next ≤ s'.next)
    (hspec : ∀ i, i < s.next → s'.specOf i = s.specOf i)
    (hstab : ∀ j, (s.jobs j).status ≠ Status.pending → (s'.jobs j).status = (s.jobs j).status)
    (hnew : ∀ e, e ∈ s'.cse → e ∈ s.cse ∨ ∃ u, u < s.next ∧ (spec p s u).prov = true ∧ e = entryOf p s u b ∧
      (s'.jobs u).status = outcome b) : CseW p s' := by
  have hsp : ∀ i, i < s.next → spec p s' i = spec p s i := by
    intro i hi; unfold spec; rw [hspec i hi]
  intro e he
  rcases hnew e he with a | ⟨u, hu, hp, he', hs'⟩
  · obtain ⟨j, j1, j2, j3, j4, j5⟩ := hw e a
    refine ⟨j, Nat.lt_of_lt_of_le j1 hnext, ?_⟩
    rw [hsp j j1, hstab j (j5 ▸ outcome_ne_pending _)]
    exact ⟨j2, j3, j4, j5⟩
  · refine ⟨u, Nat.lt_of_lt_of_le hu hnext, ?_⟩
    rw [hsp u hu, he']
    exact ⟨rfl, rfl, hp, hs'⟩

theorem step_cseW (p : Prog) (s s' : S) (h : Reachable p s) (hw : CseW p s) (hs : Step p s s') : CseW p s' := by
  have ht := reachable_tok p s h
  have hstab := settled_stable p s s' h hs
  -- a settling step records only entries of jobs it settles, and these exist
  have settle : ∀ {U b}, SetObs p s s' U b → (∀ u, u ∈ U → u < s.next) → CseW p s' := fun o hlt =>
    cseW_step _ hw (Nat.le_of_eq o.next.symm) (fun i _ => by rw [o.specOf]) hstab fun e he =>
      (o.cse e he).imp id fun ⟨u, hu, hp, he'⟩ => ⟨u, hlt u hu, hp, he', o.st_mem hu⟩
  rcases step_eff p s s' hs with o | ⟨j, rest, hq, o, _⟩ | ⟨j, rest, hq, o⟩
  · exact cseW_step false hw o.next o.specOf hstab fun e he => Or.inl (o.cse ▸ he)
  · have hj : j < s.next := (tok_head_facts _ rest hq ht).2.lt
    exact settle o fun u hu => List.mem_singleton.mp hu ▸ hj
  · have hj : j < s.next := (tok_head_facts _ rest hq ht).2.lt
    refine settle o fun u hu => ?_
    rcases List.mem_cons.mp hu with e | e
    · exact e ▸ hj
    · exact ht.tw_lt e

theorem reachable_cseW (p : Prog) (s : S) (h : Reachable p s) : CseW p s := by
  induction h with
  | init => exact fun e he => nomatch he
  | step hr hs ih => exact step_cseW p _ _ hr ih hs

theorem cseLookup_some {s : S} {sp : Spec} {e : CseEntry} (h : cseLookup s sp = some e) :
    e ∈ s.cse ∧ e.key = sp.key ∧ (sp.ctx = 0 ∨ e.ctx = sp.ctx) := by
  unfold cseLookup at h
  have h2 := List.find?_some h
  simp only [Bool.and_eq_true, Bool.or_eq_true, beq_iff_eq] at h2
  exact ⟨List.mem_reverse.mp (List.mem_of_find?_eq_some h), h2.1, h2.2⟩

theorem cacheLookup_cse {s : S} {sp : Spec} {b : Bool} (h : cacheLookup s sp = Hit.cse b) :
    ∃ e, cseLookup s sp = some e ∧ e.isErr = b := by
  unfold cacheLookup at h
  cases ho : (if sp.cseOk = true then cseLookup s sp else none) with
  | some e =>
    have hl : cseLookup s sp = some e := by
      split at ho
      · exact ho
      · cases ho
    rw [ho] at h
    cases hsc : sp.scope == Scope.none <;> rw [hsc] at h
    · exact ⟨e, hl, Hit.cse.inj h⟩
    · cases h
  | none =>
    -- without a same-execution entry only the backend exits are left
    rw [ho] at h
    generalize (sp.scope == Scope.none) = c, (sp.scope == Scope.backend) = d, s.evalTable.contains sp.key = t,
      sp.pre = pre at h
    cases c
    case true => cases h
    cases d
    case false => cases h
    cases pre
    case ultimate => cases h
    case single => cases h
    cases t <;> cases h

/-- C06 (`late_duplicate_same_branch`): a same-execution cache hit is served from the outcome of a settled job with
that key. -/
theorem cse_hit_witness (p : Prog) (s : S) (h : Reachable p s) (sp : Spec) (b : Bool)
    (hh : cacheLookup s sp = Hit.cse b) :
    ∃ j, j < s.next ∧ (spec p s j).key = sp.key ∧ (sp.ctx = 0 ∨ (spec p s j).ctx = sp.ctx) ∧
      (spec p s j).prov = true ∧ (s.jobs j).status = outcome b := by
  obtain ⟨e, hl, hb⟩ := cacheLookup_cse hh
  obtain ⟨hm, hk, hc⟩ := cseLookup_some hl
  obtain ⟨j, j1, j2, j3, j4, j5⟩ := reachable_cseW p s h e hm
  exact ⟨j, j1, j2.trans hk, hc.imp id (j3.trans ·), j4, hb ▸ j5⟩

end RedunModel.SchedCore
