/-
Lemmas about the promise machine (`RedunModel.Model.Promise`):
* the effect of the two heap primitives `settle` and `thenOp`, field by field (`settle_cases`; `thenOp_eq`: a
  `then()` on an existing promise replaces its record by `Prom.attach` and starts the loop `Prom.fire`);
* `Stable` — `step` and `act` are compositions of a handful of primitive changes, so a predicate that every
               primitive preserves holds along every history (`Stable.evolves`);
* `Ext`      — settled outcomes and origins are permanent and the heap only grows;
* `Inv`      — the accounting invariant of registered callbacks (each `then()` call contributes one callback per
               branch; it is on its promise's list while the promise is pending, and after settlement the one of
               the matching branch is either waiting in exactly one notification loop or has been invoked exactly
               once).
-/
import RedunModel.Model.Promise
namespace RedunModel.Promise

def status (s : State) (p : Nat) : Option Status := (s.heap[p]?).map (·.st)

def pick (b : Br) (pr : Prom) : List Cb := match b with | .res => pr.resolvers | .rej => pr.rejectors

def origin (s : State) (p : Nat) : Option Origin := (s.heap[p]?).map (·.origin)

theorem lt_of_getElem? {α} {l : List α} {i : Nat} {x : α} (h : l[i]? = some x) : i < l.length :=
  (List.getElem?_eq_some_iff.mp h).1

theorem lt_of_getElem?_map {α β} {l : List α} {f : α → β} {i : Nat} {y : β} (h : (l[i]?).map f = some y) : i < l.length := by
  cases h' : l[i]? with
  | none => simp [h'] at h
  | some x => exact lt_of_getElem? h'

theorem getElem?_snoc_eq_some {α} {l : List α} {x y : α} {i : Nat} :
    (l ++ [x])[i]? = some y ↔ l[i]? = some y ∨ (i = l.length ∧ x = y) := by
  rw [List.getElem?_append]
  split
  · simp; omega
  · next h =>
    rw [List.getElem?_eq_none (Nat.le_of_not_lt h)]
    by_cases h2 : i = l.length
    · simp [h2]
    · have : i - l.length ≠ 0 := by omega
      simp [h2, this]

theorem set_lookup {α} {l : List α} {a : Nat} {x : α} (ha : a < l.length) {a' : Nat} {y : α} :
    (l.set a x)[a']? = some y ↔ (a' = a ∧ y = x) ∨ (a' ≠ a ∧ l[a']? = some y) := by
  rw [List.getElem?_set]
  by_cases h : a = a'
  · subst h; simp [ha]; exact eq_comm
  · have h' : a' ≠ a := fun e => h e.symm
    simp [h, h']

theorem heap_then_lookup {α} {h : List α} {p : Nat} {x x0 : α} (hplt : p < h.length) {p' : Nat} {pr' : α} :
    ((h ++ [x0]).set p x)[p']? = some pr' ↔
      (p' = p ∧ pr' = x) ∨ (p' ≠ p ∧ h[p']? = some pr') ∨ (p' = h.length ∧ pr' = x0) := by
  rw [set_lookup (by simp; omega), getElem?_snoc_eq_some]
  have : p' = h.length → p' ≠ p := by omega
  constructor
  · rintro (h | ⟨h1, h2 | ⟨h2, h3⟩⟩)
    · exact .inl h
    · exact .inr (.inl ⟨h1, h2⟩)
    · exact .inr (.inr ⟨h2, h3.symm⟩)
  · rintro (h | ⟨h1, h2⟩ | ⟨h1, h2⟩)
    · exact .inl h
    · exact .inr ⟨h1, .inl h2⟩
    · exact .inr ⟨this h1, .inr ⟨h1, h2.symm⟩⟩

theorem status_some_of_lt {s : State} {t} (h : t < s.heap.length) : ∃ st, status s t = some st := by
  unfold status; rw [List.getElem?_eq_getElem h]; exact ⟨_, rfl⟩

theorem settle_of_pending {s : State} {q pr} (hq : s.heap[q]? = some pr) (hp : pr.st = .pending) (b v) :
    settle b q v s = { s with heap := s.heap.set q ⟨.settled b v, [], [], pr.origin⟩,
                              stack := .notify v (pick b pr) :: s.stack } := by
  unfold settle
  simp only [hq, hp]
  cases b <;> rfl

/-- First settlement wins: `do_resolve`/`do_reject` on a promise that is not pending changes nothing at all. -/
theorem settle_of_not_pending {s : State} {q} (h : status s q ≠ some .pending) (b v) : settle b q v s = s := by
  unfold settle
  split
  · rfl
  · next pr hq =>
    split
    · next hp => simp [status, hq, hp] at h
    · rfl

theorem settle_cases (b : Br) (q : Nat) (v : Val) (s : State) :
    settle b q v s = s ∨ ∃ pr, s.heap[q]? = some pr ∧ pr.st = .pending ∧
      settle b q v s = { s with heap := s.heap.set q ⟨.settled b v, [], [], pr.origin⟩,
                                stack := .notify v (pick b pr) :: s.stack } := by
  by_cases h : status s q = some .pending
  · right
    cases hq : s.heap[q]? with
    | none => simp [status, hq] at h
    | some pr =>
      have hp : pr.st = .pending := by simpa [status, hq] using h
      exact ⟨pr, rfl, hp, settle_of_pending hq hp b v⟩
  · exact .inl (settle_of_not_pending h b v)

/-- the record of a promise after a `then()` call put the callbacks `cb .res`, `cb .rej` on its lists -/
def Prom.attach (pr : Prom) (cb : Br → Cb) : Prom :=
  match pr.st with
  | .pending => { pr with resolvers := pr.resolvers ++ [cb .res], rejectors := pr.rejectors ++ [cb .rej] }
  | .settled _ _ => { pr with resolvers := [], rejectors := [] }

/-- the notification that `then()` starts at once on a settled promise -/
def Prom.fire (pr : Prom) (cb : Br → Cb) : List Frame :=
  match pr.st with
  | .pending => []
  | .settled b v => [.notify v (pick b pr ++ [cb b])]

/-- the two callbacks made by the next `then()` call -/
def newCb (s : State) (r j : Option Fn) (b : Br) : Cb :=
  mkCb s.regs.length b (match b with | .res => r | .rej => j) s.heap.length

theorem thenOp_eq {s : State} {p pr} (hp : s.heap[p]? = some pr) (r j) :
    thenOp p r j s = { s with heap := (s.heap ++ [({ origin := .chained } : Prom)]).set p (pr.attach (newCb s r j)),
                              regs := s.regs ++ [p], during := s.during ++ [waiting p s],
                              stack := pr.fire (newCb s r j) ++ s.stack } := by
  unfold thenOp Prom.attach Prom.fire
  simp only [hp]
  cases hst : pr.st with
  | pending => rfl
  | settled b v => cases b <;> rfl

theorem Prom.attach_st (pr : Prom) (cb) : (pr.attach cb).st = pr.st := by
  unfold Prom.attach; split <;> rfl

theorem Prom.attach_origin (pr : Prom) (cb) : (pr.attach cb).origin = pr.origin := by
  unfold Prom.attach; split <;> rfl

theorem Prom.pick_attach (pr : Prom) (cb b) :
    pick b (pr.attach cb) = pick b pr ++ [cb b] ∨ pick b (pr.attach cb) = [] := by
  unfold Prom.attach
  split
  · exact .inl (by cases b <;> rfl)
  · exact .inr (by cases b <;> rfl)

theorem Prom.attach_clean {pr : Prom} {cb b v} (h : (pr.attach cb).st = .settled b v) :
    (pr.attach cb).resolvers = [] ∧ (pr.attach cb).rejectors = [] := by
  unfold Prom.attach at h ⊢
  split
  · next hp => simp [hp] at h
  · exact ⟨rfl, rfl⟩

theorem Prom.attach_pending {pr : Prom} (h : pr.st = .pending) (cb) :
    pr.attach cb = ⟨.pending, pr.resolvers ++ [cb .res], pr.rejectors ++ [cb .rej], pr.origin⟩ ∧ pr.fire cb = [] := by
  unfold Prom.attach Prom.fire
  simp only [h, and_self]

theorem Prom.mem_fire {pr : Prom} {cb f} (h : f ∈ pr.fire cb) :
    ∃ b v, pr.st = .settled b v ∧ f = .notify v (pick b pr ++ [cb b]) := by
  unfold Prom.fire at h
  split at h
  · cases h
  · next b v hst => exact ⟨b, v, hst, List.mem_singleton.mp h⟩

theorem thenOp_bad {s : State} {p} (h : ¬ p < s.heap.length) (r j) : thenOp p r j s = emit .badRef s := by
  unfold thenOp; rw [List.getElem?_eq_none (Nat.le_of_not_lt h)]

theorem settle_colls (b q v) (s : State) : (settle b q v s).colls = s.colls := by
  rcases settle_cases b q v s with e | ⟨_, _, _, e⟩ <;> rw [e]
theorem settle_regs (b q v) (s : State) : (settle b q v s).regs = s.regs := by
  rcases settle_cases b q v s with e | ⟨_, _, _, e⟩ <;> rw [e]
theorem settle_log (b q v) (s : State) : (settle b q v s).log = s.log := by
  rcases settle_cases b q v s with e | ⟨_, _, _, e⟩ <;> rw [e]
theorem settle_heap_length (b q v) (s : State) : (settle b q v s).heap.length = s.heap.length := by
  rcases settle_cases b q v s with e | ⟨_, _, _, e⟩ <;> rw [e]; simp
theorem settle_stack (b q v) (s : State) :
    (settle b q v s).stack = s.stack ∨ ∃ todo, (settle b q v s).stack = .notify v todo :: s.stack := by
  rcases settle_cases b q v s with e | ⟨pr, _, _, e⟩ <;> rw [e]
  · exact .inl rfl
  · exact .inr ⟨_, rfl⟩

theorem status_settle_ne {s : State} {b q v t} (h : t ≠ q) : status (settle b q v s) t = status s t := by
  rcases settle_cases b q v s with e | ⟨pr, _, _, e⟩ <;> rw [e]
  unfold status; rw [List.getElem?_set_ne (Ne.symm h)]

theorem status_settle_pending {s : State} {q} (hs : status s q = some .pending) (b v) :
    status (settle b q v s) q = some (.settled b v) := by
  cases hq : s.heap[q]? with
  | none => simp [status, hq] at hs
  | some pr =>
    rw [settle_of_pending hq (by simpa [status, hq] using hs)]
    simp [status, lt_of_getElem? hq]

open Classical in
/-- `Status` has no decidable equality, hence `Classical` for the `if` -/
theorem status_settle (b q v) (s : State) (t) :
    status (settle b q v s) t = if t = q ∧ status s q = some .pending then some (.settled b v) else status s t := by
  split
  · next h => rw [h.1, status_settle_pending h.2]
  · next h =>
    by_cases hq : status s q = some .pending
    · exact status_settle_ne fun e => h ⟨e, hq⟩
    · rw [settle_of_not_pending hq]

theorem origin_settle (b q v) (s : State) (t) : origin (settle b q v s) t = origin s t := by
  rcases settle_cases b q v s with e | ⟨pr, hq, _, e⟩ <;> rw [e]
  unfold origin
  rw [List.getElem?_set]
  split
  · next h => subst h; obtain ⟨hlt, rfl⟩ := List.getElem?_eq_some_iff.mp hq; simp [hlt]
  · rfl

theorem thenOp_colls (p r j) (s : State) : (thenOp p r j s).colls = s.colls := by
  cases hp : s.heap[p]? with
  | none => rw [thenOp_bad (by simpa using hp)]; rfl
  | some pr => rw [thenOp_eq hp]

theorem thenOp_stack (p r j) (s : State) :
    (thenOp p r j s).stack = s.stack ∨ ∃ v todo, (thenOp p r j s).stack = .notify v todo :: s.stack := by
  cases hp : s.heap[p]? with
  | none => rw [thenOp_bad (by simpa using hp)]; exact .inl rfl
  | some pr =>
    rw [thenOp_eq hp]
    unfold Prom.fire
    split
    · exact .inl rfl
    · exact .inr ⟨_, _, rfl⟩

theorem thenOp_fields {p} {s : State} (hp : p < s.heap.length) (r j) :
    (thenOp p r j s).regs = s.regs ++ [p] ∧ (thenOp p r j s).during = s.during ++ [waiting p s] ∧
    (thenOp p r j s).log = s.log ∧ (thenOp p r j s).heap.length = s.heap.length + 1 := by
  rw [thenOp_eq (List.getElem?_eq_getElem hp)]; simp

theorem thenOp_regs {p r j} {s : State} (hp : p < s.heap.length) : (thenOp p r j s).regs = s.regs ++ [p] :=
  (thenOp_fields hp r j).1
theorem thenOp_heap_length {p r j} {s : State} (hp : p < s.heap.length) :
    (thenOp p r j s).heap.length = s.heap.length + 1 := (thenOp_fields hp r j).2.2.2

/-- `thenOp` logs nothing, except `badRef` when the promise does not exist -/
theorem thenOp_mem_log (p r j) (s : State) (e : Event) (he : e ≠ .badRef) :
    e ∈ (thenOp p r j s).log ↔ e ∈ s.log := by
  by_cases hp : p < s.heap.length
  · rw [(thenOp_fields hp r j).2.2.1]
  · rw [thenOp_bad hp]
    exact ⟨fun h => (List.mem_cons.mp h).resolve_left he, List.mem_cons_of_mem _⟩

theorem heap_thenOp {f : Prom → β} (hf : ∀ x y : Prom, x.st = y.st → x.origin = y.origin → f x = f y) {p r j t} {s : State}
    (h : t < s.heap.length) : (thenOp p r j s).heap[t]?.map f = s.heap[t]?.map f := by
  cases hp : s.heap[p]? with
  | none => rw [thenOp_bad (by simpa using hp)]; rfl
  | some pr =>
    rw [thenOp_eq hp, List.getElem?_set, List.getElem?_append_left h]
    split
    · next e =>
      subst e
      rw [if_pos (by simp; omega), hp]
      exact congrArg some (hf _ _ (pr.attach_st _) (pr.attach_origin _))
    · rfl

theorem status_thenOp {s : State} {p r j t} (h : t < s.heap.length) : status (thenOp p r j s) t = status s t :=
  heap_thenOp (f := (·.st)) (fun _ _ h _ => h) h

theorem origin_thenOp {s : State} {p r j t} (h : t < s.heap.length) : origin (thenOp p r j s) t = origin s t :=
  heap_thenOp (f := (·.origin)) (fun _ _ _ h => h) h

theorem origin_thenOp_new {p r j} {s : State} (hp : p < s.heap.length) :
    origin (thenOp p r j s) s.heap.length = some .chained := by
  rw [thenOp_eq (List.getElem?_eq_getElem hp)]; unfold origin
  rw [List.getElem?_set_ne (by omega)]; simp

theorem status_newProm {s : State} {o t} (h : t < s.heap.length) : status (newProm o s) t = status s t := by
  unfold status newProm; simp [List.getElem?_append_left h]

theorem origin_newProm {s : State} {o t} (h : t < s.heap.length) : origin (newProm o s) t = origin s t := by
  unfold origin newProm; simp [List.getElem?_append_left h]

theorem origin_newProm_new (o) (s : State) : origin (newProm o s) s.heap.length = some o := by
  simp [origin, newProm]

/-- a callback is taken from the notification loop on top of the stack and recorded as invoked -/
def invoked (s : State) (v : Val) (c : Cb) (todo : List Cb) (stk : List Frame) : State :=
  { s with stack := .notify v todo :: stk, log := .invoke c.rid c.br v :: s.log }

def setColl (s : State) (a : Nat) (r : Coll) : State := { s with colls := s.colls.set a r }

theorem invoke_eq (s : State) (v c todo stk) :
    invoke c v (push (.notify v todo) { s with stack := stk }) = invokeBody c v (invoked s v c todo stk) := rfl

def Frame.todo : Frame → List Cb
  | .notify _ todo => todo
  | _ => []

/-- `P` is preserved by each primitive change of which `step` and `act` are composed (frames and events that carry
accounting information — notification loops, `invoke` events — only come and go in the ways listed). -/
structure Stable (P : State → Prop) : Prop where
  settle : ∀ {s} b q v, P s → P (settle b q v s)
  thenOp : ∀ {s} p r j, P s → P (thenOp p r j s)
  newProm : ∀ {s} o, P s → P (newProm o s)
  push : ∀ {s} f, (∀ v todo, f ≠ .notify v todo) → P s → P (push f s)
  emit : ∀ {s} e, (∀ rid b v, e ≠ .invoke rid b v) → P s → P (emit e s)
  pop : ∀ {s f rest}, s.stack = f :: rest → f.todo = [] → P s → P { s with stack := rest }
  invoked : ∀ {s v c todo stk}, s.stack = .notify v (c :: todo) :: stk → P s → P (invoked s v c todo stk)
  setColl : ∀ {s a r} r', s.colls[a]? = some r → r'.mode = r.mode → r'.subs = r.subs → r'.target = r.target →
    P s → P (setColl s a r')
  addColl : ∀ {s} r, P s → P { s with colls := s.colls ++ [r] }

namespace Stable
variable {P : State → Prop} (H : Stable P) {s : State}
include H

theorem finish (r q) (h : P s) : P (finish r q s) := by
  unfold Promise.finish
  split
  · exact H.thenOp _ _ _ (H.emit _ nofun h)
  · exact H.settle _ _ _ h

theorem note (a) (h : P s) : P (note a s) := by
  unfold Promise.note
  split
  · exact h
  · next hr => exact H.setColl _ hr rfl rfl rfl h

theorem callFn (f q v) (h : P s) : P (callFn f q v s) := by
  unfold Promise.callFn
  split
  · exact H.push _ nofun (H.emit _ nofun h)
  · exact H.settle _ _ _ (H.push _ nofun (H.emit _ nofun h))
  · exact H.settle _ _ _ (H.push _ nofun h)
  · split
    · exact h
    · next hr =>
      dsimp only
      split
      · exact H.settle _ _ _ (H.push _ nofun (H.setColl _ hr rfl rfl rfl h))
      · exact H.push _ nofun (H.setColl _ hr rfl rfl rfl h)
  · split
    · exact h
    · exact H.settle _ _ _ (H.push _ nofun h)
  · split
    · exact h
    · next hr =>
      dsimp only
      split
      · exact H.settle _ _ _ (H.push _ nofun (H.setColl _ hr rfl rfl rfl h))
      · exact H.push _ nofun (H.setColl _ hr rfl rfl rfl h)

theorem collect (m ps) (h : P s) : P (collect m ps s) := by
  unfold Promise.collect
  split
  · have h2 := H.addColl ⟨m, s.heap.length, ps, (match m with | .all => List.replicate ps.length Val.none | .wait => []), 0, []⟩
      (H.newProm (.coll s.colls.length) h)
    dsimp only
    split
    · exact H.settle _ _ _ h2
    · exact H.push _ nofun h2
  · exact H.emit _ nofun h

theorem act (arg a) (h : P s) : P (act arg a s) := by
  unfold Promise.act
  split
  · exact H.thenOp _ _ _ h
  · split
    · exact H.settle _ _ _ (H.emit _ nofun h)
    · exact H.emit _ nofun h
  · split
    · exact H.settle _ _ _ (H.emit _ nofun h)
    · exact H.emit _ nofun h
  · exact H.newProm _ h
  · exact H.push _ nofun (H.newProm _ h)
  · exact H.collect _ _ h
  · exact H.collect _ _ h

theorem kont (arg k) (h : P s) : P (kont arg k s) := by
  unfold Promise.kont
  split
  · exact h
  · exact H.finish _ _ h
  · exact H.finish _ _ h
  · exact H.settle _ _ _ h
  · exact H.settle _ _ _ h
  · exact h

theorem step {s' : State} (hs : step s = some s') (h : P s) : P s' := by
  unfold Promise.step at hs
  split at hs
  · cases hs
  · next f rest hst =>
    dsimp only at hs
    split at hs <;> simp only [Option.some.injEq] at hs <;> subst hs
    · exact H.pop hst rfl h
    · rw [invoke_eq]
      have h2 := H.invoked hst h
      unfold invokeBody
      split
      · exact H.settle _ _ _ h2
      · exact H.callFn _ _ _ h2
    · exact H.finish _ _ (H.pop hst rfl h)
    · exact H.kont _ _ (H.pop hst rfl h)
    · exact H.act _ _ (H.push _ nofun (H.pop hst rfl h))
    · exact H.pop hst rfl h
    · exact H.thenOp _ _ _ (H.push _ nofun (H.note _ (H.pop hst rfl h)))

end Stable

/-- `s'` is reached from `s` by machine steps and (top-level or scripted) operations, in any interleaving. -/
inductive Evolves : State → State → Prop
  | refl (s : State) : Evolves s s
  | step {s s' s'' : State} : Evolves s s' → step s' = some s'' → Evolves s s''
  | op {s s' : State} (arg : Val) (a : Act) : Evolves s s' → Evolves s (act arg a s')

def Reach (s : State) : Prop := Evolves init s

theorem Stable.evolves {P : State → Prop} (H : Stable P) {s s' : State} (h : Evolves s s') (hp : P s) : P s' := by
  induction h with
  | refl => exact hp
  | step _ hs ih => exact H.step hs ih
  | op arg a _ ih => exact H.act arg a ih

theorem Evolves.trans {a b c : State} (h1 : Evolves a b) (h2 : Evolves b c) : Evolves a c := by
  induction h2 with
  | refl => exact h1
  | step _ hs ih => exact .step ih hs
  | op arg x _ ih => exact .op arg x ih

theorem Evolves.run (n : Nat) {s s' : State} (h : Evolves s s') : Evolves s (run n s') := by
  induction n generalizing s' with
  | zero => exact h
  | succ n ih =>
    unfold Promise.run
    split
    · exact h
    · next s'' hs => exact ih (.step h hs)

theorem Evolves.execAll (fuel : Nat) (ops : List Act) {s s' : State} (h : Evolves s s') :
    Evolves s (execAll fuel ops s') := by
  induction ops generalizing s' with
  | nil => exact h
  | cons a ops ih => exact ih (Evolves.run fuel (.op .none a h))

/-- whatever the driver computes is a reachable state -/
theorem Reach.execAll (fuel : Nat) (ops : List Act) : Reach (execAll fuel ops init) :=
  Evolves.execAll fuel ops (.refl _)

structure Ext (s s' : State) : Prop where
  len : s.heap.length ≤ s'.heap.length
  keep : ∀ p b v, status s p = some (.settled b v) → status s' p = some (.settled b v)
  orig : ∀ p o, origin s p = some o → origin s' p = some o

theorem Ext.refl (s : State) : Ext s s := ⟨Nat.le_refl _, fun _ _ _ h => h, fun _ _ h => h⟩
theorem Ext.trans {a b c : State} (h1 : Ext a b) (h2 : Ext b c) : Ext a c :=
  ⟨Nat.le_trans h1.1 h2.1, fun p b' v h => h2.2 p b' v (h1.2 p b' v h), fun p o h => h2.3 p o (h1.3 p o h)⟩
theorem Ext.of_same {s s' : State} (hl : s.heap.length ≤ s'.heap.length)
    (hst : ∀ t, t < s.heap.length → status s' t = status s t)
    (ho : ∀ t, t < s.heap.length → origin s' t = origin s t) : Ext s s' :=
  ⟨hl, fun p _ _ h => (hst p (lt_of_getElem?_map h)).trans h, fun p _ h => (ho p (lt_of_getElem?_map h)).trans h⟩

theorem Ext.of_heap_eq {s s' : State} (h : s'.heap = s.heap) : Ext s s' :=
  .of_same (by rw [h]; exact Nat.le_refl _) (fun _ _ => by unfold status; rw [h]) (fun _ _ => by unfold origin; rw [h])

theorem Ext_settle (b q v) (s : State) : Ext s (settle b q v s) := by
  refine ⟨by rw [settle_heap_length]; exact Nat.le_refl _, fun p b' v' h => ?_, fun p o h => by rwa [origin_settle]⟩
  by_cases hpq : p = q
  · subst hpq; rwa [settle_of_not_pending (by rw [h]; simp)]
  · rwa [status_settle_ne hpq]

theorem Ext_thenOp (p r j) (s : State) : Ext s (thenOp p r j s) := by
  refine .of_same ?_ (fun _ => status_thenOp) (fun _ => origin_thenOp)
  by_cases hp : p < s.heap.length
  · rw [thenOp_heap_length hp]; omega
  · rw [thenOp_bad hp]; exact Nat.le_refl _

theorem Ext_newProm (o) (s : State) : Ext s (newProm o s) :=
  .of_same (by simp [newProm]) (fun _ => status_newProm) (fun _ => origin_newProm)

theorem Ext.stable (s0 : State) : Stable (Ext s0) where
  settle b q v h := h.trans (Ext_settle b q v _)
  thenOp p r j h := h.trans (Ext_thenOp p r j _)
  newProm o h := h.trans (Ext_newProm o _)
  push _ _ h := h.trans (.of_heap_eq rfl)
  emit _ _ h := h.trans (.of_heap_eq rfl)
  pop _ _ h := h.trans (.of_heap_eq rfl)
  invoked _ h := h.trans (.of_heap_eq rfl)
  setColl _ _ _ _ _ h := h.trans (.of_heap_eq rfl)
  addColl _ h := h.trans (.of_heap_eq rfl)

theorem Evolves.ext {s s' : State} (h : Evolves s s') : Ext s s' := (Ext.stable s).evolves h (.refl s)

def Cb.is (rid : Nat) (b : Br) (c : Cb) : Bool := c.rid == rid && c.br == b
def cnt (rid : Nat) (b : Br) (l : List Cb) : Nat := l.countP (Cb.is rid b)
def frameCnt (rid : Nat) (b : Br) : Frame → Nat
  | .notify _ todo => cnt rid b todo
  | _ => 0
def stackCnt (rid : Nat) (b : Br) (st : List Frame) : Nat := (st.map (frameCnt rid b)).sum
def Event.isInv (rid : Nat) (b : Br) : Event → Bool
  | .invoke r b' _ => r == rid && b' == b
  | _ => false
def calls (rid : Nat) (b : Br) (log : List Event) : Nat := log.countP (Event.isInv rid b)

def SettledAs (s : State) (rid : Nat) (b : Br) (v : Val) : Prop :=
  ∃ p pr, s.regs[rid]? = some p ∧ s.heap[p]? = some pr ∧ pr.st = .settled b v

structure Inv (s : State) : Prop where
  regs_lt : ∀ (rid p : Nat), s.regs[rid]? = some p → p < s.heap.length
  owner : ∀ (p : Nat) (pr : Prom), s.heap[p]? = some pr → ∀ b, ∀ c ∈ pick b pr, c.br = b ∧ s.regs[c.rid]? = some p
  clean : ∀ (p : Nat) (pr : Prom) (b : Br) (v : Val), s.heap[p]? = some pr → pr.st = .settled b v → pr.resolvers = [] ∧ pr.rejectors = []
  frames : ∀ v todo, Frame.notify v todo ∈ s.stack → ∀ c ∈ todo, SettledAs s c.rid c.br v
  logs : ∀ (rid : Nat) (b : Br) (v : Val), Event.invoke rid b v ∈ s.log → SettledAs s rid b v
  acct : ∀ (rid p : Nat) (pr : Prom), s.regs[rid]? = some p → s.heap[p]? = some pr →
    (pr.st = .pending → cnt rid .res pr.resolvers = 1 ∧ cnt rid .rej pr.rejectors = 1) ∧
    (∀ b v, pr.st = .settled b v → stackCnt rid b s.stack + calls rid b s.log = 1)

theorem mkCb_rid (rid b f q) : (mkCb rid b f q).rid = rid := rfl
theorem mkCb_br (rid b f q) : (mkCb rid b f q).br = b := rfl

theorem pick_empty (b o) : pick b ({ origin := o } : Prom) = [] := by cases b <;> rfl

theorem cnt_zero_of {rid b} {l : List Cb} (h : ∀ c ∈ l, ¬(c.rid = rid ∧ c.br = b)) : cnt rid b l = 0 := by
  unfold cnt
  rw [List.countP_eq_zero]
  intro c hc
  simpa [Cb.is] using h c hc

theorem cnt_append (rid b) (l1 l2 : List Cb) : cnt rid b (l1 ++ l2) = cnt rid b l1 + cnt rid b l2 := by
  simp [cnt, List.countP_append]

theorem cnt_cons (rid b) (c : Cb) (l) : cnt rid b (c :: l) = cnt rid b l + if c.rid = rid ∧ c.br = b then 1 else 0 := by
  simp [cnt, Cb.is, List.countP_cons]

theorem cnt_single (rid b) (c : Cb) : cnt rid b [c] = if c.rid = rid ∧ c.br = b then 1 else 0 := by
  simp [cnt, Cb.is, List.countP_cons]

theorem exists_of_cnt_pos {rid b} {l : List Cb} (h : 0 < cnt rid b l) : ∃ c ∈ l, c.rid = rid ∧ c.br = b := by
  obtain ⟨c, hc, hp⟩ := List.countP_pos_iff.mp h
  exact ⟨c, hc, by simpa [Cb.is] using hp⟩

theorem frameCnt_eq (rid b f) : frameCnt rid b f = cnt rid b f.todo := by cases f <;> rfl

theorem stackCnt_cons (rid b f st) : stackCnt rid b (f :: st) = cnt rid b f.todo + stackCnt rid b st := by
  simp [stackCnt, frameCnt_eq]

theorem stackCnt_append (rid b) (f st : List Frame) : stackCnt rid b (f ++ st) = stackCnt rid b f + stackCnt rid b st := by
  simp [stackCnt]

theorem stackCnt_zero_of {rid b} {st : List Frame}
    (h : ∀ v todo, Frame.notify v todo ∈ st → ∀ c ∈ todo, ¬(c.rid = rid ∧ c.br = b)) : stackCnt rid b st = 0 := by
  induction st with
  | nil => rfl
  | cons f st ih =>
    rw [stackCnt_cons, ih (fun v todo hm => h v todo (List.mem_cons_of_mem _ hm))]
    cases f with
    | notify v todo => exact cnt_zero_of (h v todo (List.mem_cons_self ..))
    | _ => rfl

theorem calls_cons (rid b e log) : calls rid b (e :: log) = calls rid b log + if Event.isInv rid b e then 1 else 0 := by
  simp [calls, List.countP_cons]

theorem calls_append (rid b) (l1 l2 : List Event) : calls rid b (l1 ++ l2) = calls rid b l1 + calls rid b l2 := by
  simp [calls, List.countP_append]

theorem calls_invoked {s : State} {v c todo stk} (rid b) :
    calls rid b (invoked s v c todo stk).log = calls rid b s.log + if c.rid = rid ∧ c.br = b then 1 else 0 := by
  simp [invoked, calls_cons, Event.isInv]

theorem thenOp_calls (p r j) (s : State) (rid b) : calls rid b (thenOp p r j s).log = calls rid b s.log := by
  by_cases hp : p < s.heap.length
  · rw [(thenOp_fields hp r j).2.2.1]
  · rw [thenOp_bad hp]; exact calls_cons ..

theorem calls_pos_iff {rid b} {log : List Event} : 0 < calls rid b log ↔ ∃ v, Event.invoke rid b v ∈ log := by
  unfold calls
  rw [List.countP_pos_iff]
  constructor
  · rintro ⟨e, he, hp⟩
    cases e with
    | invoke r b' v =>
      simp only [Event.isInv, Bool.and_eq_true, beq_iff_eq] at hp
      obtain ⟨rfl, rfl⟩ := hp
      exact ⟨v, he⟩
    | _ => cases hp
  · rintro ⟨v, h⟩
    exact ⟨_, h, by simp [Event.isInv]⟩

theorem calls_zero_of {rid b} {log : List Event} (h : ∀ v, Event.invoke rid b v ∉ log) : calls rid b log = 0 :=
  Nat.eq_zero_of_not_pos fun hp => let ⟨v, hv⟩ := calls_pos_iff.mp hp; h v hv

theorem isInv_false {e : Event} (he : ∀ rid b v, e ≠ .invoke rid b v) (rid b) : Event.isInv rid b e = false := by
  cases e with
  | invoke r b' v => exact absurd rfl (he r b' v)
  | _ => rfl

theorem SettledAs.status {s : State} {rid b v p} (h : SettledAs s rid b v) (hr : s.regs[rid]? = some p) :
    status s p = some (.settled b v) := by
  obtain ⟨p', pr, h1, h2, h3⟩ := h
  rw [hr] at h1; cases h1
  simp [Promise.status, h2, h3]

theorem SettledAs.not_pending {s : State} {rid b v p pr} (h : SettledAs s rid b v) (hr : s.regs[rid]? = some p)
    (hp : s.heap[p]? = some pr) : pr.st = .settled b v := by
  simpa [Promise.status, hp] using h.status hr

theorem SettledAs.mono {s s' : State} {rid b v} (h : SettledAs s rid b v) (hx : Ext s s')
    (hr : ∀ (rid p : Nat), s.regs[rid]? = some p → s'.regs[rid]? = some p) : SettledAs s' rid b v := by
  obtain ⟨p, pr, h1, h2, h3⟩ := h
  have := hx.2 p b v (by simp [Promise.status, h2, h3])
  unfold Promise.status at this
  cases h' : s'.heap[p]? with
  | none => simp [h'] at this
  | some pr' => simp [h'] at this; exact ⟨p, pr', hr _ _ h1, h', this⟩

theorem Inv.zero_of {s : State} (I : Inv s) {rid b} (h : ∀ v, ¬ SettledAs s rid b v) :
    stackCnt rid b s.stack = 0 ∧ calls rid b s.log = 0 := by
  refine ⟨stackCnt_zero_of fun v todo hm c hc ⟨h1, h2⟩ => h v ?_, calls_zero_of fun v hm => h v (I.logs rid b v hm)⟩
  rw [← h1, ← h2]; exact I.frames v todo hm c hc

theorem Inv.stack_zero {s : State} (I : Inv s) {rid p pr b} (hr : s.regs[rid]? = some p) (hp : s.heap[p]? = some pr)
    (hne : ∀ v, pr.st ≠ .settled b v) : stackCnt rid b s.stack = 0 ∧ calls rid b s.log = 0 :=
  I.zero_of fun v h => hne v (h.not_pending hr hp)

theorem Inv.fresh {s : State} (I : Inv s) {rid} (hr : s.regs.length ≤ rid) (b) :
    stackCnt rid b s.stack = 0 ∧ calls rid b s.log = 0 :=
  I.zero_of fun v ⟨p, _, h, _⟩ => by rw [List.getElem?_eq_none hr] at h; cases h

theorem Inv.count {s : State} (I : Inv s) {rid p} (hr : s.regs[rid]? = some p) :
    (status s p = some .pending → ∀ b, stackCnt rid b s.stack = 0 ∧ calls rid b s.log = 0) ∧
    (∀ b v, status s p = some (.settled b v) → stackCnt rid b s.stack + calls rid b s.log = 1 ∧
      ∀ b', b' ≠ b → stackCnt rid b' s.stack = 0 ∧ calls rid b' s.log = 0) := by
  have hlt := I.regs_lt rid p hr
  have hp : s.heap[p]? = some s.heap[p] := List.getElem?_eq_getElem hlt
  simp only [status, hp, Option.map_some, Option.some.injEq]
  refine ⟨fun hst b => I.stack_zero hr hp (by rw [hst]; nofun),
    fun b v hst => ⟨(I.acct rid p _ hr hp).2 b v hst, fun b' hb => I.stack_zero hr hp ?_⟩⟩
  intro v' h'; rw [hst] at h'; cases h'; exact hb rfl

theorem Inv.quiet_called {s : State} (I : Inv s) (hq : s.stack = []) {rid p b v} (hr : s.regs[rid]? = some p)
    (hp : status s p = some (.settled b v)) : calls rid b s.log = 1 := by
  have := ((I.count hr).2 b v hp).1
  rw [hq] at this
  simpa [stackCnt] using this

theorem Inv.head_uncalled {s : State} (I : Inv s) {v c todo stk} (hs : s.stack = .notify v (c :: todo) :: stk) (b) :
    calls c.rid b s.log = 0 := by
  obtain ⟨p, pr, h1, h2, h3⟩ := I.frames v (c :: todo) (hs ▸ List.mem_cons_self ..) c (List.mem_cons_self ..)
  by_cases hb : b = c.br
  · subst hb
    have := (I.acct c.rid p pr h1 h2).2 c.br v h3
    rw [hs, stackCnt_cons] at this
    simp only [Frame.todo, cnt_cons] at this
    simp at this
    omega
  · exact (I.stack_zero h1 h2 (b := b) (by intro v' h'; rw [h3] at h'; cases h'; exact hb rfl)).2

theorem Inv_settle {s : State} (I : Inv s) (b q v) : Inv (settle b q v s) := by
  rcases settle_cases b q v s with h | ⟨pr, hq, hpend, h⟩
  · rw [h]; exact I
  have hx : Ext s (settle b q v s) := Ext_settle b q v s
  rw [h] at hx ⊢
  have hqlt : q < s.heap.length := lt_of_getElem? hq
  have hmono : ∀ {rid b' v'}, SettledAs s rid b' v' → SettledAs _ rid b' v' := fun h => h.mono hx (fun _ _ h => h)
  refine ⟨?_, ?_, ?_, ?_, ?_, ?_⟩
  · intro rid p hr; simpa using I.regs_lt rid p hr
  · intro p pr' hp b' c hc
    rcases (set_lookup hqlt).mp hp with ⟨rfl, rfl⟩ | ⟨_, hp⟩
    · cases b' <;> cases hc
    · exact I.owner p pr' hp b' c hc
  · intro p pr' b' v' hp hst
    rcases (set_lookup hqlt).mp hp with ⟨rfl, rfl⟩ | ⟨_, hp⟩
    · exact ⟨rfl, rfl⟩
    · exact I.clean p pr' b' v' hp hst
  · intro v' todo hm c hc
    rcases List.mem_cons.mp hm with hm | hm
    · cases hm
      obtain ⟨h1, h2⟩ := I.owner q pr hq b c hc
      exact ⟨q, _, h2, (set_lookup hqlt).mpr (.inl ⟨rfl, rfl⟩), by rw [h1]⟩
    · exact hmono (I.frames v' todo hm c hc)
  · intro rid b' v' hm; exact hmono (I.logs rid b' v' hm)
  · intro rid p pr' hr hp
    simp only [stackCnt_cons, Frame.todo]
    -- the new loop holds what was on the list of `q`: each `then()` call on `q` once, none made on another promise
    rcases (set_lookup hqlt).mp hp with ⟨rfl, rfl⟩ | ⟨hpq, hp⟩
    · refine ⟨nofun, ?_⟩
      intro b' v' hst
      cases hst
      have hz := I.stack_zero hr hq (b := b) (by simp [hpend])
      have h1 := (I.acct rid p pr hr hq).1 hpend
      have : cnt rid b (pick b pr) = 1 := by cases b <;> simp [pick, h1.1, h1.2]
      omega
    · refine ⟨(I.acct rid p pr' hr hp).1, ?_⟩
      intro b' v' hst
      have := (I.acct rid p pr' hr hp).2 b' v' hst
      have hz : cnt rid b' (pick b pr) = 0 := by
        apply cnt_zero_of
        intro c hc ⟨h1, _⟩
        have := (I.owner q pr hq b c hc).2
        rw [h1, hr] at this; cases this; exact hpq rfl
      omega

theorem Inv.restack {s : State} (I : Inv s) (st : List Frame) (lg : List Event)
    (hf : ∀ v todo, Frame.notify v todo ∈ st → ∀ c ∈ todo, SettledAs s c.rid c.br v)
    (hl : ∀ rid b v, Event.invoke rid b v ∈ lg → SettledAs s rid b v)
    (hc : ∀ rid b, stackCnt rid b st + calls rid b lg = stackCnt rid b s.stack + calls rid b s.log) :
    Inv { s with stack := st, log := lg } :=
  ⟨I.regs_lt, I.owner, I.clean, hf, hl, fun rid p pr hr hp =>
    ⟨(I.acct rid p pr hr hp).1, fun b v h => (hc rid b).trans ((I.acct rid p pr hr hp).2 b v h)⟩⟩

theorem Inv.pop {s : State} (I : Inv s) {f rest} (hs : s.stack = f :: rest) (hf : f.todo = []) :
    Inv { s with stack := rest } := by
  refine I.restack rest s.log (fun v todo hm => I.frames v todo (hs ▸ List.mem_cons_of_mem _ hm)) I.logs ?_
  intro rid b
  rw [hs, stackCnt_cons, hf]; simp [cnt]

theorem Inv.push {s : State} (I : Inv s) (f : Frame) (hf : ∀ v todo, f ≠ .notify v todo) : Inv (push f s) := by
  refine I.restack (f :: s.stack) s.log ?_ I.logs ?_
  · intro v todo hm
    exact I.frames v todo ((List.mem_cons.mp hm).resolve_left (fun e => hf v todo e.symm))
  · intro rid b
    have : f.todo = [] := by
      cases f with
      | notify v todo => exact absurd rfl (hf v todo)
      | _ => rfl
    rw [stackCnt_cons, this]; simp [cnt]

theorem Inv.emit {s : State} (I : Inv s) (e : Event) (he : ∀ rid b v, e ≠ .invoke rid b v) : Inv (emit e s) := by
  refine I.restack s.stack (e :: s.log) I.frames ?_ ?_
  · intro rid b v hm
    exact I.logs rid b v ((List.mem_cons.mp hm).resolve_left (fun h => he rid b v h.symm))
  · intro rid b
    rw [calls_cons, isInv_false he]; rfl

theorem Inv.invoked {s : State} (I : Inv s) {v c todo stk} (hs : s.stack = .notify v (c :: todo) :: stk) :
    Inv (invoked s v c todo stk) := by
  have hm : Frame.notify v (c :: todo) ∈ s.stack := hs ▸ List.mem_cons_self ..
  refine I.restack _ _ ?_ ?_ ?_
  · intro v' todo' hm' c' hc'
    rcases List.mem_cons.mp hm' with h | h
    · cases h; exact I.frames v (c :: todo) hm c' (List.mem_cons_of_mem _ hc')
    · exact I.frames v' todo' (hs ▸ List.mem_cons_of_mem _ h) c' hc'
  · intro rid b v' hm'
    rcases List.mem_cons.mp hm' with h | h
    · cases h; exact I.frames v (c :: todo) hm c (List.mem_cons_self ..)
    · exact I.logs rid b v' h
  · intro rid b
    rw [hs]
    simp only [stackCnt_cons, Frame.todo, cnt_cons, calls_cons, Event.isInv, Bool.and_eq_true, beq_iff_eq]
    omega

theorem Inv.setColls {s : State} (I : Inv s) (cs) : Inv { s with colls := cs } :=
  ⟨I.regs_lt, I.owner, I.clean, I.frames, I.logs, I.acct⟩

theorem Inv_thenOp {s : State} (I : Inv s) (p r j) : Inv (thenOp p r j s) := by
  cases hp : s.heap[p]? with
  | none => rw [thenOp_bad (by simpa using hp)]; exact I.emit _ nofun
  | some pr =>
  have hplt : p < s.heap.length := lt_of_getElem? hp
  have hregs : ∀ (rid p' : Nat), s.regs[rid]? = some p' → (s.regs ++ [p])[rid]? = some p' :=
    fun rid p' h => getElem?_snoc_eq_some.mpr (.inl h)
  have hregs_lt : ∀ (rid p' : Nat), (s.regs ++ [p])[rid]? = some p' → p' < s.heap.length := by
    intro rid p' hr
    rcases getElem?_snoc_eq_some.mp hr with hr | ⟨_, rfl⟩
    · exact I.regs_lt rid p' hr
    · exact hplt
  have hmono : ∀ {rid b' v'}, SettledAs s rid b' v' → SettledAs (thenOp p r j s) rid b' v' :=
    fun h => h.mono (Ext_thenOp p r j s) (by rw [thenOp_regs hplt]; exact hregs)
  rw [thenOp_eq hp] at hmono ⊢
  -- the callbacks on the lists of `p` afterwards, and in the loop that starts if `p` is settled
  have hown : ∀ b c, c ∈ pick b pr ∨ c = newCb s r j b → c.br = b ∧ (s.regs ++ [p])[c.rid]? = some p := by
    rintro b c (hc | rfl)
    · have := I.owner p pr hp b c hc; exact ⟨this.1, hregs _ _ this.2⟩
    · exact ⟨rfl, by simp [newCb, mkCb_rid]⟩
  -- that loop holds the new callback alone, the lists of a settled promise being empty
  have hfire : ∀ b v, pr.st = .settled b v → pr.fire (newCb s r j) = [.notify v [newCb s r j b]] := by
    intro b v hst
    obtain ⟨h1, h2⟩ := I.clean p pr b v hp hst
    unfold Prom.fire
    simp only [hst]
    cases b <;> simp [pick, h1, h2]
  have hold : ∀ {rid p'}, s.regs[rid]? = some p' → ∀ b, stackCnt rid b (pr.fire (newCb s r j)) = 0 := by
    intro rid p' hr b
    have hne : s.regs.length ≠ rid := Nat.ne_of_gt (lt_of_getElem? hr)
    cases hst : pr.st with
    | pending => rw [(Prom.attach_pending hst _).2]; rfl
    | settled b0 v => rw [hfire b0 v hst]; simp [stackCnt, frameCnt, cnt_single, newCb, mkCb_rid, hne]
  refine ⟨?_, ?_, ?_, ?_, ?_, ?_⟩
  · intro rid p' hr; have := hregs_lt rid p' hr; simp; omega
  · intro p' pr' hp' b' c hc
    rcases (heap_then_lookup hplt).mp hp' with ⟨rfl, rfl⟩ | ⟨_, hp'⟩ | ⟨rfl, rfl⟩
    · rcases Prom.pick_attach pr (newCb s r j) b' with e | e <;> rw [e] at hc
      · exact hown b' c ((List.mem_append.mp hc).imp_right List.mem_singleton.mp)
      · cases hc
    · have := I.owner p' pr' hp' b' c hc; exact ⟨this.1, hregs _ _ this.2⟩
    · rw [pick_empty] at hc; cases hc
  · intro p' pr' b' v' hp' hst'
    rcases (heap_then_lookup hplt).mp hp' with ⟨rfl, rfl⟩ | ⟨_, hp'⟩ | ⟨rfl, rfl⟩
    · exact Prom.attach_clean hst'
    · exact I.clean p' pr' b' v' hp' hst'
    · exact ⟨rfl, rfl⟩
  · intro v' todo hm c hc
    rcases List.mem_append.mp hm with hm | hm
    · obtain ⟨b, v, hst, e⟩ := Prom.mem_fire hm
      cases e
      have := hown b c ((List.mem_append.mp hc).imp_right List.mem_singleton.mp)
      exact ⟨p, _, this.2, (heap_then_lookup hplt).mpr (.inl ⟨rfl, rfl⟩), by rw [Prom.attach_st, this.1, hst]⟩
    · exact hmono (I.frames v' todo hm c hc)
  · intro rid b' v' hm; exact hmono (I.logs rid b' v' hm)
  · intro rid p' pr' hr hp'
    simp only [stackCnt_append]
    have hr' := getElem?_snoc_eq_some.mp hr
    rcases (heap_then_lookup hplt).mp hp' with ⟨rfl, rfl⟩ | ⟨hne, hp'⟩ | ⟨rfl, rfl⟩
    · rw [Prom.attach_st]
      refine ⟨fun hst => ?_, fun b v hst => ?_⟩
      · -- pending: both lists grow
        rw [(Prom.attach_pending hst _).1]
        simp only [cnt_append, cnt_single, newCb, mkCb_rid, mkCb_br]
        rcases hr' with hr' | ⟨rfl, _⟩
        · have := (I.acct rid _ pr hr' hp).1 hst
          simp [Nat.ne_of_gt (lt_of_getElem? hr'), this.1, this.2]
        · have h0 : ∀ b, cnt s.regs.length b (pick b pr) = 0 := fun b => cnt_zero_of fun c hc hh => by
            have := (I.owner _ pr hp b c hc).2
            rw [hh.1, List.getElem?_eq_none (Nat.le_refl _)] at this; cases this
          have h1 : cnt s.regs.length .res pr.resolvers = 0 := h0 .res
          have h2 : cnt s.regs.length .rej pr.rejectors = 0 := h0 .rej
          simp [h1, h2]
      · -- settled: the new callback is scheduled at once
        rcases hr' with hr' | ⟨rfl, _⟩
        · rw [hold hr', Nat.zero_add]; exact (I.acct rid _ pr hr' hp).2 b v hst
        · have := I.fresh (Nat.le_refl s.regs.length) b
          rw [hfire b v hst]
          simp [stackCnt_cons, Frame.todo, cnt_single, newCb, mkCb_rid, mkCb_br, this.1, this.2,
            show stackCnt s.regs.length b [] = 0 from rfl]
    · rcases hr' with hr' | ⟨rfl, rfl⟩
      · have := I.acct rid p' pr' hr' hp'
        exact ⟨this.1, fun b v h => by rw [hold hr', Nat.zero_add]; exact this.2 b v h⟩
      · exact absurd rfl hne
    · have := hregs_lt rid _ hr; omega

theorem Inv_newProm {s : State} (I : Inv s) (o) : Inv (newProm o s) := by
  have hmono : ∀ {rid b' v'}, SettledAs s rid b' v' → SettledAs (newProm o s) rid b' v' :=
    fun h => h.mono (Ext_newProm o s) (fun _ _ h => h)
  refine ⟨?_, ?_, ?_, ?_, ?_, ?_⟩
  · intro rid p hr
    have := I.regs_lt rid p hr
    simp only [newProm, List.length_append, List.length_singleton]; omega
  · intro p pr hp b c hc
    rcases getElem?_snoc_eq_some.mp hp with hp | ⟨_, rfl⟩
    · exact I.owner p pr hp b c hc
    · rw [pick_empty] at hc; cases hc
  · intro p pr b v hp hst
    rcases getElem?_snoc_eq_some.mp hp with hp | ⟨_, rfl⟩
    · exact I.clean p pr b v hp hst
    · exact ⟨rfl, rfl⟩
  · intro v todo hm c hc; exact hmono (I.frames v todo hm c hc)
  · intro rid b v hm; exact hmono (I.logs rid b v hm)
  · intro rid p pr hr hp
    rcases getElem?_snoc_eq_some.mp hp with hp | ⟨rfl, rfl⟩
    · exact I.acct rid p pr hr hp
    · have := I.regs_lt rid _ hr; omega

theorem Inv.stable : Stable Inv where
  settle b q v I := Inv_settle I b q v
  thenOp p r j I := Inv_thenOp I p r j
  newProm o I := Inv_newProm I o
  push f hf I := I.push f hf
  emit e he I := I.emit e he
  pop hs hf I := I.pop hs hf
  invoked hs I := I.invoked hs
  setColl _ _ _ _ _ I := I.setColls _
  addColl _ I := I.setColls _

theorem init_heap {p : Nat} {pr : Prom} : init.heap[p]? ≠ some pr := nofun
theorem init_regs {rid p : Nat} : init.regs[rid]? ≠ some p := nofun
theorem init_colls {a : Nat} {r : Coll} : init.colls[a]? ≠ some r := nofun
theorem init_stack {f : Frame} : f ∉ init.stack := nofun

theorem Inv_init : Inv init :=
  ⟨fun _ _ h => absurd h init_regs, fun _ _ h => absurd h init_heap, fun _ _ _ _ h => absurd h init_heap,
    fun _ _ h => absurd h init_stack, nofun, fun _ _ _ h => absurd h init_regs⟩

theorem Reach.inv {s : State} (h : Reach s) : Inv s := Inv.stable.evolves h Inv_init

end RedunModel.Promise
