/-
Helper lemmas for the value-store model (C31): association-list lookup, `dropKey`, `put`; the invariant of
reachable backend states and what `record` does to rows, store objects and reads.
-/
import RedunModel.Model.ValueStore
import RedunModel.Lemmas.AssocList
namespace RedunModel.ValueStore

section Lookup
variable {α β : Type} [DecidableEq α]

@[simp] theorem lookup_nil (k : α) : lookup k ([] : List (α × β)) = none := rfl
@[simp] theorem lookup_cons_self (k : α) (b : β) (t : List (α × β)) : lookup k ((k, b) :: t) = some b := by
  simp [lookup]
theorem lookup_cons_ne {a k : α} (h : a ≠ k) (b : β) (t : List (α × β)) : lookup k ((a, b) :: t) = lookup k t := by
  simp [lookup, h]

theorem lookup_eq (k : α) (l : List (α × β)) : lookup k l = l.lookup k :=
  Assoc.lookup_eq_of_rec (fun _ => rfl) (fun _ _ _ _ => rfl) k l

theorem lookup_dropKey (k k' : α) (l : List (α × β)) :
    lookup k' (dropKey k l) = if k' = k then none else lookup k' l := by
  rw [lookup_eq, lookup_eq, ← Assoc.lookup_erase, dropKey]
  congr; funext e; simp only [ne_eq, decide_not, bne]; rfl

theorem of_lookup_dropKey {k k' : α} {l : List (α × β)} {b : β} (h : lookup k' (dropKey k l) = some b) :
    lookup k' l = some b := by
  rw [lookup_dropKey] at h
  split at h
  · cases h
  · exact h

theorem dropKey_cons_self (k : α) (b : β) (l : List (α × β)) : dropKey k ((k, b) :: l) = dropKey k l := by
  simp [dropKey]

theorem dropKey_idem (k : α) (l : List (α × β)) : dropKey k (dropKey k l) = dropKey k l := by
  simp [dropKey, List.filter_filter]
end Lookup

theorem lookup_put (st : List (Key × Bytes)) (k k' : Key) (d : Bytes) :
    lookup k' (put st k d) = (lookup k' st).or (if k' = k then some d else none) := by
  unfold put
  by_cases hk : k' = k
  · subst hk
    cases h : lookup k' st <;> simp [h]
  · rw [if_neg hk, Option.or_none]
    split
    · rfl
    · exact lookup_cons_ne (Ne.symm hk) _ _

theorem of_lookup_put {st : List (Key × Bytes)} {k k' : Key} {d b : Bytes} (h : lookup k' (put st k d) = some b) :
    lookup k' st = some b ∨ k' = k ∧ b = d := by
  rw [lookup_put] at h
  cases hl : lookup k' st with
  | some c => rw [hl] at h; exact Or.inl h
  | none =>
    rw [hl, Option.none_or] at h
    split at h
    · exact Or.inr ⟨‹_›, (Option.some.inj h).symm⟩
    · cases h

theorem put_put (st : List (Key × Bytes)) (k : Key) (d : Bytes) : put (put st k d) k d = put st k d := by
  have h := lookup_put st k k d
  generalize put st k d = st' at h ⊢
  unfold put
  cases hl : lookup k st <;> simp [h, hl]

theorem hasObject_iff {k : Key} {s : St} :
    hasObject k s = true ↔ ∃ st b, s.store = some st ∧ lookup k st = some b := by
  unfold hasObject
  cases s.store with
  | none => simp
  | some st => simp [Option.isSome_iff_exists]

end RedunModel.ValueStore

namespace RedunModel.C31
open RedunModel.ValueStore

variable (fn : Bytes → Bytes)

/-- What every reachable backend state satisfies (hashes are perfect: a row / store file / FileCache file holds the
bytes its name is the hash of). -/
structure Inv (s : St) : Prop where
  row : ∀ k d, lookup k s.db = some d → d = [] ∨ d = k.2
  placeholder : ∀ k, lookup k s.db = some [] → s.store.isSome = true
  store : ∀ st, s.store = some st → ∀ k b, lookup k st = some b → b = k.2
  fc : ∀ f c, lookup f s.fc = some c → fn c = f

/-- no offloaded bytes are missing: every placeholder row has its store file -/
def Complete (s : St) : Prop :=
  ∀ k, lookup k s.db = some [] → ∃ st b, s.store = some st ∧ lookup k st = some b

theorem serialize_db (v : Val) (s : St) : (serialize fn v s).db = s.db ∧ (serialize fn v s).store = s.store := by
  cases v <;> simp [serialize]

theorem inv_serialize (v : Val) (s : St) (hI : Inv fn s) : Inv fn (serialize fn v s) := by
  cases v with
  | plain d => exact hI
  | fcache p =>
    refine ⟨hI.row, hI.placeholder, hI.store,
      fun f c (hl : lookup f ((fn p, p) :: dropKey (fn p) s.fc) = some c) => ?_⟩
    by_cases hf : fn p = f
    · subst hf; rw [lookup_cons_self] at hl; cases hl; rfl
    · rw [lookup_cons_ne hf] at hl; exact hI.fc f c (of_lookup_dropKey hl)

/-- the offload decision of `record_value` -/
def offloads (s : St) (n : Nat) (cfg : Cfg) : Bool := s.store.isSome && decide (n + overhead ≥ cfg.minSize)

theorem record_too_large {v : Val} {cfg : Cfg} {s : St} (hgt : ¬ (ser fn v).length ≤ cfg.maxSize) :
    record fn v cfg s = (serialize fn v s, .error .tooLarge) := by
  unfold record
  simp [Nat.not_le.mp hgt]

section RecordOk
variable {v : Val} {cfg : Cfg} {s : St} (hle : (ser fn v).length ≤ cfg.maxSize)
include hle

/-- normal form of a successful `record`: row and store object are `put` (an existing one is left alone) -/
theorem record_ok : record fn v cfg s =
    ({ db := put s.db (key fn v) (if offloads s (ser fn v).length cfg then [] else ser fn v),
       store := if offloads s (ser fn v).length cfg then s.store.map (fun st => put st (key fn v) (ser fn v)) else s.store,
       fc := (serialize fn v s).fc }, .ok (key fn v)) := by
  have hnot : ¬ (ser fn v).length > cfg.maxSize := by omega
  obtain ⟨hdb, hst⟩ := serialize_db fn v s
  unfold record
  simp only [hnot, if_false, hdb, hst, offloads, put]
  obtain ⟨db, store, fc⟩ := s
  cases store <;> simp

theorem hasObject_record (k : Key) : hasObject k (record fn v cfg s).1 =
    (hasObject k s || (offloads s (ser fn v).length cfg && k == key fn v)) := by
  rw [record_ok fn hle]
  unfold hasObject offloads
  cases s.store with
  | none => rfl
  | some st =>
    by_cases hp : (ser fn v).length + overhead ≥ cfg.minSize
    · simp only [Option.isSome_some, Bool.true_and, decide_eq_true hp, if_true, Option.map_some, lookup_put]
      cases lookup k st <;> by_cases hk : k = key fn v <;> simp [hk]
    · simp only [Option.isSome_some, Bool.true_and, decide_eq_false hp, Bool.false_eq_true, if_false,
        Bool.false_and, Bool.or_false]

theorem of_lookup_record {k : Key} {d : Bytes} (h : lookup k (record fn v cfg s).1.db = some d) :
    lookup k s.db = some d ∨ k = key fn v ∧ (d = [] ∧ offloads s (ser fn v).length cfg = true ∨ d = ser fn v) := by
  rw [record_ok fn hle] at h
  refine (of_lookup_put h).imp_right (And.imp_right fun hd => ?_)
  split at hd
  · exact Or.inl ⟨hd, ‹_›⟩
  · exact Or.inr hd

theorem object_after_record (hne : ser fn v ≠ []) {k : Key}
    (hk : lookup k s.db = some [] → hasObject k s = true ∨ k = key fn v ∧ offloads s (ser fn v).length cfg = true)
    (h : lookup k (record fn v cfg s).1.db = some []) : hasObject k (record fn v cfg s).1 = true := by
  rw [hasObject_record fn hle]
  rcases of_lookup_record fn hle h with h | ⟨hk', ⟨_, ho⟩ | hd⟩
  · rcases hk h with h | ⟨hk', ho⟩
    · rw [h]; rfl
    · simp [hk', ho]
  · simp [hk', ho]
  · exact absurd hd.symm hne

end RecordOk

theorem record_store_isSome (v : Val) (cfg : Cfg) (s : St) : (record fn v cfg s).1.store.isSome = s.store.isSome := by
  by_cases hle : (ser fn v).length ≤ cfg.maxSize
  · rw [record_ok fn hle]
    dsimp only
    split
    · exact Option.isSome_map
    · rfl
  · rw [record_too_large fn hle, (serialize_db fn v s).2]

theorem record_fc (v : Val) (cfg : Cfg) (s : St) : (record fn v cfg s).1.fc = (serialize fn v s).fc := by
  by_cases hle : (ser fn v).length ≤ cfg.maxSize
  · rw [record_ok fn hle]
  · rw [record_too_large fn hle]

theorem inv_record (v : Val) (cfg : Cfg) (s : St) (hI : Inv fn s) (hne : ser fn v ≠ []) : Inv fn (record fn v cfg s).1 := by
  by_cases hle : (ser fn v).length ≤ cfg.maxSize
  · refine ⟨fun k d h => ?_, fun k h => ?_, ?_, ?_⟩
    · rcases of_lookup_record fn hle h with h | ⟨rfl, ⟨hd, _⟩ | hd⟩
      · exact hI.row k d h
      · exact Or.inl hd
      · exact Or.inr hd
    · rw [record_store_isSome]
      rcases of_lookup_record fn hle h with h | ⟨_, ⟨_, ho⟩ | hd⟩
      · exact hI.placeholder k h
      · exact (Bool.and_eq_true_iff.mp ho).1
      · exact absurd hd.symm hne
    · rw [record_ok fn hle]
      intro st' hs k b hb
      dsimp only at hs
      split at hs
      · obtain ⟨st, hst, rfl⟩ := Option.map_eq_some_iff.mp hs
        rcases of_lookup_put hb with hb | ⟨rfl, rfl⟩
        · exact hI.store st hst k b hb
        · rfl
      · exact hI.store st' hs k b hb
    · rw [record_fc]
      exact (inv_serialize fn v s hI).fc
  · rw [record_too_large fn hle]
    exact inv_serialize fn v s hI

theorem complete_record (v : Val) (cfg : Cfg) (s : St) (hC : Complete s) (hne : ser fn v ≠ []) :
    Complete (record fn v cfg s).1 := by
  by_cases hle : (ser fn v).length ≤ cfg.maxSize
  · exact fun k h => hasObject_iff.mp
      (object_after_record fn hle hne (fun h => Or.inl (hasObject_iff.mpr (hC k h))) h)
  · rw [record_too_large fn hle]
    intro k h
    rw [(serialize_db fn v s).1] at h
    rw [(serialize_db fn v s).2]
    exact hC k h

/-- states reachable from a fresh backend by recording values (any thresholds), attaching a value store and
deleting FileCache files — everything except deleting store files -/
inductive Reach : St → Prop
  | init (b : Bool) : Reach (St.init b)
  | record (s : St) (v : Val) (cfg : Cfg) : Reach s → ser fn v ≠ [] → Reach (record fn v cfg s).1
  | attach (s : St) : Reach s → Reach (attachStore s)
  | dropFc (s : St) (f : Bytes) : Reach s → Reach (dropFc f s)

theorem deser_key (s : St) (hI : Inv fn s) (k : Key) (v : Val) (h : deser s k k.2 = some v) : key fn v = k := by
  unfold deser at h
  obtain ⟨k1, k2⟩ := k
  cases k1 with
  | true =>
    simp only [if_true, Option.map_eq_some_iff] at h
    obtain ⟨c, hc, hv⟩ := h
    subst hv
    simp [key, isFc, ser, hI.fc _ _ hc]
  | false =>
    simp at h
    subst h
    simp [key, isFc, ser]

theorem deser_after_serialize (v : Val) (s s' : St) (h : s'.fc = (serialize fn v s).fc) :
    deser s' (key fn v) (ser fn v) = some v := by
  unfold deser
  rw [h]
  cases v with
  | plain d => rfl
  | fcache p => simp [key, isFc, ser, serialize]

/-- `get` finds bytes for `k`: a row that holds them, or a placeholder row whose store object exists -/
def held (s : St) (k : Key) : Bool :=
  match lookup k s.db with
  | none => false
  | some d => d ≠ [] || hasObject k s

/-- In a state satisfying the invariant the bytes found under `k` are `k.2`, wherever they are kept, so `get`
is: deserialize `k.2` if bytes are held, absent otherwise. -/
theorem get_eq (s : St) (hI : Inv fn s) (k : Key) :
    ValueStore.get k s = .ok (if held s k = true then deser s k k.2 else none) := by
  unfold ValueStore.get held
  cases hl : lookup k s.db with
  | none => rfl
  | some d =>
    by_cases hd : d = []
    · subst hd
      obtain ⟨st, hs⟩ := Option.isSome_iff_exists.mp (hI.placeholder k hl)
      simp only [ne_eq, not_true_eq_false, if_false, decide_false, Bool.false_or, hasObject, hs]
      cases hb : lookup k st with
      | none => rfl
      | some b => rw [hI.store st hs k b hb]; rfl
    · have hk := (hI.row k d hl).resolve_left hd
      subst hk
      simp only [ne_eq, hd, not_false_eq_true, if_true, decide_true, Bool.true_or]

theorem get_of_row (s : St) (hI : Inv fn s) (k : Key) (hr : (lookup k s.db).isSome = true)
    (hc : lookup k s.db = some [] → hasObject k s = true) : ValueStore.get k s = .ok (deser s k k.2) := by
  have : held s k = true := by
    unfold held
    cases hl : lookup k s.db with
    | none => rw [hl] at hr; cases hr
    | some d =>
      by_cases hd : d = []
      · subst hd; simp [hc hl]
      · simp [hd]
  rw [get_eq fn s hI k, this, if_pos rfl]

/-- Core of the round trip. The side condition only concerns a pre-existing placeholder row: its store file is
present, or this call offloads again (and so re-creates it). -/
theorem roundtrip_core (v : Val) (cfg : Cfg) (s : St) (hI : Inv fn s) (hne : ser fn v ≠ [])
    (hle : (ser fn v).length ≤ cfg.maxSize)
    (hP : lookup (key fn v) s.db = some [] →
      hasObject (key fn v) s = true ∨ offloads s (ser fn v).length cfg = true) :
    ValueStore.get (key fn v) (record fn v cfg s).1 = .ok (some v) := by
  have hrow : (lookup (key fn v) (record fn v cfg s).1.db).isSome = true := by
    rw [record_ok fn hle]
    dsimp only
    rw [lookup_put, if_pos rfl]
    cases lookup (key fn v) s.db <;> rfl
  rw [get_of_row fn _ (inv_record fn v cfg s hI hne) _ hrow
    (object_after_record fn hle hne fun h => (hP h).imp_right fun ho => ⟨rfl, ho⟩)]
  exact congrArg _ (deser_after_serialize fn v s _ (record_fc fn v cfg s))

end RedunModel.C31
