/-
The data invariants of `RedunModel.Model.Arrayer` as one annotated program.  `InvA` (`Lemmas/Arrayer`: who holds the
lock, which lines exist under which configuration) is the layer below.  First the per-line tables: what a thread has
in hand, owes or knows at each of its lines.  Then the record `Inv`, which takes the two lines the threads are at as
arguments, and one walk per thread (`inv_stepS`, `inv_stepM`): each line names the facts it touches, every other fact
is carried over by evaluating the tables at the line before and the line after.  Core Lean only.
-/
import RedunModel.Lemmas.Arrayer
namespace RedunModel.Arrayer

/-- the key `add_job` has entered in `pending` without having written its timestamp yet -/
def unstampedS (a : Adder) : APc → Option Nat
  | .a165 => some a.cur.descr
  | _ => none

/-- the key `submit_pending_jobs` has put back in `pending` without having written its timestamp yet -/
def unstampedM (m : Mon) : MPc → Option Nat
  | .p195 => some m.descr
  | _ => none

theorem holdsS_of_unstamped {a : Adder} {pc : APc} {d : Nat} (h : unstampedS a pc = some d) : holdsS pc = true := by
  unfold unstampedS at h
  split at h
  · rfl
  · cases h

/-- Between the two pops of `submit_pending_jobs` the key is out of `pending` and still has its timestamp.  A table
over the lines and not an implication from `pc = .p185`: on every other line it evaluates to `True`, whatever the line
writes. -/
def poppedAt (pend : Dict (List Job)) (st : Dict Nat) (m : Mon) : MPc → Prop
  | .p185 => (dget st m.descr).isSome ∧ dget pend m.descr = none
  | _ => True

theorem poppedAt_of {pend : Dict (List Job)} {st : Dict Nat} {m : Mon} {pc : MPc} (hx : pc ≠ .p185) :
    poppedAt pend st m pc := by
  unfold poppedAt
  split
  · exact absurd rfl hx
  · trivial

/-- jobs of the input stream that have not entered the arrayer yet -/
def notYet (a : Adder) : List Job :=
  match a.pc with
  | .a158 | .a159 | .a162 | .a163 | .a164 => a.cur :: a.todo
  | .done => []
  | _ => a.todo

theorem notYet_nextCall (a : Adder) : notYet (nextCall a) = a.todo := by
  unfold nextCall; split <;> rename_i h <;> simp only [h] <;> rfl

theorem count_flatten_snoc (sub : List (List Job)) (b : List Job) (j : Job) :
    (sub ++ [b]).flatten.count j = sub.flatten.count j + b.count j := by
  rw [List.flatten_append, List.count_append, List.flatten_cons, List.flatten_nil, List.append_nil]

/-- shape of one submitted batch: same description throughout; size 1, or between min and max -/
def okBatch (p : Params) (b : List Job) : Prop :=
  (∀ j1 ∈ b, ∀ j2 ∈ b, j1.descr = j2.descr) ∧ (b.length = 1 ∨ (p.minSize ≤ b.length ∧ b.length ≤ p.maxSize))

def Homog (d : Nat) (js : List Job) : Prop := ∀ j ∈ js, j.descr = d

/-- what `submit_pending_jobs` knows about `jobs` and `remainder` before each of its lines -/
def batchAt (p : Params) (m : Mon) : MPc → Prop
  | .p185 | .p183x | .p188 => Homog m.descr m.jobs
  | .p189 => Homog m.descr m.jobs ∧ p.maxSize < m.jobs.length
  | .p190 => Homog m.descr m.jobs ∧ m.remainder = m.jobs.drop p.maxSize ∧ p.maxSize < m.jobs.length
  | .p191 => Homog m.descr m.jobs ∧ Homog m.descr m.remainder ∧ m.jobs.length = p.maxSize
  | .p193 | .p194 => Homog m.descr m.remainder
  | .p197 => Homog m.descr m.jobs ∧ m.jobs.length ≤ p.maxSize
  | .p201 => Homog m.descr m.jobs ∧ m.jobs.length ≤ p.maxSize ∧ p.minSize ≤ m.jobs.length
  | _ => True

theorem homog_dset_append {d : Dict (List Job)} (h : ∀ k js, dget d k = some js → Homog k js)
    {k : Nat} {extra : List Job} (he : Homog k extra) :
    ∀ k' js, dget (dset d k ((dget d k).getD [] ++ extra)) k' = some js → Homog k' js := by
  intro k' js hg
  rw [dget_dset] at hg
  split at hg
  · subst k'
    cases hg
    intro j hj
    rcases List.mem_append.1 hj with hj | hj
    · cases hd : dget d k with
      | none => simp [hd] at hj
      | some js0 => rw [hd] at hj; exact h k js0 hd j hj
    · exact he j hj
  · exact h k' js hg

theorem okBatch_of (p : Params) (b : List Job) (d : Nat) (hh : ∀ j ∈ b, j.descr = d)
    (hl : b.length = 1 ∨ (p.minSize ≤ b.length ∧ b.length ≤ p.maxSize)) : okBatch p b := by
  refine ⟨?_, hl⟩
  intro j1 h1 j2 h2; rw [hh j1 h1, hh j2 h2]

theorem shape_snoc {p : Params} {sub : List (List Job)} (h : ∀ b ∈ sub, okBatch p b) {b0 : List Job}
    (h0 : okBatch p b0) : ∀ b ∈ sub ++ [b0], okBatch p b := by
  intro b hb
  rcases List.mem_append.1 hb with hb | hb
  · exact h b hb
  · rw [List.mem_singleton.1 hb]; exact h0

theorem okBatch_single (p : Params) (j : Job) : okBatch p [j] :=
  okBatch_of p [j] j.descr (fun _ h => List.mem_singleton.1 h ▸ rfl) (Or.inl rfl)

/-- distinct keys of `pending` -/
def Live (pend : Dict (List Job)) (l : List Nat) : Prop :=
  l.Nodup ∧ ∀ d ∈ l, (dget pend d).isSome

theorem Live.nil (pend : Dict (List Job)) : Live pend [] := ⟨List.nodup_nil, nofun⟩

theorem Live.sublist {pend : Dict (List Job)} {l l' : List Nat} (h : Live pend l) (hs : l'.Sublist l) :
    Live pend l' :=
  ⟨h.1.sublist hs, fun d hd => h.2 d (hs.subset hd)⟩

theorem Live.dset {pend : Dict (List Job)} {l : List Nat} (h : Live pend l) (k : Nat) (v : List Job) :
    Live (dset pend k v) l :=
  ⟨h.1, fun d hd => isSome_dget_dset (h.2 d hd)⟩

/-- the keys the monitor is still going to look up in `pending`: while `get_stale_descrs` runs, those
selected so far, the current one and the rest of the iterator; afterwards the rest of the stale list
(and the key being popped); none once an exception is on its way -/
def keysAt (m : Mon) : MPc → List Nat
  | .g175b | .g176 | .g174 => m.acc ++ m.descr :: m.iterRest
  | .g173b => m.acc ++ m.iterRest
  | .m127 | .p183 | .p184 => m.descr :: m.stales
  | .g173e | .gUnlockE | .p183xE | .m128 | .m132 | .mExit | .dead => []
  | _ => m.stales

def errPc : MPc → Bool
  | .g173e | .gUnlockE | .p183xE | .m128 | .m132 | .mExit | .dead => true
  | _ => false

def scanIter : MPc → Bool
  | .g175b | .g176 | .g174 | .g173b => true
  | _ => false

theorem holdsM_of_scanIter (c : Cfg) (pc : MPc) (h : scanIter pc = true) : holdsM c pc = c.lockScan := by
  unfold scanIter at h
  split at h <;> first | rfl | cases h

theorem errPc_m122 : errPc .m122 = false := rfl
theorem scanIter_m122 : scanIter .m122 = false := rfl

/-- jobs taken out of `pending` whose removal has not been subtracted from `num_pending` yet -/
def debt (m : Mon) : Nat :=
  match m.pc with
  | .p185 | .p183x | .p188 | .p189 | .p190 => m.jobs.length
  | .p191 | .p193 | .p194 => m.jobs.length + m.remainder.length
  | .p195 | .p193x | .p197 | .p198 | .p199 | .p201 | .pdLock | .p203 => m.jobs.length
  | _ => 0

/-- jobs appended by `add_job` whose `num_pending += 1` has not run yet -/
def credit (a : Adder) : Int :=
  match a.pc with
  | .a165 | .a166 => 1
  | _ => 0

theorem credit_nextCall (a : Adder) : credit (nextCall a) = 0 := by
  rcases nextCall_pc a with h | h <;> rw [Adder.at_pc credit h] <;> rfl

/-- The data invariants.  The two lines the threads are at are arguments of their own (`a`, `m`), so that in a step
they become literals by rewriting; the invariant of a state is `Inv c p jobs s s.ad.pc s.mon.pc`.
`stamped`: every key of `pending` has a timestamp, except the key a thread is in the middle of writing (under the
lock).  `cons`, `prog`: every job that entered the arrayer is in exactly one of `pending`, the monitor's hands,
`submitted` (as multisets), and the jobs that entered are a prefix of the stream.  `live`: every key the monitor will
look up is a key of `pending`, and it looks none up twice.  The fields under `lockScan` / `lockDec` hold of the
repaired code only: no exception so far and, during a scan, `pending` of the size it had when the iterator was
created; the count exact up to what the two threads still owe (`credit`, `debt`). -/
structure Inv (c : Cfg) (p : Params) (jobs : List Job) (s : State) (a : APc) (m : MPc) : Prop where
  keysNodup : (dkeys s.pending).Nodup
  stamped : ∀ d, (dget s.pending d).isSome →
    (dget s.stamps d).isSome ∨ unstampedS s.ad a = some d ∨ unstampedM s.mon m = some d
  at185 : poppedAt s.pending s.stamps s.mon m
  cons : ∀ j, s.added.count j =
    (flat s.pending).count j + (inHand { s.mon with pc := m }).count j + s.submitted.flatten.count j
  prog : jobs = s.added ++ notYet { s.ad with pc := a }
  pendHomog : ∀ d js, dget s.pending d = some js → Homog d js
  loc : batchAt p s.mon m
  live : Live s.pending (keysAt s.mon m)
  shaped : p.minSize ≤ p.maxSize → ∀ b ∈ s.submitted, okBatch p b
  noErrPc : c.lockScan = true → errPc m = false
  noErrs : c.lockScan = true → s.errors = []
  iterOk : c.lockScan = true → scanIter m = true → s.pending.length = s.mon.iterUsed
  cnt : c.lockDec = true →
    s.num + credit { s.ad with pc := a } = ((flat s.pending).length : Int) + (debt { s.mon with pc := m } : Int)

variable {c : Cfg} {p : Params} {jobs : List Job} {s s' : State}

theorem inv_init : Inv c p jobs (init jobs) (init jobs).ad.pc (init jobs).mon.pc := by
  unfold init
  split <;> exact ⟨List.nodup_nil, nofun, trivial, fun _ => rfl, rfl, nofun, trivial, Live.nil _, fun _ => nofun,
    fun _ => rfl, fun _ => rfl, fun _ => nofun, fun _ => rfl⟩

theorem inv_stepS {pc : APc} (hA : InvA c s) (h : Inv c p jobs s s.ad.pc s.mon.pc) (hpc : s.ad.pc = pc)
    (hs : SStep p s pc s') : Inv c p jobs s' s'.ad.pc s'.mon.pc := by
  rw [hpc] at h
  -- the monitor is not inside a `with self._lock:` block while the adder is
  have excl (hS : holdsS pc = true) (hM : holdsM c s.mon.pc = true) : False := hA.excl (hpc ▸ hS) hM
  cases hs with
  | a159 =>
    exact { h with
      cons := fun j => by
        have := h.cons j
        simp only [List.count_append, count_flatten_snoc] at this ⊢; omega
      prog := h.prog.trans (List.append_assoc _ [_] _).symm
      shaped := fun hwf => shape_snoc (h.shaped hwf) (okBatch_single p _) }
  | a160 | s137 | s140 =>
    exact { h with
      stamped := fun d hd => (h.stamped d hd).imp id (.imp nofun id)
      prog := by rw [notYet_nextCall]; exact h.prog
      cnt := fun hc => by rw [credit_nextCall]; exact h.cnt hc }
  | a164 =>
    -- interference: `pending` grows under the monitor's feet; its keys stay live (`Live.dset`), and it is not
    -- between its two pops nor in a locked scan, because the lock is ours
    exact { h with
      keysNodup := nodup_dkeys_dset _ _ _ h.keysNodup
      stamped := fun d hd => by
        by_cases hk : d = s.ad.cur.descr
        · exact .inr (.inl (by rw [hk]; rfl))
        · rw [dget_dset, if_neg hk] at hd
          exact (h.stamped d hd).imp id (.imp nofun id)
      at185 := poppedAt_of fun h5 => excl rfl (by rw [h5]; rfl)
      cons := fun j => by
        have h1 := h.cons j
        have h2 := (flat_dset_append s.pending s.ad.cur.descr [s.ad.cur]).count_eq j
        simp only [List.count_append] at h1 h2 ⊢; omega
      prog := h.prog.trans (List.append_assoc _ [_] _).symm
      pendHomog := homog_dset_append h.pendHomog (fun _ hj => List.mem_singleton.1 hj ▸ rfl)
      live := h.live.dset _ _
      iterOk := fun hc hsc => (excl rfl (by rw [holdsM_of_scanIter c _ hsc, hc])).elim
      cnt := fun hc => by
        have := (flat_dset_append s.pending s.ad.cur.descr [s.ad.cur]).length_eq
        have := h.cnt hc
        simp only [*, credit, List.length_append, List.length_singleton] at this ⊢
        omega }
  | a165 =>
    -- interference: `stamps` is written; the monitor is not between its two pops, the lock is ours
    exact { h with
      stamped := fun d hd => by
        rcases h.stamped d hd with h1 | h1 | h1
        · exact .inl (isSome_dget_dset h1)
        · cases h1; exact .inl (by rw [dget_dset, if_pos rfl]; rfl)
        · exact .inr (.inr h1)
      at185 := poppedAt_of fun h5 => excl rfl (by rw [h5]; rfl) }
  | a166 =>
    exact { h with
      cnt := fun hc => by
        have := h.cnt hc
        simp only [credit] at this ⊢
        omega }
  | s146 =>
    -- interference: the monitor's locals are replaced; no monitor was running, so it had no key and no job in hand
    have hd := hA.startPc (by rw [hpc]; rfl)
    exact { h with
      stamped := fun d hd' => (h.stamped d hd').imp id (.imp nofun fun h1 => by
        rcases pc_of_not_alive hd with h0 | h0 <;> rw [h0] at h1 <;> cases h1)
      at185 := trivial
      cons := fun j => by have := h.cons j; rw [Mon.of_not_alive inHand hd rfl rfl] at this; exact this
      prog := by rw [notYet_nextCall]; exact h.prog
      loc := trivial
      live := Live.nil _
      noErrPc := fun _ => rfl
      iterOk := fun _ => nofun
      cnt := fun hc => by
        have := h.cnt hc
        rw [Mon.of_not_alive debt hd rfl rfl] at this
        rw [credit_nextCall]; exact this }
  | _ => exact { h with }

theorem inv_stepM {pc : MPc} (hA : InvA c s) (h : Inv c p jobs s s.ad.pc s.mon.pc) (hpc : s.mon.pc = pc)
    (hs : MStep c p s pc s') : Inv c p jobs s' s'.ad.pc s'.mon.pc := by
  rw [hpc] at h
  have excl (hS : holdsS s.ad.pc = true) (hM : holdsM c pc = true) : False := hA.excl hS (hpc ▸ hM)
  cases hs with
  | g173a k r hk =>
    have hn := h.keysNodup
    rw [hk] at hn
    exact { h with
      live := ⟨hn, fun d hd => (dget_isSome_iff_mem s.pending d).2 (by rw [hk]; exact hd)⟩
      iterOk := fun _ _ => rfl }
  | g173aEndL | g173aEndU => exact { h with live := Live.nil _, iterOk := fun _ => nofun }
  | g176E hg =>
    -- the key came from the iterator, so it is in `pending`; its timestamp can only be missing while
    -- `add_job` is between its two writes, which the lock held by the scan rules out
    refine { h with live := Live.nil _, noErrPc := fun hc => ?_, iterOk := fun _ => nofun }
    rcases h.stamped _ (h.live.2 s.mon.descr (List.mem_append_right _ (List.mem_cons_self ..))) with h1 | h1 | h1
    · rw [hg] at h1; cases h1
    · exact (excl (holdsS_of_unstamped h1) hc).elim
    · cases h1
  | g174 =>
    refine { h with live := ?_ }
    show Live s.pending ((if s.mon.isStale then s.mon.acc ++ [s.mon.descr] else s.mon.acc) ++ s.mon.iterRest)
    split
    · rw [List.append_assoc]; exact h.live
    · exact h.live.sublist ((List.sublist_cons_self _ _).append_left _)
  | g173bE hne =>
    exact { h with live := Live.nil _, noErrPc := fun hc => absurd (h.iterOk hc rfl) hne, iterOk := fun _ => nofun }
  | g173b k r _ hr =>
    have hl := h.live
    change Live _ (_ ++ s.mon.iterRest) at hl
    rw [hr] at hl
    exact { h with live := hl }
  | g173bEndL | g173bEndU =>
    exact { h with live := h.live.sublist (List.sublist_append_left _ _), iterOk := fun _ => nofun }
  | g173eL | g173eU | gUnlockE | p183xE | m128 | mExit => exact { h with noErrPc := fun hc => nomatch h.noErrPc hc }
  | m132 => exact { h with noErrPc := fun hc => (nomatch h.noErrPc hc), noErrs := fun hc => (nomatch h.noErrPc hc) }
  | m126 d r hst =>
    have hl := h.live
    change Live _ s.mon.stales at hl
    rw [hst] at hl
    exact { h with live := hl }
  | p184E hg =>
    refine { h with live := Live.nil _, noErrPc := fun _ => ?_ }
    have := h.live.2 s.mon.descr (List.mem_cons_self ..)
    rw [hg] at this; cases this
  | p184 js hg =>
    have hn := List.nodup_cons.1 h.live.1
    exact { h with
      keysNodup := nodup_dkeys_derase _ _ h.keysNodup
      stamped := fun d hd => by
        rw [dget_derase] at hd
        split at hd
        · cases hd
        · exact h.stamped d hd
      -- the popped key has its timestamp: `add_job` cannot be between its two writes, the lock is ours
      at185 := ⟨(h.stamped s.mon.descr (by rw [hg]; rfl)).resolve_right fun h1 =>
        h1.elim (fun h1 => excl (holdsS_of_unstamped h1) rfl) nofun, by rw [dget_derase, if_pos rfl]⟩
      cons := fun j => by
        have h1 := h.cons j
        have h2 := (flat_derase _ _ _ h.keysNodup hg).count_eq j
        simp only [inHand, List.count_append, List.count_nil] at h1 h2 ⊢; omega
      pendHomog := fun d js hd => h.pendHomog d js (dget_derase_some hd)
      loc := h.pendHomog _ _ hg
      live := ⟨hn.2, fun d hd => by
        have hk : d ≠ s.mon.descr := fun hk => hn.1 (hk ▸ hd)
        rw [dget_derase, if_neg hk]
        exact h.live.2 d (List.mem_cons_of_mem _ hd)⟩
      iterOk := fun _ => nofun
      cnt := fun hc => by
        have h1 := h.cnt hc
        have h2 := (flat_derase _ _ _ h.keysNodup hg).length_eq
        simp only [h2, debt, List.length_append] at h1 ⊢
        omega }
  | p185E hg =>
    have := h.at185.1
    rw [hg] at this; cases this
  | p185 t hg =>
    exact { h with
      stamped := fun d hd => (h.stamped d hd).imp_left fun h1 => by
        have hk : d ≠ s.mon.descr := fun hk => by rw [hk, h.at185.2] at hd; cases hd
        rw [dget_derase, if_neg hk]; exact h1
      at185 := trivial }
  | p188over hlen => exact { h with loc := ⟨h.loc, hlen⟩ }
  | p188 hlen => exact { h with loc := ⟨h.loc, Nat.le_of_not_lt hlen⟩ }
  | p189 => exact { h with loc := ⟨h.loc.1, rfl, h.loc.2⟩ }
  | p190 =>
    have hl := h.loc
    exact { h with
      cons := fun j => by
        have h1 := h.cons j
        simp only [inHand, hl.2.1, List.take_append_drop] at h1 ⊢; exact h1
      loc := ⟨fun j hj => hl.1 j (List.mem_of_mem_take hj), fun j hj => hl.1 j (List.mem_of_mem_drop (hl.2.1 ▸ hj)),
        List.length_take_of_le (Nat.le_of_lt hl.2.2)⟩
      cnt := fun hc => by
        have h1 := h.cnt hc
        simp only [debt, hl.2.1, List.length_take, List.length_drop] at h1 ⊢
        omega }
  | p191 =>
    have hl := h.loc
    exact { h with
      cons := fun j => by
        have h1 := h.cons j
        simp only [inHand, count_flatten_snoc, List.count_append] at h1 ⊢; omega
      loc := hl.2.1
      -- `min ≤ max` (checked by the constructor of `JobArrayer`) makes a batch cut at `max` acceptable
      shaped := fun hwf => shape_snoc (h.shaped hwf) (okBatch_of p _ _ hl.1 (.inr ⟨hl.2.2 ▸ hwf, Nat.le_of_eq hl.2.2⟩)) }
  | p194 =>
    exact { h with
      keysNodup := nodup_dkeys_dset _ _ _ h.keysNodup
      stamped := fun d hd => by
        by_cases hk : d = s.mon.descr
        · exact .inr (.inr (by rw [hk]; rfl))
        · rw [dget_dset, if_neg hk] at hd
          exact (h.stamped d hd).imp id (.imp id nofun)
      cons := fun j => by
        have h1 := h.cons j
        have h2 := (flat_dset_append s.pending s.mon.descr s.mon.remainder).count_eq j
        simp only [inHand, List.count_append, List.count_nil] at h1 h2 ⊢; omega
      pendHomog := homog_dset_append h.pendHomog h.loc
      loc := trivial
      live := h.live.dset _ _
      iterOk := fun _ => nofun
      cnt := fun hc => by
        have h1 := h.cnt hc
        have h2 := (flat_dset_append s.pending s.mon.descr s.mon.remainder).length_eq
        simp only [h2, debt, List.length_append] at h1 ⊢
        omega }
  | p195 =>
    exact { h with
      stamped := fun d hd => by
        rcases h.stamped d hd with h1 | h1 | h1
        · exact .inl (isSome_dget_dset h1)
        · exact .inr (.inl h1)
        · cases h1; exact .inl (by rw [dget_dset, if_pos rfl]; rfl) }
  | p197under => exact { h with loc := trivial }
  | p197 hlen => exact { h with loc := ⟨h.loc.1, h.loc.2, Nat.le_of_not_lt hlen⟩ }
  | p198nilL hnil | p198nilU hnil =>
    exact { h with cons := fun j => by have h1 := h.cons j; simp only [inHand, hnil] at h1; exact h1 }
  | p198 j0 r hl =>
    exact { h with cons := fun j => by have h1 := h.cons j; simp only [inHand, hl] at h1; exact h1 }
  | p199 =>
    exact { h with
      cons := fun j => by
        have h1 := h.cons j
        simp only [inHand, count_flatten_snoc, List.count_cons, List.count_nil] at h1 ⊢; omega
      shaped := fun hwf => shape_snoc (h.shaped hwf) (okBatch_single p _) }
  | p201L | p201U =>
    have hl := h.loc
    exact { h with
      cons := fun j => by
        have h1 := h.cons j
        simp only [inHand, count_flatten_snoc, List.count_nil] at h1 ⊢; omega
      loc := trivial
      shaped := fun hwf => shape_snoc (h.shaped hwf) (okBatch_of p _ _ hl.1 (.inr ⟨hl.2.2, hl.2.1⟩)) }
  | p203L =>
    exact { h with
      cnt := fun hc => by
        have h1 := h.cnt hc
        simp only [debt] at h1 ⊢
        omega }
  | p203U hU => exact { h with cnt := fun hc => nomatch hc.symm.trans hU }
  | p203w =>
    have hU : cfgAt c .p203w := hpc ▸ hA.cfg
    exact { h with cnt := fun hc => nomatch hc.symm.trans hU }
  | _ => exact { h with }

theorem reachable_inv {s : State} (h : Reachable c p jobs s) : InvA c s ∧ Inv c p jobs s s.ad.pc s.mon.pc := by
  induction h with
  | init => exact ⟨invA_init c jobs, inv_init⟩
  | step e _ hs ih =>
    obtain ⟨hA, hI⟩ := ih
    cases e with
    | thr t =>
      cases t with
      | S => obtain ⟨_, hpc, hl⟩ := stepS_spec hs; exact ⟨invA_stepS hA hpc hl, inv_stepS hA hI hpc hl⟩
      | M => obtain ⟨_, hpc, hl⟩ := stepM_spec hs; exact ⟨invA_stepM hA hpc hl, inv_stepM hA hI hpc hl⟩
    | tick n => cases hs; exact ⟨⟨hA.lockS, hA.lockM, hA.cfg, hA.startPc⟩, { hI with }⟩

end RedunModel.Arrayer
