/-
Helper lemmas for the configuration model (C35): escaping `$` is inverted by interpolation and accepted by
`before_set`; `str.replace` without an occurrence; `read_dict` of a dictionary with fresh names appends it;
`get_config_dict` is a `mapMExcept` over the leaves of the nested sections.
-/
import RedunModel.Model.Config
import RedunModel.Lemmas.AssocList
namespace RedunModel.Config
open Assoc

theorem loop_escape (cfg : Cfg) (d : Nat) (sect : Str) (map : Str → Option Str) (s : Str) :
    loop cfg d (escape s) sect map = .ok s := by
  induction s with
  | nil => rw [escape, loop]
  | cons c t ih =>
    rw [escape]
    split
    · next hc => subst hc; rw [loop.eq_def]; simp [ih]
    · next hc => rw [loop.eq_def]; simp [hc, ih]

theorem removeDD_cons_ne (c : Char) (t : Str) (h : c ≠ '$') : removeDD (c :: t) = c :: removeDD t := by
  rw [removeDD]
  · intro t' e; exact absurd e h

theorem removeDD_escape (s : Str) : '$' ∉ removeDD (escape s) := by
  induction s with
  | nil => simp [escape, removeDD]
  | cons c t ih =>
    rw [escape]
    split
    · rw [removeDD]; exact ih
    · next hc => rw [removeDD_cons_ne c _ hc]; simp [ih, Ne.symm hc]

theorem removeRefsAux_no_dollar (n : Nat) (s : Str) (h : '$' ∉ s) : removeRefsAux n s = s := by
  induction n generalizing s with
  | zero => rfl
  | succ n ih =>
    cases s with
    | nil => rfl
    | cons c t =>
      rw [List.mem_cons, not_or] at h
      rw [removeRefsAux, ih t h.2]
      intro t' e; exact absurd e.symm h.1

theorem beforeSetOk_escape (s : Str) : beforeSetOk (escape s) = true := by
  unfold beforeSetOk removeRefs
  rw [removeRefsAux_no_dollar _ _ (removeDD_escape s)]
  simp [removeDD_escape s]

theorem replaceAux_no_infix (pat rep : Str) (hp : pat ≠ []) (n : Nat) (s : Str) (h : ¬ pat <:+: s) :
    replaceAux pat rep n s = s := by
  induction n generalizing s with
  | zero => rfl
  | succ n ih =>
    cases s with
    | nil => simp [replaceAux, hp]
    | cons c t =>
      have hpre : pat.isPrefixOf (c :: t) = false :=
        Bool.eq_false_iff.mpr fun hh => h (List.isPrefixOf_iff_prefix.mp hh).isInfix
      have ht : ¬ pat <:+: t := fun hi => h (hi.trans (List.suffix_cons c t).isInfix)
      simp only [replaceAux, hp, if_false, hpre, Bool.false_eq_true]
      rw [ih t ht]

theorem lookup_none_of_not_mem {α : Type} (l : List (Str × α)) (k : Str) (h : k ∉ l.map (·.1)) :
    l.lookup k = none := lookup_eq_none_iff.2 h

theorem setKey_not_mem {α : Type} (kids : List (Str × α)) (k : Str) (v : α) (h : k ∉ kids.map (·.1)) :
    setKey kids k v = kids ++ [(k, v)] := by
  induction kids with
  | nil => rfl
  | cons p t ih =>
    obtain ⟨k', v'⟩ := p
    simp only [List.map_cons, List.mem_cons, not_or] at h
    simp only [setKey, Ne.symm h.1, if_false, ih h.2, List.cons_append]

theorem not_mem_of_nodup_append {α : Type} {a b : List (Str × α)} (h : ((a ++ b).map (·.1)).Nodup) {p : Str × α}
    (hp : p ∈ b) : p.1 ∉ a.map (·.1) := by
  rw [List.map_append] at h
  exact fun hm => (List.nodup_append.mp h).2.2 _ hm _ (List.mem_map_of_mem hp) rfl

theorem mapMExcept_ok {α β : Type} {f : α → Except Err β} {l : List α} {r : List β} :
    mapMExcept f l = .ok r ↔ l.map f = r.map .ok := by
  induction l generalizing r with
  | nil => cases r <;> simp [mapMExcept]
  | cons a t ih =>
    rw [mapMExcept]
    cases ha : f a with
    | error e => cases r <;> simp [ha]
    | ok b =>
      cases ht : mapMExcept f t with
      | error e =>
        cases r with
        | nil => simp
        | cons b' r' => simpa [ha] using fun _ h' => by simp [ih.mpr h'] at ht
      | ok r' => cases r <;> simp [ha, ih.mp ht, List.map_inj_right (f := Except.ok)]

theorem mapMExcept_ok_of_forall {α β : Type} (f : α → Except Err β) (l : List α) (h : ∀ a ∈ l, ∃ b, f a = .ok b) :
    ∃ r, mapMExcept f l = .ok r := by
  induction l with
  | nil => exact ⟨[], rfl⟩
  | cons a t ih =>
    obtain ⟨b, hb⟩ := h a List.mem_cons_self
    obtain ⟨r, hr⟩ := ih fun a' h' => h a' (List.mem_cons_of_mem _ h')
    exact ⟨b :: r, by simp [mapMExcept, hb, hr]⟩

theorem mapMExcept_keys {α β : Type} {f : α → Except Err (Str × β)} {key : α → Str}
    (hf : ∀ a p, f a = .ok p → p.1 = key a) {l : List α} {r : List (Str × β)} (h : mapMExcept f l = .ok r) :
    r.map (·.1) = l.map key := by
  induction l generalizing r with
  | nil => cases h; rfl
  | cons a t ih =>
    cases r with
    | nil => simp [mapMExcept_ok] at h
    | cons p r' =>
      rw [mapMExcept_ok, List.map_cons, List.map_cons, List.cons.injEq] at h
      rw [List.map_cons, List.map_cons, hf a p h.1, ih (mapMExcept_ok.mpr h.2)]

def escOpts (o : Opts) : Opts := o.map fun kv => (kv.1, escape kv.2)
def escD (D : List (Str × Opts)) : List (Str × Opts) := D.map fun s => (s.1, escOpts s.2)

theorem escOpts_keys (o : Opts) : (escOpts o).map (·.1) = o.map (·.1) := by
  simp [escOpts, List.map_map, Function.comp]

theorem escD_names (D : List (Str × Opts)) : (escD D).map (·.1) = D.map (·.1) := by
  simp [escD, List.map_map, Function.comp]

theorem setOpt_last (dflt : Opts) (pre : List (Str × Opts)) (s : Str) (hs1 : s ≠ []) (hs2 : s ≠ defaultSect)
    (hpre : s ∉ pre.map (·.1)) (cur : Opts) (k v : Str) (hk : k ∉ cur.map (·.1)) :
    setOpt ⟨dflt, pre ++ [(s, cur)]⟩ s k v = ⟨dflt, pre ++ [(s, cur ++ [(k, v)])]⟩ := by
  have hmap : pre.map (fun q => if q.1 = s then (q.1, setKey q.2 k v) else q) = pre :=
    (List.map_congr_left fun q hq => if_neg fun e => hpre (List.mem_map.mpr ⟨q, hq, e⟩)).trans (List.map_id' pre)
  simp only [setOpt, hs1, hs2, or_self, if_false, List.map_append, hmap, List.map_cons, List.map_nil, if_true,
    setKey_not_mem cur k v hk]

theorem readOpts_append (dflt : Opts) (pre : List (Str × Opts)) (s : Str) (hs1 : s ≠ []) (hs2 : s ≠ defaultSect)
    (hpre : s ∉ pre.map (·.1)) (opts : Opts) :
    ∀ cur : Opts, ((cur ++ opts).map (·.1)).Nodup → (∀ kv ∈ opts, beforeSetOk kv.2 = true) →
      readOpts ⟨dflt, pre ++ [(s, cur)]⟩ s opts = .ok ⟨dflt, pre ++ [(s, cur ++ opts)]⟩ := by
  induction opts with
  | nil => intro cur _ _; rw [readOpts, List.append_nil]
  | cons kv t ih =>
    intro cur hnd hok
    have hk := not_mem_of_nodup_append hnd (p := kv) List.mem_cons_self
    rw [List.append_cons cur kv t] at hnd ⊢
    rw [readOpts, if_neg (by simp [hok kv List.mem_cons_self]), setOpt_last dflt pre s hs1 hs2 hpre cur _ _ hk]
    exact ih _ hnd fun kv' h' => hok kv' (List.mem_cons_of_mem _ h')

theorem addSection_fresh (dflt : Opts) (secs : List (Str × Opts)) (s : Str) (hs2 : s ≠ defaultSect)
    (h : s ∉ secs.map (·.1)) : addSection ⟨dflt, secs⟩ s = ⟨dflt, secs ++ [(s, [])]⟩ := by
  simp [addSection, hs2, any_key_eq, h]

theorem readDictInto_append (dflt : Opts) (D : List (Str × Opts)) :
    ∀ pre : List (Str × Opts), ((pre ++ D).map (·.1)).Nodup → [] ∉ D.map (·.1) → defaultSect ∉ D.map (·.1) →
      (∀ s ∈ D, (s.2.map (·.1)).Nodup ∧ ∀ kv ∈ s.2, beforeSetOk kv.2 = true) →
      readDictInto ⟨dflt, pre⟩ D = .ok ⟨dflt, pre ++ D⟩ := by
  induction D with
  | nil => intro pre _ _ _ _; rw [readDictInto, List.append_nil]
  | cons s t ih =>
    intro pre hnd h1 h2 hs
    obtain ⟨n, o⟩ := s
    rw [List.map_cons, List.mem_cons, not_or] at h1 h2
    have hn := not_mem_of_nodup_append hnd (p := (n, o)) List.mem_cons_self
    have ho := hs (n, o) List.mem_cons_self
    rw [List.append_cons pre (n, o) t] at hnd ⊢
    rw [readDictInto, addSection_fresh dflt pre n (Ne.symm h2.1) hn,
      readOpts_append dflt pre n (Ne.symm h1.1) (Ne.symm h2.1) hn o [] ho.1 ho.2]
    exact ih _ hnd h1.2 h2.2 fun s' h' => hs s' (List.mem_cons_of_mem _ h')

/-- Hypotheses on a two-level dictionary: what a Python dict of dicts coming out of `get_config_dict` satisfies. -/
structure GoodDict (D : List (Str × Opts)) : Prop where
  names_nodup : (D.map (·.1)).Nodup
  no_empty : [] ∉ D.map (·.1)
  no_default : defaultSect ∉ D.map (·.1)
  keys_nodup : ∀ s ∈ D, (s.2.map (·.1)).Nodup

theorem sectionItems_escaped (secs : List (Str × Opts)) (env : Opts) (n : Str) (o : Opts) (hn : n ≠ defaultSect)
    (hl : secs.lookup n = some (escOpts o)) (hnd : (o.map (·.1)).Nodup) :
    sectionItems ⟨[], secs⟩ env n = .ok o := by
  unfold sectionItems sectionKeys
  simp only [hl, List.map_nil, List.filter_nil, List.append_nil, escOpts_keys]
  rw [mapMExcept_ok, List.map_map]
  refine List.map_congr_left fun p hp => ?_
  have hlk := lookup_of_mem (l := escOpts o) (by rw [escOpts_keys]; exact hnd)
    (List.mem_map_of_mem (f := fun kv => (kv.1, escape kv.2)) hp)
  simp only [Function.comp, getItem, rawGet, sectionOpts, hn, if_false, hl, hlk, orElse, loop_escape]

def CfgWF (cfg : Cfg) : Prop :=
  (cfg.defaults.map (·.1)).Nodup ∧ ∀ s ∈ cfg.sections, (s.2.map (·.1)).Nodup

theorem sectionKeys_nodup (cfg : Cfg) (h : CfgWF cfg) (f : Str) : (sectionKeys cfg f).Nodup := by
  unfold sectionKeys
  cases hl : cfg.sections.lookup f with
  | none => simp
  | some o =>
    refine List.nodup_append.mpr ⟨h.2 (f, o) (mem_of_lookup hl), List.Nodup.sublist List.filter_sublist h.1, ?_⟩
    rintro x hx _ hy rfl
    have := (List.mem_filter.mp hy).2
    rw [any_key_eq, Bool.not_eq_true', decide_eq_false_iff_not] at this
    exact this hx

theorem sectionItems_keys (cfg : Cfg) (env : Opts) (f : Str) (it : Opts) (h : sectionItems cfg env f = .ok it) :
    it.map (·.1) = sectionKeys cfg f := by
  refine (mapMExcept_keys (key := id) (fun k p hp => ?_) h).trans (List.map_id _)
  split at hp
  · cases hp; rfl
  · cases hp

theorem effective_ok_sections (cfg : Cfg) (env : Opts) (E : List (Str × Opts)) (h : effective cfg env = .ok E) :
    ∀ n ∈ cfg.sections.map (·.1), ∃ it, sectionItems cfg env n = .ok it := by
  intro n hn
  obtain ⟨s, hs, rfl⟩ := List.mem_map.mp hn
  obtain ⟨b, _, hb⟩ := List.mem_map.mp (mapMExcept_ok.mp h ▸ List.mem_map_of_mem hs)
  cases hi : sectionItems cfg env s.1 with
  | ok it => exact ⟨it, rfl⟩
  | error e => simp [hi] at hb

/-- the interpolated items of one leaf of the nested sections, under its rebuilt dotted path -/
def leafItems (cfg : Cfg) (env : Opts) (pf : Str × Str) : Except Err (Str × Opts) :=
  match sectionItems cfg env pf.2 with
  | .ok items => .ok (pf.1, items)
  | .error e => .error e

theorem leafItems_ok {cfg : Cfg} {env : Opts} {pf : Str × Str} {b : Str × Opts} :
    leafItems cfg env pf = .ok b ↔ sectionItems cfg env pf.2 = .ok b.2 ∧ b.1 = pf.1 := by
  unfold leafItems
  cases sectionItems cfg env pf.2 <;> simp [Prod.ext_iff, eq_comm, and_comm]

/-- one step of the loop over the leaves in `get_config_dict` (no `replace_config_dir`) -/
def dictStep (cfg : Cfg) (env : Opts) (acc : Except Err (List (Str × Opts))) (pf : Str × Str) :
    Except Err (List (Str × Opts)) :=
  match acc with
  | .error e => .error e
  | .ok res =>
    match sectionItems cfg env pf.2 with
    | .error e => .error e
    | .ok items => .ok (setKey res pf.1 (items.map fun kv => (kv.1, escape kv.2)))

theorem foldl_dictStep_error (cfg : Cfg) (env : Opts) (e : Err) (l : List (Str × Str)) :
    l.foldl (dictStep cfg env) (.error e) = .error e := by
  induction l with
  | nil => rfl
  | cons p t ih => simp only [List.foldl_cons, dictStep, ih]

theorem foldl_dictStep (cfg : Cfg) (env : Opts) (flat : List (Str × Str)) :
    ∀ acc : List (Str × Opts), (acc.map (·.1) ++ flat.map (·.1)).Nodup →
      flat.foldl (dictStep cfg env) (.ok acc) =
        (mapMExcept (leafItems cfg env) flat).map fun U => acc ++ escD U := by
  induction flat with
  | nil => intro acc _; simp [mapMExcept, Except.map, escD]
  | cons pf t ih =>
    intro acc hnd
    rw [List.foldl_cons, mapMExcept, leafItems, dictStep]
    cases sectionItems cfg env pf.2 with
    | error e => exact foldl_dictStep_error cfg env e t
    | ok it =>
      have hfresh : pf.1 ∉ acc.map (·.1) := fun hm =>
        (List.nodup_append.mp hnd).2.2 _ hm _ List.mem_cons_self rfl
      rw [List.map_cons, List.append_cons] at hnd
      simp only [setKey_not_mem _ _ _ hfresh]
      rw [ih _ (by simpa using hnd)]
      cases mapMExcept (leafItems cfg env) t with
      | error e => rfl
      | ok U => simp [Except.map, escD, escOpts]

theorem getConfigDict_eq (cfg : Cfg) (env : Opts) (localDir : Str) (trie : List (Str × Node))
    (hp : parseSections (cfg.sections.map (·.1)) [] = .ok trie) (hnd : ((flattenKids none trie).map (·.1)).Nodup) :
    getConfigDict cfg env localDir none = (mapMExcept (leafItems cfg env) (flattenKids none trie)).map escD := by
  unfold getConfigDict
  simp only [hp]
  exact foldl_dictStep cfg env _ [] hnd

/-- What the trie of section names has to satisfy for the dictionary to be re-readable (discharged for
distinct, prefix-free section names by `C35.walk_rebuilds_names`). -/
structure GoodPaths (flat : List (Str × Str)) : Prop where
  nodup : (flat.map (·.1)).Nodup
  no_empty : [] ∉ flat.map (·.1)
  no_default : defaultSect ∉ flat.map (·.1)
  parses : ∃ t, parseSections (flat.map (·.1)) [] = .ok t

end RedunModel.Config
