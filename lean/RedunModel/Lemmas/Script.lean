/-
Helper lemmas for `RedunModel.Model.Script` (C29): `split("\n")`/join laws, decimal digits, the pigeonhole
argument for `get_command_eof`, the here-document reader on `get_wrapped_command`'s template, nested values,
and what a successful `scriptCall` consists of.  Core Lean only.
-/
import RedunModel.Model.Script
namespace RedunModel.Script

/-- The characters of a string literal: `rw [toList_lit rfl]` turns `"ab".toList` into `['a', 'b']`.
Left to itself the kernel evaluates `String.toList` on a literal by UTF-8 encoding and decoding it, at a cost
that grows faster than the length; `s = String.ofList l` it checks at once. -/
theorem toList_lit {s : String} {l : List Char} (h : s = String.ofList l) : s.toList = l :=
  h ▸ String.toList_ofList

/-- `split("\n")` is core's `List.splitOn` and `"\n".join` its `List.intercalate`; the laws of lines below are
core's lemmas about the two. -/
theorem splitNL_eq (s : Str) : splitNL s = s.splitOn '\n' := by
  induction s with
  | nil => rfl
  | cons c cs ih =>
    rw [splitNL, List.splitOn_cons_eq_if_modifyHead, ih]
    simp only [beq_iff_eq]
    split
    · rfl
    · have := List.splitOn_ne_nil '\n' cs
      generalize List.splitOn '\n' cs = ls at *
      cases ls <;> simp_all

theorem joinNL_eq (ls : List Str) : joinNL ls = ['\n'].intercalate ls := by
  induction ls with
  | nil => rfl
  | cons l ls ih =>
    cases ls with
    | nil => simp [joinNL]
    | cons l2 ls => rw [joinNL, ih]; simp

theorem splitNL_ne_nil (s : Str) : splitNL s ≠ [] := splitNL_eq s ▸ List.splitOn_ne_nil _ _

theorem splitNL_no_nl {a : Str} (h : '\n' ∉ a) : splitNL a = [a] := splitNL_eq a ▸ List.splitOn_eq_singleton h

theorem splitNL_append_nl (a b : Str) : splitNL (a ++ '\n' :: b) = splitNL a ++ splitNL b := by
  simp only [splitNL_eq, List.splitOn_append_cons_self]

theorem joinNL_cons (l : Str) {ls : List Str} (h : ls ≠ []) : joinNL (l :: ls) = l ++ '\n' :: joinNL ls := by
  simp [joinNL_eq, List.intercalate_cons_of_ne_nil h]

theorem joinNL_splitNL (s : Str) : joinNL (splitNL s) = s := by
  rw [joinNL_eq, splitNL_eq, List.intercalate_splitOn]

theorem splitNL_joinNL (ls : List Str) (hne : ls ≠ []) (h : ∀ l ∈ ls, '\n' ∉ l) : splitNL (joinNL ls) = ls := by
  rw [joinNL_eq, splitNL_eq, List.splitOn_intercalate _ h hne]

theorem mem_splitNL_no_nl {s : Str} : ∀ l ∈ splitNL s, '\n' ∉ l := by
  induction s with
  | nil => simp [splitNL]
  | cons c cs ih =>
    rw [splitNL_eq, List.splitOn_cons_eq_if_modifyHead, ← splitNL_eq]
    have := splitNL_ne_nil cs
    generalize splitNL cs = ls at *
    cases ls with
    | nil => exact absurd rfl this
    | cons l ls =>
      split
      · simpa using ih
      · rename_i hc
        simp only [beq_iff_eq] at hc
        simpa [Ne.symm hc] using ih

theorem digitChar_eq : ∀ d, d < 10 → digitChar d = Nat.digitChar d := by decide

theorem natCharsAux_eq {fuel n : Nat} (h : n ≤ fuel) : natCharsAux fuel n = Nat.toDigits 10 n := by
  induction fuel generalizing n with
  | zero => rw [Nat.le_zero.1 h]; rfl
  | succ f ih =>
    rw [natCharsAux, Nat.toDigits_eq_if (by decide)]
    split
    · rw [digitChar_eq n ‹_›]
    · rw [ih (by omega), digitChar_eq _ (by omega)]

theorem natChars_eq_toDigits (n : Nat) : natChars n = Nat.toDigits 10 n := natCharsAux_eq (Nat.le_refl n)

theorem natChars_inj {a b : Nat} (h : natChars a = natChars b) : a = b := by
  simpa [natChars_eq_toDigits, Nat.ofDigitChars_toDigits] using congrArg (Nat.ofDigitChars 10 · 0) h

theorem eofCand_inj (pfx : Str) {i j : Nat} (h : eofCand pfx i = eofCand pfx j) : i = j := by
  unfold eofCand at h
  -- the mixed cases `pfx = pfx ++ digits` go at once: `Nat.toDigits` is never empty
  by_cases hi : i = 0 <;> by_cases hj : j = 0 <;> simp [hi, hj, natChars_eq_toDigits] at h
  · omega
  · exact natChars_inj (by simpa [natChars_eq_toDigits] using h)

theorem mem_eofCand {pfx : Str} {k : Nat} {c : Char} (h : c ∈ eofCand pfx k) : c ∈ pfx ∨ c.isDigit = true := by
  unfold eofCand at h
  split at h
  · exact Or.inl h
  · exact (List.mem_append.1 h).imp_right fun h =>
      Nat.isDigit_of_mem_toDigits (by decide) (by decide) (natChars_eq_toDigits k ▸ h)

theorem eofCand_no_nl {pfx : Str} (h : '\n' ∉ pfx) (k : Nat) : '\n' ∉ eofCand pfx k := fun hm =>
  (mem_eofCand hm).elim h (by decide)

/-- pigeonhole: the candidates are pairwise distinct, so a list contains only as many of them as it is long -/
theorem cands_bound (pfx : Str) (L : List Str) (i : Nat) (h : ∀ j, j < i → eofCand pfx j ∈ L) : i ≤ L.length := by
  have hnd : ((List.range i).map (eofCand pfx)).Nodup :=
    List.nodup_range.map _ fun _ _ hab h => hab (eofCand_inj pfx h)
  simpa using hnd.length_le_of_subset (l₂ := L) fun c hc => by
    obtain ⟨j, hj, rfl⟩ := List.mem_map.1 hc
    exact h j (List.mem_range.1 hj)

theorem eofLoop_spec (L : List Str) (pfx : Str) (fuel i : Nat) (hinv : ∀ j, j < i → eofCand pfx j ∈ L)
    (hf : L.length < i + fuel) :
    ∃ k, eofLoop L pfx fuel i = some (eofCand pfx k) ∧ eofCand pfx k ∉ L ∧ ∀ j, j < k → eofCand pfx j ∈ L := by
  induction fuel generalizing i with
  | zero =>
    have := cands_bound pfx L i hinv
    omega
  | succ f ih =>
    unfold eofLoop
    split
    · refine ih (i + 1) (fun j hj => ?_) (by omega)
      rcases Nat.lt_succ_iff_lt_or_eq.1 hj with h | rfl
      · exact hinv j h
      · assumption
    · exact ⟨i, rfl, ‹_›, hinv⟩

theorem commandEof_spec (cmd pfx : Str) :
    ∃ k, commandEof cmd pfx = some (eofCand pfx k) ∧ eofCand pfx k ∉ splitNL cmd ∧
      ∀ j, j < k → eofCand pfx j ∈ splitNL cmd := by
  unfold commandEof
  exact eofLoop_spec (splitNL cmd) pfx _ 0 (by intro j hj; omega) (by omega)

theorem wrap_spec (cmd pfx : Str) :
    ∃ k, wrap cmd pfx = some (wrapWith cmd (eofCand pfx k)) ∧ eofCand pfx k ∉ splitNL cmd := by
  obtain ⟨k, hk, hn, _⟩ := commandEof_spec cmd pfx
  exact ⟨k, by rw [wrap, hk]; rfl, hn⟩

theorem unlines_eq_joinNL (ls : List Str) (h : ls ≠ []) : unlines ls = joinNL ls ++ ['\n'] := by
  induction ls with
  | nil => exact absurd rfl h
  | cons l ls ih =>
    cases ls with
    | nil => simp [unlines, joinNL]
    | cons l2 ls => rw [joinNL_cons _ (by simp), unlines, ih (by simp)]; simp

theorem unlines_splitNL (s : Str) : unlines (splitNL s) = s ++ ['\n'] := by
  rw [unlines_eq_joinNL _ (splitNL_ne_nil s), joinNL_splitNL]

theorem splitNL_unlines_append (pre : List Str) (x : Str) (h : ∀ p ∈ pre, '\n' ∉ p) :
    splitNL (unlines pre ++ x) = pre ++ splitNL x := by
  induction pre with
  | nil => rfl
  | cons p ps ih =>
    rw [unlines, List.append_assoc, List.cons_append, splitNL_append_nl, splitNL_no_nl (h p (by simp)),
      ih (fun q hq => h q (List.mem_cons_of_mem _ hq))]
    rfl

theorem heredocBody_found (delim : Str) (body rest : List Str) (h : delim ∉ body) :
    heredocBody delim (body ++ delim :: rest) = some body := by
  induction body with
  | nil => simp [heredocBody]
  | cons l ls ih =>
    simp only [List.mem_cons, not_or] at h
    simp [heredocBody, Ne.symm h.1, ih h.2]

/-- the redirection line of the wrapper -/
def catLine (eof : Str) : Str := catPrefix ++ eof ++ ['"']

theorem parseDelim_catLine (eof : Str) : parseDelim (catLine eof) = some eof := by
  simp [parseDelim, catLine, List.append_assoc]

theorem findHeredoc_skip (skip rest : List Str) (h : ∀ l ∈ skip, parseDelim l = none) :
    findHeredoc (skip ++ rest) = findHeredoc rest := by
  induction skip with
  | nil => rfl
  | cons l ls ih =>
    rw [List.cons_append, findHeredoc, h l (by simp)]
    exact ih (fun x hx => h x (List.mem_cons_of_mem _ hx))

/-- a command line that cannot disturb the wrapper: one line, not starting with white space, and not itself the
start of the here-document -/
def Harmless (p : Str) : Prop := '\n' ∉ p ∧ lstrip p = p ∧ parseDelim p = none

instance (p : Str) : Decidable (Harmless p) := inferInstanceAs (Decidable (_ ∧ _ ∧ _))

theorem wrapHead_harmless : ∀ l ∈ splitNL wrapHead, Harmless l := by
  unfold wrapHead
  rw [toList_lit rfl]
  decide +kernel

/-- the here-document of the wrapper, from the redirection line to the terminator -/
def docText (c eof : Str) : Str := catLine eof ++ '\n' :: c ++ '\n' :: eof

theorem wrapWith_eq (c eof : Str) :
    wrapWith c eof = unlines (splitNL wrapHead) ++ (docText c eof ++ '\n' :: wrapFoot) := by
  simp [wrapWith, docText, catLine, unlines_splitNL]

theorem catLine_no_nl {eof : Str} (h : '\n' ∉ eof) : '\n' ∉ catLine eof := by
  have hp : '\n' ∉ catPrefix := by unfold catPrefix; rw [toList_lit rfl]; decide
  simp [catLine, hp, h]

/-- the text before `z` ends a line: `z` is empty or goes on with a new line -/
def AtLineEnd (z : Str) : Prop := z = [] ∨ ∃ z', z = '\n' :: z'

theorem splitNL_append_tail (x : Str) {z : Str} (hz : AtLineEnd z) : ∃ rest, splitNL (x ++ z) = splitNL x ++ rest := by
  rcases hz with rfl | ⟨z', rfl⟩
  · exact ⟨[], by simp⟩
  · exact ⟨_, splitNL_append_nl x z'⟩

theorem splitNL_docText (c : Str) {eof : Str} (hnl : '\n' ∉ eof) :
    splitNL (docText c eof) = catLine eof :: (splitNL c ++ [eof]) := by
  rw [docText, splitNL_append_nl, splitNL_append_nl, splitNL_no_nl (catLine_no_nl hnl), splitNL_no_nl hnl]
  rfl

/-- the reader finds the here-document behind any harmless lines, whatever follows the terminator line -/
theorem tempFileOf_docText (skip : List Str) (c eof z : Str) (hs : ∀ l ∈ skip, Harmless l)
    (he : eof ∉ splitNL c) (hnl : '\n' ∉ eof) (hz : AtLineEnd z) :
    tempFileOf (unlines skip ++ (docText c eof ++ z)) = some (c ++ ['\n']) := by
  obtain ⟨rest, hrest⟩ := splitNL_append_tail (docText c eof) hz
  rw [tempFileOf, splitNL_unlines_append _ _ fun l hl => (hs l hl).1, hrest, splitNL_docText c hnl,
    findHeredoc_skip _ _ fun l hl => (hs l hl).2.2, List.cons_append, List.append_assoc, List.singleton_append,
    findHeredoc, parseDelim_catLine]
  simp only
  rw [heredocBody_found eof (splitNL c) _ he]
  simp [unlines_splitNL]

theorem heredoc_wrapWith (cmd eof : Str) (he : eof ∉ splitNL cmd) (hnl : '\n' ∉ eof) :
    tempFileOf (wrapWith cmd eof) = some (cmd ++ ['\n']) := by
  -- by `rw`: as a term, `wrapWith_eq cmd eof ▸ …` abstracts over the whole wrapper text and is slow to check
  rw [wrapWith_eq]
  exact tempFileOf_docText _ cmd eof _ wrapHead_harmless he hnl (Or.inr ⟨_, rfl⟩)

mutual
  theorem shape_mapNV {α β : Type} (f : α → β) : ∀ v : NV α, shape (mapNV f v) = shape v
    | .leaf a => by simp [mapNV, shape]
    | .node k cs => by simp [mapNV, shape, shapes_mapNVs f cs]
  theorem shapes_mapNVs {α β : Type} (f : α → β) : ∀ cs : List (NV α), shapes (mapNVs f cs) = shapes cs
    | [] => by simp [mapNVs, shapes]
    | c :: cs => by simp [mapNVs, shapes, shape_mapNV f c, shapes_mapNVs f cs]
end

mutual
  theorem mapNV_comp {α β γ : Type} (f : α → β) (g : β → γ) : ∀ v : NV α, mapNV g (mapNV f v) = mapNV (fun a => g (f a)) v
    | .leaf a => by simp [mapNV]
    | .node k cs => by simp [mapNV, mapNVs_comp f g cs]
  theorem mapNVs_comp {α β γ : Type} (f : α → β) (g : β → γ) : ∀ cs : List (NV α), mapNVs g (mapNVs f cs) = mapNVs (fun a => g (f a)) cs
    | [] => by simp [mapNVs]
    | c :: cs => by simp [mapNVs, mapNV_comp f g c, mapNVs_comp f g cs]
end

mutual
  theorem iterNV_mapNV {α β : Type} (f : α → β) : ∀ v : NV α, iterNV (mapNV f v) = (iterNV v).map f
    | .leaf a => by simp [mapNV, iterNV]
    | .node k cs => by simp [mapNV, iterNV, iterNVs_mapNVs f cs]
  theorem iterNVs_mapNVs {α β : Type} (f : α → β) : ∀ cs : List (NV α), iterNVs (mapNVs f cs) = (iterNVs cs).map f
    | [] => by simp [mapNVs, iterNVs]
    | c :: cs => by simp [mapNVs, iterNVs, iterNV_mapNV f c, iterNVs_mapNVs f cs]
end

theorem mapExcept_ok {α β ε : Type} (f : α → Except ε β) : ∀ (as : List α) (bs : List β), mapExcept f as = .ok bs →
    (∀ a ∈ as, ∃ b ∈ bs, f a = .ok b) ∧ (∀ b ∈ bs, ∃ a ∈ as, f a = .ok b)
  | [], bs, h => by cases h; simp
  | a :: as, bs, h => by
    unfold mapExcept at h
    split at h
    · cases h
    · rename_i b hb
      split at h
      · cases h
      · rename_i bs' hbs
        cases h
        obtain ⟨ih1, ih2⟩ := mapExcept_ok f as bs' hbs
        simp only [List.mem_cons, exists_eq_or_imp, forall_eq_or_imp]
        exact ⟨⟨Or.inl hb, fun x hx => Or.inr (ih1 x hx)⟩, Or.inl hb, fun y hy => Or.inr (ih2 y hy)⟩

theorem scriptCall_ok {cmd : Str} {ins outs : NV Leaf} {t : Option Str} {r : ScriptCall}
    (h : scriptCall cmd ins outs t = .ok r) :
    ∃ stages w, mapExcept renderStage (iterNV ins) = .ok stages ∧ wrap (prepare cmd) "EOF".toList = some w ∧
      r.parts = cdPart t ++ stages ++ [w] ++ (iterNV (mapNV preprocessOutput outs)).filterMap renderUnstage ∧
      r.full = joinNL r.parts ∧ r.inputArgs = mapNV inputArg ins ∧ r.outputs = mapNV preprocessOutput outs := by
  unfold scriptCall at h
  split at h
  · simp at h
  · rename_i stages hs
    split at h
    · simp at h
    · rename_i w hw
      simp only [Except.ok.injEq] at h
      subst h
      exact ⟨stages, w, hs, hw, rfl, rfl, rfl, rfl⟩

theorem scriptCall_of_stages {cmd : Str} {ins outs : NV Leaf} {t : Option Str} {stages : List Str}
    (h : mapExcept renderStage (iterNV ins) = .ok stages) :
    ∃ r, scriptCall cmd ins outs t = .ok r ∧ ∃ w,
      r.parts = cdPart t ++ stages ++ [w] ++ (iterNV (mapNV preprocessOutput outs)).filterMap renderUnstage := by
  obtain ⟨k, hk, _⟩ := wrap_spec (prepare cmd) "EOF".toList
  simp only [scriptCall, h, hk]
  exact ⟨_, rfl, _, rfl⟩

end RedunModel.Script
