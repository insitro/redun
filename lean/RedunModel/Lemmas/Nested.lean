/-
Lemmas about nested values (`RedunModel.Model.Nested`).

Every function of the model is a mutual recursion over a value and its child lists.  `mapNV_id`, `mapNV_comp`,
`leavesDfs_mapNV` and `visited_mapNV` go through `ind`, because there the list function is `List.map` of the value
function (`mapNVs_eq`, `leavesDfsL_eq`, `visitedEach_eq`) and core's lemmas about `map` take care of the children;
`WF_mapNV`, `visited_perm_leavesDfs` and `fill_mapNV` are stated for value and list together and proved by the same
mutual recursion, because their list halves (a conjunction over the children, a permutation of a flattened list, a leaf
supply threaded from child to child) are not `map` equations and would be needed as helpers anyway.
-/
import RedunModel.Model.Nested
namespace RedunModel.Nested
namespace NV
variable {α β γ : Type}

theorem ind {motive : NV α → Prop}
    (leaf : ∀ a, motive (.leaf a))
    (list : ∀ xs, (∀ x ∈ xs, motive x) → motive (.list xs))
    (tuple : ∀ xs, (∀ x ∈ xs, motive x) → motive (.tuple xs))
    (ntuple : ∀ c xs, (∀ x ∈ xs, motive x) → motive (.ntuple c xs))
    (set : ∀ xs, (∀ x ∈ xs, motive x) → motive (.set xs))
    (dict : ∀ ks vs, (∀ x ∈ ks, motive x) → (∀ x ∈ vs, motive x) → motive (.dict ks vs))
    (dcls : ∀ c xs, (∀ x ∈ xs, motive x) → motive (.dcls c xs))
    (v : NV α) : motive v :=
  NV.rec (motive_1 := motive) (motive_2 := fun xs => ∀ x ∈ xs, motive x)
    leaf list tuple ntuple set dict dcls
    (fun _ hx => nomatch hx)
    (fun _ _ ih iht _ hx => by
      cases hx with
      | head => exact ih
      | tail _ hm => exact iht _ hm)
    v

theorem mapNVs_eq (f : α → β) (xs : List (NV α)) : mapNVs f xs = xs.map (mapNV f) := by
  induction xs with
  | nil => rfl
  | cons x xs ih => rw [mapNVs, ih, List.map_cons]

theorem leavesDfsL_eq (xs : List (NV α)) : leavesDfsL xs = (xs.map leavesDfs).flatten := by
  induction xs with
  | nil => rfl
  | cons x xs ih => rw [leavesDfsL, ih, List.map_cons, List.flatten_cons]

theorem visitedEach_eq (xs : List (NV α)) : visitedEach xs = xs.map visited := by
  induction xs with
  | nil => rfl
  | cons x xs ih => rw [visitedEach, ih, List.map_cons]

theorem sizes_eq (xs : List (NV α)) : sizes xs = (xs.map size).sum := by
  induction xs with
  | nil => rfl
  | cons x xs ih => rw [sizes, ih, List.map_cons, List.sum_cons]

theorem WFs_iff (xs : List (NV α)) : WFs xs ↔ ∀ x ∈ xs, WF x := by
  induction xs with
  | nil => simp [WFs]
  | cons x xs ih => simp [WFs, ih]

theorem length_mapNVs (f : α → β) (xs : List (NV α)) : (mapNVs f xs).length = xs.length := by
  rw [mapNVs_eq, List.length_map]

theorem mapNV_id (v : NV α) : mapNV id v = v := by
  induction v using NV.ind with
  | leaf => rfl
  | list xs ih | tuple xs ih | ntuple _ xs ih | set xs ih | dcls _ xs ih =>
    rw [mapNV, mapNVs_eq, List.map_congr_left ih, List.map_id']
  | dict ks vs ihk ihv =>
    rw [mapNV, mapNVs_eq, mapNVs_eq, List.map_congr_left ihk, List.map_congr_left ihv, List.map_id', List.map_id']

theorem mapNV_comp (g : β → γ) (f : α → β) (v : NV α) : mapNV g (mapNV f v) = mapNV (g ∘ f) v := by
  induction v using NV.ind with
  | leaf => rfl
  | list xs ih | tuple xs ih | ntuple _ xs ih | set xs ih | dcls _ xs ih =>
    simp only [mapNV, mapNVs_eq, List.map_map, Function.comp_def, List.map_congr_left ih]
  | dict ks vs ihk ihv =>
    simp only [mapNV, mapNVs_eq, List.map_map, Function.comp_def, List.map_congr_left ihk, List.map_congr_left ihv]

theorem shape_fun : (shape : NV α → NV Unit) = mapNV (fun _ => ()) := rfl

mutual
theorem WF_mapNV (f : α → β) : ∀ v : NV α, WF (mapNV f v) ↔ WF v
  | .leaf _ => .rfl
  | .list xs | .tuple xs | .ntuple _ xs | .set xs => WFs_mapNVs f xs
  | .dict ks vs => by
    simp only [mapNV, WF, length_mapNVs, WFs_mapNVs f ks, WFs_mapNVs f vs]
  | .dcls c xs => by simp only [mapNV, WF, length_mapNVs, WFs_mapNVs f xs]
theorem WFs_mapNVs (f : α → β) : ∀ xs : List (NV α), WFs (mapNVs f xs) ↔ WFs xs
  | [] => .rfl
  | x :: xs => by simp only [mapNVs, WFs, WF_mapNV f x, WFs_mapNVs f xs]
end

theorem leavesDfs_mapNV (f : α → β) (v : NV α) : leavesDfs (mapNV f v) = (leavesDfs v).map f := by
  induction v using NV.ind with
  | leaf => rfl
  | list xs ih | tuple xs ih | ntuple _ xs ih | set xs ih | dcls _ xs ih =>
    simp only [mapNV, leavesDfs, mapNVs_eq, leavesDfsL_eq, List.map_map, List.map_flatten, Function.comp_def,
      List.map_congr_left ih]
  | dict ks vs ihk ihv =>
    simp only [mapNV, leavesDfs, mapNVs_eq, leavesDfsL_eq, List.map_map, List.map_flatten, Function.comp_def,
      List.map_append, List.map_congr_left ihk, List.map_congr_left ihv]

theorem reverse_leavesDfsL (xs : List (NV α)) : (leavesDfsL xs).reverse = xs.reverse.flatMap leaves := by
  induction xs with
  | nil => rfl
  | cons x xs ih =>
    rw [leavesDfsL, List.reverse_append, ih, List.reverse_cons, List.flatMap_append,
      List.flatMap_singleton]
    rfl

theorem iterLoop_eq (st : List (NV α)) : iterLoop st = st.flatMap leaves := by
  fun_induction iterLoop st with
  | case1 => rfl
  | case2 a st ih => rw [List.flatMap_cons, ih]; rfl
  | case3 xs st ih | case4 xs st ih | case5 _ xs st ih | case6 xs st ih | case8 _ xs st ih
  | case7 ks vs st ih =>
    simp only [List.unattach_reverse, List.unattach_attach] at ih
    simp only [ih, List.flatMap_append, List.flatMap_cons, ← reverse_leavesDfsL, leaves, leavesDfs,
      List.reverse_append, List.append_assoc]

theorem interleave_perm {γ : Type} (as bs : List γ) : (interleave as bs).Perm (as ++ bs) := by
  fun_induction interleave as bs with
  | case1 a as b bs ih => exact ((ih.cons b).trans List.perm_middle.symm).cons a
  | case2 bs => exact .refl _
  | case3 as _ => rw [List.append_nil]

theorem pick_perm {γ : Type} (fl : List Bool) (xs : List γ) :
    (pick true fl xs ++ pick false fl xs).Perm xs := by
  induction xs generalizing fl with
  | nil => simp [pick]
  | cons x xs ih =>
    cases fl with
    | nil => simp [pick]
    | cons b fl =>
      cases b
      · simpa [pick] using (List.perm_middle (a := x)).trans (List.Perm.cons x (ih fl))
      · simpa [pick] using ih fl

theorem map_interleave {γ δ : Type} (g : γ → δ) (as bs : List γ) :
    (interleave as bs).map g = interleave (as.map g) (bs.map g) := by
  fun_induction interleave as bs <;> simp_all [interleave]

theorem map_pick {γ δ : Type} (g : γ → δ) (w : Bool) (fl : List Bool) (xs : List γ) :
    (pick w fl xs).map g = pick w fl (xs.map g) := by
  fun_induction pick w fl xs <;> simp_all [pick]

theorem visited_mapNV (f : α → β) (v : NV α) : visited (mapNV f v) = (visited v).map f := by
  induction v using NV.ind with
  | leaf => rfl
  | list xs ih | tuple xs ih | ntuple _ xs ih | set xs ih =>
    simp only [mapNV, visited, mapNVs_eq, visitedEach_eq, List.map_map, List.map_flatten, Function.comp_def,
      List.map_congr_left ih]
  | dict ks vs ihk ihv =>
    simp only [mapNV, visited, mapNVs_eq, visitedEach_eq, List.map_map, List.map_flatten, Function.comp_def,
      map_interleave, List.map_congr_left ihk, List.map_congr_left ihv]
  | dcls c xs ih =>
    simp only [mapNV, visited, mapNVs_eq, visitedEach_eq, List.map_map, List.map_flatten, Function.comp_def,
      List.map_append, map_pick, List.map_congr_left ih]

mutual
theorem visited_perm_leavesDfs : ∀ v : NV α, (visited v).Perm (leavesDfs v)
  | .leaf _ => .refl _
  | .list xs | .tuple xs | .ntuple _ xs | .set xs => visitedEach_perm_leavesDfsL xs
  | .dict ks vs =>
    (interleave_perm _ _).flatten.trans <| by
      rw [List.flatten_append]
      exact (visitedEach_perm_leavesDfsL ks).append (visitedEach_perm_leavesDfsL vs)
  | .dcls c xs => by
    rw [visited, ← List.flatten_append]
    exact (pick_perm _ _).flatten.trans (visitedEach_perm_leavesDfsL xs)
theorem visitedEach_perm_leavesDfsL :
    ∀ xs : List (NV α), (visitedEach xs).flatten.Perm (leavesDfsL xs)
  | [] => .refl _
  | x :: xs => (visited_perm_leavesDfs x).append (visitedEach_perm_leavesDfsL xs)
end

mutual
/-- Rebuild a value from a shape and a supply of leaves: the leaves are taken from the front of the
list in depth-first order and what is left over is returned; `none` when the supply runs out. -/
def fill : NV β → List α → Option (NV α × List α)
  | .leaf _, [] => none
  | .leaf _, a :: l => some (.leaf a, l)
  | .list s, l => (fills s l).map fun r => (.list r.1, r.2)
  | .tuple s, l => (fills s l).map fun r => (.tuple r.1, r.2)
  | .ntuple c s, l => (fills s l).map fun r => (.ntuple c r.1, r.2)
  | .set s, l => (fills s l).map fun r => (.set r.1, r.2)
  | .dict ks vs, l => (fills ks l).bind fun k => (fills vs k.2).map fun v => (.dict k.1 v.1, v.2)
  | .dcls c s, l => (fills s l).map fun r => (.dcls c r.1, r.2)
def fills : List (NV β) → List α → Option (List (NV α) × List α)
  | [], l => some ([], l)
  | s :: ss, l => (fill s l).bind fun x => (fills ss x.2).map fun xs => (x.1 :: xs.1, xs.2)
end

mutual
theorem fill_mapNV (g : α → β) :
    ∀ (v : NV α) (l : List α), fill (mapNV g v) (leavesDfs v ++ l) = some (v, l)
  | .leaf _, _ => rfl
  | .list xs, l | .tuple xs, l | .ntuple _ xs, l | .set xs, l | .dcls _ xs, l => by
    simp only [mapNV, leavesDfs, fill, fills_mapNVs g xs l, Option.map_some]
  | .dict ks vs, l => by
    simp only [mapNV, leavesDfs, fill, List.append_assoc, fills_mapNVs g ks, fills_mapNVs g vs,
      Option.bind_some, Option.map_some]
theorem fills_mapNVs (g : α → β) :
    ∀ (xs : List (NV α)) (l : List α), fills (mapNVs g xs) (leavesDfsL xs ++ l) = some (xs, l)
  | [], _ => rfl
  | x :: xs, l => by
    simp only [mapNVs, leavesDfsL, fills, List.append_assoc, fill_mapNV g x, fills_mapNVs g xs,
      Option.bind_some, Option.map_some]
end

theorem eq_of_shape_leavesDfs (a b : NV α) (hs : shape a = shape b) (hl : leavesDfs a = leavesDfs b) :
    a = b := by
  have ha := fill_mapNV (fun _ => ()) a []
  rw [show mapNV (fun _ => ()) a = shape b from hs, hl, shape, fill_mapNV] at ha
  exact (Prod.mk.inj (Option.some.inj ha)).1.symm

end NV
end RedunModel.Nested
