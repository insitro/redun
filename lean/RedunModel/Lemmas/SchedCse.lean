/-
CSE bookkeeping invariant of `SchedCore` (C06, C05) and dry-run lemmas (C28).
Main results: `execJob_cse`, `doneJob_cse`, `resolveJob_cse`, `rejectJob_cse` (the steps of `CseInv`; `reachable_cse` is in SchedTwin),
`reachable_dry`, `dry_real_lockstep`.

`CseInv.frame` says what `CseInv` reads; steps that leave all of it alone, and the in-flight flags, are sorted under `Same`,
the settling handlers are read off `Sv` (`Sv.cseInv`), `spawnOne` is an instance.  Submissions and in-flight flags (all
that `DryInv` reads) are kept by every handler but `execJob` (`doneJob_keeps`, `rejectJob_keeps`, `Sv` for `resolveJob`).
-/
import RedunModel.Lemmas.SchedLim
namespace RedunModel.SchedCore

/-- number of executor submissions of opted-in jobs with cache key `k` -/
def nSub (p : Prog) (s : S) (k : Nat × Nat) : Nat :=
  (s.submits.filter fun j => optedIn (spec p s j) && keyOf p s j == k).length

/-- Among the jobs that take part in CSE, each cache key goes to an executor at most once (`once`): once submitted,
the key stays registered in `_pending_jobs` until a CSE entry is recorded for it, so a later job with that key
collapses or hits and never reaches `submit` (`execJob_cse`). -/
structure CseInv (p : Prog) (s : S) : Prop where
  reg_ok : ∀ k j, (k, j) ∈ s.pendingJobs → keyOf p s j = k ∧ (spec p s j).prov = true ∧ j < s.next
  sub_lt : ∀ j, j ∈ s.submits → j < s.next
  once : ∀ k, nSub p s k ≤ 1 ∧ (nSub p s k = 1 → (lookupPending s k).isSome = true ∨ HasEntry s k)

/-- `CseInv` reads `next`, the specifications of the jobs created so far, `submits`, `_pending_jobs` and the entries.  Jobs may
be created and entries added; a registration may go once an entry is there for its key. -/
theorem CseInv.frame {p : Prog} {s s' : S} (hi : CseInv p s) (hn : s.next ≤ s'.next)
    (hsp : ∀ i, i < s.next → spec p s' i = spec p s i) (hsub : s'.submits = s.submits)
    (hpj : ∀ x, x ∈ s'.pendingJobs → x ∈ s.pendingJobs) (hcse : ∀ e, e ∈ s.cse → e ∈ s'.cse)
    (hlk : ∀ k, (lookupPending s k).isSome = true → (lookupPending s' k).isSome = true ∨ HasEntry s' k) :
    CseInv p s' := by
  have hk : ∀ i, i < s.next → keyOf p s' i = keyOf p s i := fun i hi => by unfold keyOf; rw [hsp i hi]
  have hnS : ∀ k, nSub p s' k = nSub p s k := fun k => by
    unfold nSub; rw [hsub]
    exact congrArg List.length (List.filter_congr fun i hm => by rw [hsp i (hi.sub_lt i hm), hk i (hi.sub_lt i hm)])
  refine ⟨fun k j hm => ?_, fun j hm => Nat.lt_of_lt_of_le (hi.sub_lt j (hsub ▸ hm)) hn, fun k => ?_⟩
  · obtain ⟨a, b, d⟩ := hi.reg_ok k j (hpj _ hm)
    exact ⟨(hk j d).trans a, (hsp j d).symm ▸ b, Nat.lt_of_lt_of_le d hn⟩
  · rw [hnS]
    exact ⟨(hi.once k).1, fun h1 => ((hi.once k).2 h1).elim (hlk k) fun ⟨e, hm, a⟩ => Or.inr ⟨e, hcse e hm, a⟩⟩

/-- all that `CseInv` and `DryInv` read is unchanged -/
structure Same (s s' : S) : Prop where
  next : s'.next = s.next
  specOf : s'.specOf = s.specOf
  pj : s'.pendingJobs = s.pendingJobs
  cse : s'.cse = s.cse
  sub : s'.submits = s.submits
  infl : s'.inflight = s.inflight

theorem Same.refl (s : S) : Same s s := ⟨rfl, rfl, rfl, rfl, rfl, rfl⟩
theorem Same.trans {a b c : S} (h1 : Same a b) (h2 : Same b c) : Same a c :=
  ⟨h2.next.trans h1.next, h2.specOf.trans h1.specOf, h2.pj.trans h1.pj, h2.cse.trans h1.cse, h2.sub.trans h1.sub, h2.infl.trans h1.infl⟩

theorem same_setJob (s : S) (j : JobId) (f : JobSt → JobSt) : Same s (setJob s j f) := ⟨rfl, rfl, rfl, rfl, rfl, rfl⟩
theorem same_enqueue (s : S) (e : Ev) : Same s (enqueue s e) := ⟨rfl, rfl, rfl, rfl, rfl, rfl⟩
theorem same_tl (s : S) : Same s (tl s) := ⟨rfl, rfl, rfl, rfl, rfl, rfl⟩
theorem same_checkPending (p : Prog) (s : S) : Same s (checkPending p s) := ⟨rfl, rfl, rfl, rfl, rfl, rfl⟩
theorem same_consume (p : Prog) (s : S) (j : JobId) : Same s (consume p s j) := ⟨rfl, rfl, rfl, rfl, rfl, rfl⟩
theorem same_release (p : Prog) (s : S) (j : JobId) : Same s (release p s j) := ⟨rfl, rfl, rfl, rfl, rfl, rfl⟩

theorem same_releaseIf (p : Prog) (s : S) (j : JobId) : Same s (releaseIf p s j) :=
  releaseIf_cases p s j (fun _ => (same_release p s j).trans (same_checkPending p _)) fun _ => Same.refl s

theorem same_setCache (p : Prog) (s : S) (j : JobId) : Same s (setCache p s j) :=
  setCache_cases p s j (fun _ _ => ⟨rfl, rfl, rfl, rfl, rfl, rfl⟩) (Same.refl s)

theorem Same.inv {p : Prog} {s s' : S} (h : Same s s') (hi : CseInv p s) : CseInv p s' :=
  hi.frame (Nat.le_of_eq h.next.symm) (fun i _ => same_spec h.specOf i) h.sub (fun x hx => h.pj ▸ hx)
    (fun e he => h.cse ▸ he) fun k => by unfold lookupPending; rw [h.pj]; exact Or.inl

/-- a handler that settles the jobs in `U`: whatever registration goes is that of a job in `U` that records provenance, and
its entry has been recorded -/
theorem Sv.cseInv {p : Prog} {s s' : S} {U : List JobId} {b : Bool} (o : Sv p s s' U b) (hi : CseInv p s) : CseInv p s' :=
  hi.frame (Nat.le_of_eq o.next.symm) (fun i _ => same_spec o.specOf i) o.sub o.pjm (fun e he => (o.cse e).mpr (Or.inl he))
    fun k a => by
      obtain ⟨t, ht⟩ := Option.isSome_iff_exists.mp a
      refine (o.lk k t ht).imp (fun a => by rw [a]; rfl) fun ⟨hu, e⟩ => ?_
      exact ⟨entryOf p s t b, (o.cse _).mpr (Or.inr ⟨t, hu, (hi.reg_ok k t (mem_of_lookupPending ht)).2.1, rfl⟩),
        by rw [e]; exact ⟨rfl, rfl⟩⟩

theorem resolveJob_cse (p : Prog) (s : S) (j : JobId) (hi : CseInv p s) : CseInv p (resolveJob p s j) :=
  (sv_resolveJob p s j).cseInv hi

theorem rejectJob_cse (p : Prog) (s : S) (j : JobId) (hi : CseInv p s) : CseInv p (rejectJob p s j) := by
  rw [rejectJob_eq]; exact (sv_rejectRest p _ j).cseInv ((same_releaseIf p s j).inv hi)

theorem cse_spawnOne (p : Prog) (s : S) (j : JobId) (c : SpecId) (hi : CseInv p s) : CseInv p (spawnOne s j c) :=
  hi.frame (Nat.le_succ _) (fun i hi => spawnOne_spec_ne p s j c i (Nat.ne_of_lt hi)) rfl (fun _ => id) (fun _ => id)
    fun _ => Or.inl

theorem spawn_cse (p : Prog) (s : S) (j : JobId) (cs : List SpecId) (hi : CseInv p s) : CseInv p (spawn s j cs) :=
  spawn_ind s j cs hi (fun s c => cse_spawnOne p s j c) (fun _ _ => (same_setJob _ _ _).inv) fun _ => (same_enqueue _ _).inv

theorem doneJob_cse (p : Prog) (s : S) (j : JobId) (f : Bool) (hi : CseInv p s) : CseInv p (doneJob p s j f) := by
  rw [doneJob_eq]
  have i2 := ((same_releaseIf p s j).trans (same_setCache p _ j)).inv hi
  exact doneRest_cases p _ j f (fun _ => (same_enqueue _ _).inv i2) fun _ => spawn_cse p _ j _ i2

theorem complete_cse (p : Prog) (s : S) (j : JobId) (hi : CseInv p s) : CseInv p (complete p s j) :=
  hi.frame (Nat.le_refl _) (fun _ _ => rfl) rfl (fun _ => id) (fun _ => id) fun _ => Or.inl

theorem optedIn_prov (p : Prog) (hps : ProvScope p) (s : S) (j : JobId) (h : optedIn (spec p s j) = true) :
    (spec p s j).prov = true := by
  cases hp : (spec p s j).prov
  · have := hps (s.specOf j) hp
    unfold optedIn spec at h
    rw [this] at h
    simp at h
  · rfl

theorem no_entry_of_miss (s : S) (sp : Spec) (ho : optedIn sp = true) (hm : cacheLookup s sp = Hit.miss) :
    ¬ HasEntry s (sp.key, sp.ctx) := by
  intro ⟨e, hmem, hk, hc⟩
  unfold optedIn at ho
  simp only [Bool.and_eq_true, bne_iff_ne, ne_eq] at ho
  have h1 : (sp.scope == Scope.none) = false := by simpa using ho.1
  unfold cacheLookup at hm
  simp only [h1, Bool.false_eq_true, if_false, ho.2, if_true] at hm
  cases hl : cseLookup s sp with
  | some e => rw [hl] at hm; simp at hm
  | none =>
    unfold cseLookup at hl
    have := List.find?_eq_none.mp hl e (List.mem_reverse.mpr hmem)
    simp [hk, hc] at this

theorem register_frame (p : Prog) (s : S) (j : JobId) :
    (register p s j).next = s.next ∧ (register p s j).specOf = s.specOf ∧ (register p s j).submits = s.submits := by
  obtain ⟨pj, e⟩ := register_eq p s j
  rw [e]; exact ⟨rfl, rfl, rfl⟩

theorem register_cse (p : Prog) (s : S) (j : JobId) (hi : CseInv p s) (hlt : j < s.next) :
    CseInv p (register p s j) ∧
      ((spec p s j).prov = true → (lookupPending (register p s j) (keyOf p s j)).isSome = true) := by
  unfold register
  split
  · rename_i hc
    exact ⟨hi, fun hp => by simpa [hp] using hc⟩
  · rename_i hc
    simp only [Bool.or_eq_true, Bool.not_eq_eq_eq_not, Bool.not_true, not_or, Bool.not_eq_false,
      Bool.not_eq_true, Option.isSome_eq_false_iff, Option.isNone_iff_eq_none] at hc
    refine ⟨⟨?_, hi.sub_lt, ?_⟩, fun _ => ?_⟩
    · intro k i hm
      rcases List.mem_append.mp hm with a | a
      · exact hi.reg_ok k i a
      · simp only [List.mem_singleton, Prod.mk.injEq] at a
        rw [a.1, a.2]; exact ⟨rfl, hc.1, hlt⟩
    · intro k
      refine ⟨(hi.once k).1, fun h1 => ((hi.once k).2 h1).imp_left fun a => ?_⟩
      obtain ⟨t, ht⟩ := Option.isSome_iff_exists.mp a
      rw [lookupPending_append_old s _ k j t ht]; rfl
    · rw [lookupPending_append_new s _ j hc.2]; rfl

theorem nSub_submit (p : Prog) (s : S) (j : JobId) (k : Nat × Nat) :
    nSub p (submit s j) k = nSub p s k + (if (optedIn (spec p s j) && keyOf p s j == k) = true then 1 else 0) := by
  unfold nSub
  show (List.filter (fun i => optedIn (spec p s i) && keyOf p s i == k) (s.submits ++ [j])).length = _
  rw [List.filter_append, List.length_append, List.filter_cons]
  split <;> rfl

theorem submit_cse (p : Prog) (s : S) (j : JobId) (hi : CseInv p s) (hlt : j < s.next)
    (h : optedIn (spec p s j) = true →
      nSub p s (keyOf p s j) = 0 ∧ (lookupPending s (keyOf p s j)).isSome = true) :
    CseInv p (submit s j) := by
  refine ⟨hi.reg_ok, ?_, ?_⟩
  · intro i hm
    rcases List.mem_append.mp hm with a | a
    · exact hi.sub_lt i a
    · rw [List.mem_singleton.mp a]; exact hlt
  · intro k
    rw [nSub_submit]
    split
    · rename_i hc
      simp only [Bool.and_eq_true, beq_iff_eq] at hc
      obtain ⟨z, r⟩ := h hc.1
      rw [← hc.2, z]; exact ⟨Nat.le_refl _, fun _ => Or.inl r⟩
    · exact hi.once k

theorem execJob_cse (p : Prog) (hps : ProvScope p) (s : S) (j : JobId) (hi : CseInv p s) (hlt : j < s.next) :
    CseInv p (execJob p s j) := by
  refine execJob_cases p s j ?_ ?_ ?_ ?_ ?_ ?_
  · intro t _ _; exact ((same_setJob _ _ _).trans (same_checkPending p _)).inv hi
  · intro _ _ _ _; exact (((same_setJob _ _ _).trans (same_checkPending p _)).trans (same_enqueue _ _)).inv hi
  · intro _ _ _ _
    exact (Same.mk rfl rfl rfl rfl rfl rfl : Same s { s with pendingLimits := s.pendingLimits ++ [j] }).inv hi
  · intro _ _ _
    split
    · exact hi
    · exact (same_enqueue _ _).inv hi
  · intro _ _ _ _ _; exact ((same_consume p s j).trans (same_enqueue _ _)).inv hi
  · -- an opted-in job reaches submission only if nothing is registered and nothing recorded under its key
    intro hn hm _ _ _
    obtain ⟨i2, hreg⟩ := register_cse p (consume p s j) j ((same_consume p s j).inv hi) hlt
    obtain ⟨f1, f2, f4⟩ := register_frame p (consume p s j) j
    generalize register p (consume p s j) j = s2 at i2 hreg f1 f2 f4
    have hsp : spec p s2 j = spec p s j := same_spec f2 j
    have hk : keyOf p s2 j = keyOf p s j := by unfold keyOf; rw [hsp]
    refine submit_cse p s2 j i2 (by rw [f1]; exact hlt) fun hopt => ?_
    rw [hsp] at hopt
    rw [hk]
    refine ⟨?_, hreg (optedIn_prov p hps s j hopt)⟩
    have h0 : nSub p s2 (keyOf p s j) = nSub p s (keyOf p s j) := by
      unfold nSub keyOf spec; rw [f4, f2]; rfl
    rw [h0]
    have := hi.once (keyOf p s j)
    by_cases h1 : nSub p s (keyOf p s j) = 1
    · rcases this.2 h1 with a | a
      · rw [hn hopt] at a; simp at a
      · exact absurd a (no_entry_of_miss s _ hopt hm)
    · omega

theorem cse_init (p : Prog) : CseInv p init := by
  refine ⟨?_, ?_, ?_⟩
  · intro k j h; simp [init] at h
  · intro j h; simp [init] at h
  · intro k; simp [nSub, init]

theorem doneJob_keeps (p : Prog) (s : S) (j : JobId) (f : Bool) :
    (doneJob p s j f).submits = s.submits ∧ (doneJob p s j f).inflight = s.inflight := by
  rw [doneJob_eq]
  have e0 := same_releaseIf p s j
  exact doneRest_anyTable p _ j f (P := fun s' => s'.submits = s.submits ∧ s'.inflight = s.inflight)
    (fun _ _ => ⟨e0.sub, e0.infl⟩) fun _ et =>
      spawn_ind (I := fun s' => s'.submits = s.submits ∧ s'.inflight = s.inflight) _ j _ ⟨e0.sub, e0.infl⟩
        (fun _ _ a => a) (fun _ _ a => a) fun _ a => a

theorem rejectJob_keeps (p : Prog) (s : S) (j : JobId) :
    (rejectJob p s j).submits = s.submits ∧ (rejectJob p s j).inflight = s.inflight := by
  rw [rejectJob_eq]
  have e0 := same_releaseIf p s j
  have e1 := sv_rejectRest p (releaseIf p s j) j
  exact ⟨e1.sub.trans e0.sub, e1.infl.trans e0.infl⟩

/-- in a dry run `_exec_job_main_thread` never reaches `executor.submit` -/
theorem execJob_keeps_dry (p : Prog) (hd : p.dryrun = true) (s : S) (j : JobId) :
    (execJob p s j).submits = s.submits ∧ (execJob p s j).inflight = s.inflight := by
  have hf : p.dryrun ≠ false := by simp [hd]
  refine execJob_cases p s j (fun _ _ _ => ⟨rfl, rfl⟩) (fun _ _ _ _ => ⟨rfl, rfl⟩) (fun _ _ h => absurd h hf) (fun _ _ _ => ?_)
    (fun _ _ h => absurd h hf) (fun _ _ h => absurd h hf)
  split <;> exact ⟨rfl, rfl⟩

structure DryInv (s : S) : Prop where
  sub : s.submits = []
  infl : ∀ j, s.inflight j = false

theorem pop_dry (p : Prog) (hd : p.dryrun = true) (s : S) (ih : DryInv s) : DryInv (pop p s) := by
  have key : (pop p s).submits = s.submits ∧ (pop p s).inflight = s.inflight := by
    cases hq : s.queue with
    | nil => rw [pop_nil p hq]; exact ⟨rfl, rfl⟩
    | cons e rest =>
      rw [pop_cons p hq]
      cases e with
      | exec j => exact execJob_keeps_dry p hd _ j
      | resolve j => exact ⟨(sv_resolveJob p (tl s) j).sub, (sv_resolveJob p (tl s) j).infl⟩
      | done j f => exact doneJob_keeps p _ j f
      | reject j => exact rejectJob_keeps p _ j
  exact ⟨key.1.trans ih.sub, fun j => by rw [key.2]; exact ih.infl j⟩

theorem reachable_dry (p : Prog) (hd : p.dryrun = true) (s : S) (h : Reachable p s) : DryInv s := by
  induction h with
  | init => exact ⟨rfl, fun _ => rfl⟩
  | step hr hs ih =>
    cases hs with
    | pop _ _ => exact pop_dry p hd _ ih
    | complete j _ hi => rw [ih.infl j] at hi; exact absurd hi (by simp)

def asDry (p : Prog) : Prog := { p with dryrun := true }

theorem spec_asDry (p : Prog) (s : S) (j : JobId) : spec (asDry p) s j = spec p s j := rfl
theorem release_asDry (p : Prog) (s : S) (j : JobId) : release (asDry p) s j = release p s j := rfl
theorem record_asDry (p : Prog) (s : S) (j : JobId) (b : Bool) : record (asDry p) s j b = record p s j b := rfl
theorem finalize_asDry (p : Prog) (s : S) (j : JobId) : finalize (asDry p) s j = finalize p s j := rfl
theorem rejectTwin_asDry (p : Prog) : rejectTwin (asDry p) = rejectTwin p := rfl

theorem scanPending_asDry (p : Prog) (sp : JobId → SpecId) (used : Res → Int) (l : List JobId) (keys : List Res)
    (acc : Res → Nat) : scanPending (asDry p) sp used l keys acc = scanPending p sp used l keys acc := by
  induction l generalizing keys acc with
  | nil => rfl
  | cons a l ih =>
    simp only [scanPending]
    have hw : ∀ k f, within (asDry p) used k f = within p used k f := fun _ _ => rfl
    have hs : ∀ i, (asDry p).specAt i = p.specAt i := fun _ => rfl
    simp only [hw, hs, ih]

theorem checkPending_asDry (p : Prog) (s : S) : checkPending (asDry p) s = checkPending p s := by
  unfold checkPending; rw [scanPending_asDry]

theorem doneJob_asDry (p : Prog) (s : S) (j : JobId) (f : Bool) : doneJob (asDry p) s j f = doneJob p s j f := by
  unfold doneJob
  simp only [release_asDry, checkPending_asDry, spec_asDry]

theorem rejectJob_asDry (p : Prog) (s : S) (j : JobId) : rejectJob (asDry p) s j = rejectJob p s j := by
  unfold rejectJob
  simp only [release_asDry, checkPending_asDry, record_asDry, finalize_asDry, rejectTwin_asDry]

theorem resolveJob_asDry (p : Prog) (s : S) (j : JobId) : resolveJob (asDry p) s j = resolveJob p s j := rfl

/-- the head of the queue is an execution that misses both the pending-twin table and the cache -/
def missAtHead (p : Prog) (s : S) : Bool :=
  match s.queue with
  | Ev.exec j :: _ =>
    let sp := spec p s j
    (if optedIn sp then lookupPending s (sp.key, sp.ctx) else none).isNone &&
      (cacheLookup s sp == Hit.miss)
  | _ => false

theorem execJob_asDry (p : Prog) (s : S) (j : JobId)
    (h : ((if optedIn (spec p s j) then lookupPending s ((spec p s j).key, (spec p s j).ctx) else none).isNone &&
      (cacheLookup s (spec p s j) == Hit.miss)) = false) :
    execJob (asDry p) s j = execJob p s j := by
  unfold execJob
  have hs : spec (asDry p) s j = spec p s j := rfl
  rw [hs]
  dsimp only
  cases h1 : (if optedIn (spec p s j) = true then lookupPending s ((spec p s j).key, (spec p s j).ctx) else none) with
  | some t => simp only [checkPending_asDry]
  | none =>
    rw [h1] at h
    simp only [Option.isNone_none, Bool.true_and, beq_eq_false_iff_ne, ne_eq] at h
    dsimp only
    cases h2 : cacheLookup s (spec p s j) with
    | miss => exact absurd h2 h
    | cse e => simp only [checkPending_asDry]
    | ultimate => simp only [checkPending_asDry]
    | single => simp only [checkPending_asDry]

theorem pop_asDry (p : Prog) (s : S) (h : missAtHead p s = false) : pop (asDry p) s = pop p s := by
  cases hq : s.queue with
  | nil => rw [pop_nil _ hq, pop_nil _ hq]
  | cons e rest =>
    rw [pop_cons _ hq, pop_cons _ hq]
    cases e with
    | exec j =>
      unfold missAtHead at h
      rw [hq] at h
      exact execJob_asDry p (tl s) j h
    | done j f => exact doneJob_asDry p _ j f
    | reject j => exact rejectJob_asDry p _ j
    | resolve j => rfl

def popN (p : Prog) : Nat → S → S
  | 0, s => s
  | n + 1, s => popN p n (pop p s)

/-- If in the first `n` events of the dry run no job misses the cache, the real run processes the same
`n` events through exactly the same states. -/
theorem dry_real_lockstep (p : Prog) (n : Nat) (s : S)
    (h : ∀ k, k < n → missAtHead p (popN (asDry p) k s) = false) :
    popN p n s = popN (asDry p) n s := by
  induction n generalizing s with
  | zero => rfl
  | succ n ih =>
    have h0 := h 0 (Nat.zero_lt_succ n)
    simp only [popN] at h0 ⊢
    rw [pop_asDry p s h0]
    apply ih
    intro k hk
    have := h (k + 1) (Nat.succ_lt_succ hk)
    simp only [popN] at this
    rw [pop_asDry p s h0] at this
    exact this

end RedunModel.SchedCore
