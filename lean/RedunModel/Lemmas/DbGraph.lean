/-
The call graph of `RedunModel.Model.Db` (the CallNode, CallEdge and CallSubtreeTask tables) and the invariant the
shallow cache lookup relies on (C03, C23).

`SubtreeInv`: a call node that has subtree rows has one for the task of every node reachable from it.
`GraphExt db d ns es`: `d` adds new nodes `ns` and edges `es` leaving them, so that nothing reachable from an old node
changes (`GraphExt.reach_old`, `.node_old`, `.covers_new`).  `putRecords_graph`: `put_records` is such an extension,
without subtree rows.
`C03.GraphInv` = `SubtreeInv` + closure of edges and subtree rows; `GraphInv.ext` keeps it under a `GraphExt` that also
adds subtree rows, each new row's node being covered by the new rows.  Every durable state of `record_call_node`
(`CallNodeSnap`, `CallNodeBare`) is such an extension by at most the node itself (`shape_ext`), and keeps the invariant
when the caller's subtree set covers the node's recorded children (`ArgsOk`, `graphInv_of_shape`); `exec_argsOk`: the
scheduler's `calc_subtree_tasks` provides that.  `GoodRes`: what the running scheduler knows about a finished job stays
true under extensions that do not reuse its call hash (`goodRes_ext`); `resolve_step`, `frame_step`, `cached_good` are
the steps of C03's history induction.
-/
import RedunModel.Lemmas.Db
namespace RedunModel.Db

inductive Reach (db : Db) : H → H → Prop
  | refl (c : H) : Reach db c c
  | step {a b c : H} (e : EdgeRow) (he : e ∈ db.edges) (hp : e.parent = a) (hc : e.child = b)
      (h : Reach db b c) : Reach db a c

/-- A call node that has subtree rows has one for the task of every node reachable from it.  A node WITHOUT rows
(imported by `put_records`, or left by a crash between the two commits of `record_call_node`) is exempt: with
`emptyNotCurrent`, `_get_call_node` never serves it. -/
def SubtreeInv (db : Db) : Prop :=
  ∀ c d n, subtreeOf db c ≠ [] → Reach db c d → n ∈ db.nodes → n.call = d → n.task ∈ subtreeOf db c

def EdgesClosed (db : Db) : Prop := ∀ e ∈ db.edges, hasNode db e.parent = true ∧ hasNode db e.child = true

def SubClosed (db : Db) : Prop := ∀ r ∈ db.subtree, hasNode db r.call = true

theorem mem_subtreeOf {db : Db} {c t : H} : t ∈ subtreeOf db c ↔ (⟨c, t⟩ : SubRow) ∈ db.subtree := by
  simp only [subtreeOf, List.mem_map, List.mem_filter, beq_iff_eq]
  exact ⟨fun ⟨⟨_, _⟩, ⟨hr, hc⟩, ht⟩ => hc ▸ ht ▸ hr, fun h => ⟨_, ⟨h, rfl⟩, rfl⟩⟩

theorem hasNode_iff {db : Db} {c : H} : hasNode db c = true ↔ ∃ n ∈ db.nodes, n.call = c := by
  simp [hasNode]

theorem subtreeOf_nil_of_not_node {db : Db} {c : H} (hsc : SubClosed db) (h : hasNode db c = false) :
    subtreeOf db c = [] :=
  List.eq_nil_iff_forall_not_mem.2 fun _ ht => by rw [hsc _ (mem_subtreeOf.1 ht)] at h; cases h

theorem hasNode_append {db d : Db} {ns : List NodeRow} (hn : d.nodes = db.nodes ++ ns) {c : H}
    (h : hasNode db c = true) : hasNode d c = true := by
  unfold hasNode at h ⊢
  rw [hn, List.any_append, h, Bool.true_or]

structure GraphExt (db d : Db) (ns : List NodeRow) (es : List EdgeRow) : Prop where
  nodes : d.nodes = db.nodes ++ ns
  edges : d.edges = db.edges ++ es
  fresh : ∀ n ∈ ns, hasNode db n.call = false
  leave : ∀ e ∈ es, hasNode db e.parent = false

theorem GraphExt.of_eq {db d : Db} (hn : d.nodes = db.nodes) (he : d.edges = db.edges) : GraphExt db d [] [] :=
  ⟨by rw [hn, List.append_nil], by rw [he, List.append_nil], forall_mem_nil, forall_mem_nil⟩

theorem GraphExt.of_G {db d : Db} (h : G d = G db) : GraphExt db d [] [] := .of_eq (G_eq h).1 (G_eq h).2.1

theorem GraphExt.reach_old {db d : Db} {ns : List NodeRow} {es : List EdgeRow} (h : GraphExt db d ns es)
    (hec : EdgesClosed db) {x y : H} (hx : hasNode db x = true) (hr : Reach d x y) :
    Reach db x y ∧ hasNode db y = true := by
  induction hr with
  | refl c => exact ⟨Reach.refl c, hx⟩
  | step e hmem hp hc _ ih =>
    rcases List.mem_append.1 (h.edges ▸ hmem) with hold | hnew
    · have := ih (hc ▸ (hec e hold).2)
      exact ⟨Reach.step e hold hp hc this.1, this.2⟩
    · have := h.leave e hnew
      rw [hp, hx] at this; cases this

theorem GraphExt.node_old {db d : Db} {ns : List NodeRow} {es : List EdgeRow} (h : GraphExt db d ns es)
    {m : NodeRow} (hm : m ∈ d.nodes) (hc : hasNode db m.call = true) : m ∈ db.nodes :=
  (List.mem_append.1 (h.nodes ▸ hm)).resolve_right fun hn => by rw [h.fresh m hn] at hc; cases hc

theorem GraphExt.covers_new {db d : Db} {n : NodeRow} {es : List EdgeRow} {S : List H} (h : GraphExt db d [n] es)
    (hec : EdgesClosed db) (hes : ∀ e ∈ es, hasNode db e.child = true) (hown : n.task ∈ S)
    (hpre : ∀ e ∈ es, ∀ x m, Reach db e.child x → m ∈ db.nodes → m.call = x → m.task ∈ S)
    {x : H} {m : NodeRow} (hr : Reach d n.call x) (hm : m ∈ d.nodes) (hmx : m.call = x) : m.task ∈ S := by
  have hnew := h.fresh n List.mem_cons_self
  rw [h.nodes, List.mem_append, List.mem_singleton] at hm
  cases hr with
  | refl _ =>
    rcases hm with hm | rfl
    · rw [hasNode_iff.2 ⟨m, hm, hmx⟩] at hnew; cases hnew
    · exact hown
  | step e hmem hp hc hr' =>
    rcases List.mem_append.1 (h.edges ▸ hmem) with hold | hnw
    · have := (hec e hold).1; rw [hp, hnew] at this; cases this
    · obtain ⟨hro, hxo⟩ := h.reach_old hec (hc ▸ hes e hnw) hr'
      rcases hm with hm | rfl
      · exact hpre e hnw x m (hc ▸ hro) hm hmx
      · rw [hmx, hxo] at hnew; cases hnew

theorem recOps_graph (r : Rec) : ∀ op ∈ recOps r, subOf op = none ∧ (∀ n, nodeOf op = some n → n.call = r.id) ∧
    ∀ e, edgeOf op = some e → e.parent = r.id := by
  intro op hop
  cases r with
  | node r ch args =>
    simp only [recOps, List.cons_append, List.mem_cons, List.mem_append, List.mem_map, List.mem_flatMap] at hop
    rcases hop with rfl | (⟨_, _, rfl⟩ | ⟨_, _, rfl⟩) | ⟨_, _, _, _, rfl⟩
    · exact ⟨rfl, fun n h => by cases h; rfl, nofun⟩
    · exact ⟨rfl, nofun, fun e h => by cases h; rfl⟩
    · exact ⟨rfl, nofun, nofun⟩
    · exact ⟨rfl, nofun, nofun⟩
  | value r subs t f =>
    simp only [recOps, List.cons_append, List.mem_cons, List.mem_append, List.mem_map] at hop
    rcases hop with rfl | (⟨_, _, rfl⟩ | h) | h
    · exact ⟨rfl, nofun, nofun⟩
    · exact ⟨rfl, nofun, nofun⟩
    · split at h
      · cases List.mem_singleton.1 h; exact ⟨rfl, nofun, nofun⟩
      · cases h
    · split at h
      · cases List.mem_singleton.1 h; exact ⟨rfl, nofun, nofun⟩
      · cases h
  | exec r => cases List.mem_singleton.1 hop; exact ⟨rfl, nofun, nofun⟩
  | job r => cases List.mem_singleton.1 hop; exact ⟨rfl, nofun, nofun⟩
  | tag r ps =>
    simp only [recOps, List.mem_cons, List.mem_map] at hop
    rcases hop with rfl | ⟨_, _, rfl⟩ <;> exact ⟨rfl, nofun, nofun⟩

theorem isRecordId_false_hasNode {db : Db} {c : H} (h : isRecordId db c = false) : hasNode db c = false := by
  simp only [isRecordId, Bool.or_eq_false_iff] at h; exact h.1.1.2

/-- `put_records`: new call nodes come with their child edges and WITHOUT subtree rows; one commit. -/
theorem putRecords_graph (rs : List Rec) (s : Sess) (hp : s.pend = []) :
    ∃ ns es, GraphExt s.db (putRecords rs s).db ns es ∧ (putRecords rs s).db.subtree = s.db.subtree ∧
      (putRecords rs s).pend = [] ∧
      (∀ snap ∈ (putRecords rs s).log, snap ∈ s.log ∨ snap.db = (putRecords rs s).db) := by
  by_cases h : newRecords s.db [] rs = []
  · rw [putRecords_of_nil hp h]
    exact ⟨[], [], .of_G rfl, rfl, hp, fun _ h => Or.inl h⟩
  · obtain ⟨hdb, hpend, hlog⟩ := putRecords_of_ne hp h
    -- a row of the batch belongs to a record whose id is new
    have hrow : ∀ op ∈ (newRecords s.db [] rs).flatMap recOps, ∃ r, hasNode s.db r.id = false ∧ op ∈ recOps r :=
      fun op hop => let ⟨r, hr, h⟩ := List.mem_flatMap.1 hop; let ⟨_, _, ho, e⟩ := (newRecords_loop _).mem hr
        ⟨r, isRecordId_false_hasNode (e ▸ ho), h⟩
    refine ⟨_, _, ⟨(congrArg Db.nodes hdb).trans (applyOps_nodes _ _),
      (congrArg Db.edges hdb).trans (applyOps_edges _ _), fun n hn => ?_, fun e he => ?_⟩, ?_, hpend,
      fun snap hs => (List.mem_append.1 (hlog ▸ hs)).imp_right fun hs => by rw [List.mem_singleton.1 hs]⟩
    · obtain ⟨op, hop, hn⟩ := List.mem_filterMap.1 hn
      obtain ⟨r, hr, h⟩ := hrow op hop
      rw [(recOps_graph r op h).2.1 n hn]; exact hr
    · obtain ⟨op, hop, he⟩ := List.mem_filterMap.1 he
      obtain ⟨r, hr, h⟩ := hrow op hop
      rw [(recOps_graph r op h).2.2 e he]; exact hr
    · refine ((congrArg Db.subtree hdb).trans (applyOps_subtree _ _)).trans ?_
      rw [List.filterMap_eq_nil_iff.2 fun op hop => let ⟨r, _, h⟩ := hrow op hop; (recOps_graph r op h).1,
        List.append_nil]

end RedunModel.Db

namespace RedunModel.C03
open RedunModel.Db

structure GraphInv (db : Db) : Prop where
  inv : SubtreeInv db
  edges : EdgesClosed db
  subs : SubClosed db

/-- `S` contains the task of every call node recorded at or beneath `c` -/
def Covers (db : Db) (c : H) (S : List H) : Prop :=
  ∀ d m, Reach db c d → m ∈ db.nodes → m.call = d → m.task ∈ S

theorem subtreeOf_append {db d : Db} {c : H} {S : List H}
    (hs : d.subtree = db.subtree ++ S.map (fun t => ⟨c, t⟩)) : subtreeOf d c = subtreeOf db c ++ S := by
  simp only [subtreeOf, hs, List.filter_append, List.map_append, List.filter_map, List.map_map]
  congr 1
  simp [Function.comp_def]

theorem graphInv_empty : GraphInv {} :=
  ⟨fun c _ _ h => by simp [subtreeOf] at h, fun e h => by simp at h, fun r h => by simp at h⟩

theorem GraphInv.ext {db d : Db} {ns : List NodeRow} {es : List EdgeRow} {ss : List SubRow} (hI : GraphInv db)
    (hx : GraphExt db d ns es) (hs : d.subtree = db.subtree ++ ss)
    (hes : ∀ e ∈ es, hasNode d e.parent = true ∧ hasNode d e.child = true)
    (hss : ∀ r ∈ ss, hasNode d r.call = true ∧
      ∀ x m, Reach d r.call x → m ∈ d.nodes → m.call = x → (⟨r.call, m.task⟩ : SubRow) ∈ ss) : GraphInv d := by
  refine ⟨fun c x m hne hr hm hmx => ?_, fun e he => ?_, fun r hr => ?_⟩
  · rw [mem_subtreeOf, hs, List.mem_append]
    by_cases hc : subtreeOf db c = []
    · -- the rows of `c` are new
      obtain ⟨t, ht⟩ := List.exists_mem_of_ne_nil _ hne
      rcases List.mem_append.1 (hs ▸ mem_subtreeOf.1 ht) with ht | ht
      · have := mem_subtreeOf.2 ht; rw [hc] at this; cases this
      · exact Or.inr ((hss _ ht).2 x m hr hm hmx)
    · -- `c` had rows: it is an old node, and so is everything beneath it
      have hcn := Bool.of_not_eq_false fun hcn => hc (subtreeOf_nil_of_not_node hI.subs hcn)
      obtain ⟨hro, hxn⟩ := hx.reach_old hI.edges hcn hr
      exact Or.inl (mem_subtreeOf.1 (hI.inv c x m hc hro (hx.node_old hm (hmx ▸ hxn)) hmx))
  · exact (List.mem_append.1 (hx.edges ▸ he)).elim
      (fun he => (hI.edges e he).imp (hasNode_append hx.nodes) (hasNode_append hx.nodes)) (hes e)
  · exact (List.mem_append.1 (hs ▸ hr)).elim (fun hr => hasNode_append hx.nodes (hI.subs r hr)) fun hr => (hss r hr).1

theorem graphInv_frame {db d : Db} (hI : GraphInv db) (h : G d = G db) : GraphInv d :=
  hI.ext (ss := []) (.of_G h) (by rw [(G_eq h).2.2, List.append_nil]) forall_mem_nil forall_mem_nil

/-- `edgeRows` looks for the children with the new node already pending; as the node is not its own child, the
children it finds were recorded before -/
theorem mem_newEdges {a : CallArgs} {db0 : Db} (hacyc : a.node.call ∉ a.children) {e : EdgeRow}
    (h : e ∈ edgeRows (applyOp db0 (.node a.node)) a.node.call a.children) :
    e.parent = a.node.call ∧ e.child ∈ a.children ∧ hasNode db0 e.child = true := by
  obtain ⟨h1, h2, h3⟩ := mem_edgeRows h
  refine ⟨h1, h2, ?_⟩
  simp only [hasNode, applyOp, List.any_append, List.any_cons, List.any_nil, Bool.or_false, Bool.or_eq_true,
    beq_iff_eq] at h3
  exact h3.resolve_right fun h3 => hacyc (h3 ▸ h2)

theorem newNode_ext {a : CallArgs} {db0 d : Db} (hnew : hasNode db0 a.node.call = false)
    (hn : d.nodes = db0.nodes ++ [a.node])
    (he : d.edges = db0.edges ++ edgeRows (applyOp db0 (.node a.node)) a.node.call a.children) :
    GraphExt db0 d [a.node] (edgeRows (applyOp db0 (.node a.node)) a.node.call a.children) :=
  ⟨hn, he, fun _ h => List.mem_singleton.1 h ▸ hnew, fun _ h => (mem_edgeRows h).1 ▸ hnew⟩

theorem newEdges_closed {a : CallArgs} {db0 d : Db} (hn : d.nodes = db0.nodes ++ [a.node]) :
    ∀ e ∈ edgeRows (applyOp db0 (.node a.node)) a.node.call a.children,
      hasNode d e.parent = true ∧ hasNode d e.child = true := fun e he =>
  ⟨hasNode_iff.2 ⟨a.node, by rw [hn]; simp, (mem_edgeRows he).1.symm⟩,
    by unfold hasNode; rw [hn]; exact (mem_edgeRows he).2.2⟩

theorem shape_ext {v : Variant} {a : CallArgs} {db0 d : Db} (h : CallNodeSnap v a db0 d ∨ CallNodeBare a db0 d) :
    ∃ ns es, GraphExt db0 d ns es ∧ ∀ n ∈ ns, n = a.node := by
  rcases h with (h | ⟨hnew, hn, he, _⟩ | ⟨_, _, _, hn, he, _⟩) | ⟨hnew, hn, he, _⟩
  · exact ⟨[], [], .of_G h, forall_mem_nil⟩
  · exact ⟨_, _, newNode_ext hnew hn he, fun _ h => List.mem_singleton.1 h⟩
  · exact ⟨[], [], .of_eq hn he, forall_mem_nil⟩
  · exact ⟨_, _, newNode_ext hnew hn he, fun _ h => List.mem_singleton.1 h⟩

/-- what `record_call_node` needs of its arguments: no edge to itself, and the subtree set contains the job's own
task and the task of everything recorded beneath its children (and beneath the node itself, if it is recorded) -/
structure ArgsOk (db : Db) (a : CallArgs) : Prop where
  own : a.node.task ∈ a.subtree
  acyc : a.node.call ∉ a.children
  kids : ∀ ch ∈ a.children, hasNode db ch = true → Covers db ch a.subtree
  self : hasNode db a.node.call = true → Covers db a.node.call a.subtree

theorem graphInv_of_snap {v : Variant} {a : CallArgs} {db0 d : Db} (hI : GraphInv db0) (ha : ArgsOk db0 a)
    (h : CallNodeSnap v a db0 d) : GraphInv d := by
  rcases h with h | ⟨hnew, hn, he, hs⟩ | ⟨_, hnode, _, hn, he, hs⟩
  · exact graphInv_frame hI h
  · -- the new node's rows contain what is recorded beneath its children, and its own task
    have hx := newNode_ext hnew hn he
    refine hI.ext hx hs (newEdges_closed hn) fun r hr => ?_
    obtain ⟨t, -, rfl⟩ := List.mem_map.1 hr
    refine ⟨hasNode_iff.2 ⟨a.node, by rw [hn]; simp, rfl⟩, fun x m hr hm hmx => List.mem_map.2 ⟨_, ?_, rfl⟩⟩
    exact hx.covers_new hI.edges (fun e he' => (mem_newEdges ha.acyc he').2.2) ha.own
      (fun e he' => ha.kids e.child (mem_newEdges ha.acyc he').2.1 (mem_newEdges ha.acyc he').2.2) hr hm hmx
  · -- healing: same graph, the recorded node gets the rows it lacked
    have hx := GraphExt.of_eq hn he
    refine hI.ext hx hs forall_mem_nil fun r hr => ?_
    obtain ⟨t, -, rfl⟩ := List.mem_map.1 hr
    refine ⟨hasNode_append hx.nodes hnode, fun x m hr hm hmx => List.mem_map.2 ⟨_, ?_, rfl⟩⟩
    exact ha.self hnode x m (hx.reach_old hI.edges hnode hr).1 (hn ▸ hm) hmx

theorem snap_of_final {v : Variant} {a : CallArgs} {db0 d : Db} (h : CallNodeFinal v a db0 d) :
    CallNodeSnap v a db0 d := by
  obtain ⟨h1, h2, h3⟩ := h
  cases hn : hasNode db0 a.node.call with
  | false => exact Or.inr (Or.inl ⟨hn, h1 hn⟩)
  | true =>
    by_cases hh : v.healSubtree = true ∧ subtreeOf db0 a.node.call = []
    · exact Or.inr (Or.inr ⟨hh.1, hn, hh.2, h2 hn hh⟩)
    · exact Or.inl (by rw [h3 hn hh])

/-- a crash point of `record_call_node`.  The unrepaired code's intermediate state (node and edges durable, subtree
rows not yet) leaves the node with an EMPTY recorded set, so the invariant holds vacuously for it. -/
theorem graphInv_of_shape {v : Variant} {a : CallArgs} {db0 d : Db} (hI : GraphInv db0) (ha : ArgsOk db0 a)
    (h : CallNodeSnap v a db0 d ∨ CallNodeBare a db0 d) : GraphInv d :=
  h.elim (graphInv_of_snap hI ha) fun ⟨hnew, hn, he, hs⟩ =>
    hI.ext (ss := []) (newNode_ext hnew hn he) (by rw [hs, List.append_nil]) (newEdges_closed hn) forall_mem_nil

/-- what the parent may assume about a finished child job: IF its call hash names a recorded call node (a job that
records no provenance has a call hash but no node), its set covers everything recorded at or beneath that node -/
def GoodRes (db : Db) (r : JobRes) : Prop :=
  ∀ c, r.call = some c → hasNode db c = true → Covers db c r.sub

/-- collision freedom of `hash_call_node`, as far as it is needed: an already recorded node with this call hash
has this task and only child edges to this job's children -/
def MerkleOK (db : Db) (c task : H) (children : List H) : Prop :=
  (∀ m ∈ db.nodes, m.call = c → m.task = task) ∧ (∀ e ∈ db.edges, e.parent = c → e.child ∈ children)

/-- `calc_subtree_tasks` covers every recorded child -/
theorem exec_covers_children (db : Db) (task : H) (children : List JobRes) (hgood : ∀ r ∈ children, GoodRes db r) :
    ∀ ch ∈ children.filterMap (·.call), hasNode db ch = true → Covers db ch (execSubtree task children) := by
  intro ch hmem hnd d m hr hm hmd
  obtain ⟨r, hrmem, hrc⟩ := List.mem_filterMap.1 hmem
  refine List.mem_cons_of_mem _ (List.mem_flatMap.2 ⟨r, hrmem, ?_⟩)
  simp only [hrc, Option.isSome_some, if_true]
  exact hgood r hrmem ch hrc hnd d m hr hm hmd

/-- ... and, if the node is already recorded, the node itself (needs `MerkleOK`) -/
theorem exec_covers_self (db : Db) (c task : H) (children : List JobRes) (hgood : ∀ r ∈ children, GoodRes db r)
    (hec : EdgesClosed db)
    (hm : MerkleOK db c task (children.filterMap (·.call))) : Covers db c (execSubtree task children) := by
  intro d m hr hmn hmd
  cases hr with
  | refl _ => rw [hm.1 m hmn hmd]; simp [execSubtree]
  | step e he hp hc hr' =>
    have := hm.2 e he hp
    exact exec_covers_children db task children hgood e.child this (hec e he).2 d m (hc ▸ hr') hmn hmd

theorem exec_argsOk {db : Db} {node : NodeRow} {children : List JobRes} {args : List ArgSpec}
    (hgood : ∀ r ∈ children, GoodRes db r) (hec : EdgesClosed db) (hacyc : node.call ∉ children.filterMap (·.call))
    (hm : hasNode db node.call = true → MerkleOK db node.call node.task (children.filterMap (·.call))) :
    ArgsOk db ⟨node, children.filterMap (·.call), args, execSubtree node.task children⟩ :=
  ⟨List.mem_cons_self, hacyc, exec_covers_children db node.task children hgood,
    fun hn => exec_covers_self db node.call node.task children hgood hec (hm hn)⟩

theorem covers_ext {db d : Db} {ns : List NodeRow} {es : List EdgeRow} {c : H} {S : List H}
    (hx : GraphExt db d ns es) (hec : EdgesClosed db) (hc : hasNode db c = true) (h : Covers db c S) :
    Covers d c S := fun x m hr hm hmx =>
  let ⟨hro, hxn⟩ := hx.reach_old hec hc hr
  h x m hro (hx.node_old hm (hmx ▸ hxn)) hmx

theorem goodRes_ext {db d : Db} {ns : List NodeRow} {es : List EdgeRow} {r : JobRes}
    (hx : GraphExt db d ns es) (hec : EdgesClosed db) (hfresh : ∀ n ∈ ns, r.call ≠ some n.call)
    (h : GoodRes db r) : GoodRes d r := by
  intro c hc hnd
  have hold : hasNode db c = true := by
    obtain ⟨n, hn, rfl⟩ := hasNode_iff.1 hnd
    rcases List.mem_append.1 (hx.nodes ▸ hn) with hn | hn
    · exact hasNode_iff.2 ⟨n, hn, rfl⟩
    · exact absurd hc (hfresh n hn)
  exact covers_ext hx hec hold (h c hc hold)

theorem goodRes_of_shape {v : Variant} {a : CallArgs} {db0 d : Db} {r : JobRes} (hI : GraphInv db0)
    (hfr : hasNode db0 a.node.call = false → r.call ≠ some a.node.call)
    (h : CallNodeSnap v a db0 d ∨ CallNodeBare a db0 d) (hg : GoodRes db0 r) : GoodRes d r :=
  let ⟨_, _, hx, hns⟩ := shape_ext h
  goodRes_ext hx hI.edges (fun n hn => by have := hx.fresh n hn; rw [hns n hn] at this ⊢; exact hfr this) hg

theorem goodRes_of_covers {db : Db} {c : H} {S : List H} (h : hasNode db c = true → Covers db c S) :
    GoodRes db ⟨some c, S⟩ :=
  fun _ hc hn => by cases hc; exact h hn

theorem resolve_step {v : Variant} {a : CallArgs} {db d : Db} {res : List JobRes} (hI : GraphInv db)
    (hres : ∀ r ∈ res, GoodRes db r) (ha : ArgsOk db a)
    (hfresh : hasNode db a.node.call = false → ∀ r ∈ res, r.call ≠ some a.node.call)
    (hfin : CallNodeFinal v a db d) :
    GraphInv d ∧ ∀ r ∈ res ++ [⟨some a.node.call, a.subtree⟩], GoodRes d r := by
  have hsnap := snap_of_final hfin
  have hI' := graphInv_of_snap hI ha hsnap
  refine ⟨hI', forall_mem_snoc (fun r hr => goodRes_of_shape hI (fun hn => hfresh hn r hr) (Or.inl hsnap) (hres r hr)) ?_⟩
  cases hn : hasNode db a.node.call with
  | false =>
    -- the node is new: its rows are exactly the set, and the invariant speaks about them
    have hrows : subtreeOf d a.node.call = a.subtree := by
      rw [subtreeOf_append (hfin.1 hn).2.2, subtreeOf_nil_of_not_node hI.subs hn]; rfl
    refine goodRes_of_covers fun _ x m hr hm hmx => ?_
    have := hI'.inv a.node.call x m (by rw [hrows]; exact List.ne_nil_of_mem ha.own) hr hm hmx
    rwa [hrows] at this
  | true =>
    exact goodRes_of_shape hI (fun h0 => by rw [hn] at h0; cases h0) (Or.inl hsnap) (goodRes_of_covers ha.self)

theorem frame_step {d : Db} {res : List JobRes} {s s' : Sess} (hI : GraphInv s.db ∧ ∀ r ∈ res, GoodRes s.db r)
    (h : Framed s s') (hp : s.pend = []) (hl : s.log = []) (hd : d = s'.db ∨ d ∈ s'.log.map (·.db)) :
    GraphInv d ∧ ∀ r ∈ res, GoodRes d r :=
  have hg := ((h.opOK hp).durable hl hd).1
  ⟨graphInv_frame hI.1 hg, fun r hr => goodRes_ext (.of_G hg) hI.1.edges forall_mem_nil (hI.2 r hr)⟩

theorem cached_good {v : Variant} {db : Db} {reg : List H} {task c : H} {shallow : Bool}
    (hv : v.cseSubtreeFromDb = true) (hI : GraphInv db) (hne : subtreeOf db c ≠ [])
    (hreg : ∀ t ∈ subtreeOf db c, t ∈ reg) : GoodRes db ⟨some c, cachedSubtree v db reg task shallow c⟩ := by
  intro c' hc' _ d m hr hm hmd
  simp only [Option.some.injEq] at hc'
  subst hc'
  have := hI.inv c d m hne hr hm hmd
  simp only [cachedSubtree, hv, if_true, List.mem_cons, List.mem_filter]
  exact Or.inr ⟨this, by simpa using hreg _ this⟩

end RedunModel.C03
