/-
Lemmas about the chain-workflow model of `RedunModel.Model.Handles` (`runTask`, `runChain`, `runExecs`):
the handle states form a tree (a state is derived from the state it forks or from the fork a task received), and
the invariant `J` (valid states lie on the chain the external system reflects; every valid state's parent is
valid and linked) is kept by fork, rollback, call and process death — for the repaired and for the unrepaired
backend.
-/
import RedunModel.Lemmas.Handles
namespace RedunModel.Handles
open List

def HT.parent : HT → Option HT
  | .init _ => none
  | .fork p _ => some p
  | .call p _ => some p

def HT.tasks : HT → List String
  | .init _ => []
  | .fork p _ => p.tasks
  | .call p t => p.tasks ++ [t]

inductive Anc : HT → HT → Prop where
  | parent {a b : HT} : b.parent = some a → Anc a b
  | step {a b c : HT} : Anc a b → c.parent = some b → Anc a c

theorem Anc.irrefl {a : HT} : ¬ Anc a a := by
  have lt : ∀ {a b : HT}, b.parent = some a → sizeOf a < sizeOf b := by
    intro a b h
    cases b <;> simp only [HT.parent, Option.some.injEq, reduceCtorEq] at h <;> subst h <;> simp +arith
  have : ∀ {a b : HT}, Anc a b → sizeOf a < sizeOf b := by
    intro a b h
    induction h with
    | parent h => exact lt h
    | step _ h ih => exact Nat.lt_trans ih (lt h)
  exact fun h => Nat.lt_irrefl _ (this h)

section Chain
variable (name k : String)

/-- the handle state after the tasks `rp` (last task first) -/
def nodeR : List String → HT
  | [] => .init name
  | t :: rp => .call (.fork (nodeR rp) k) t

/-- the handle state after the chain of tasks `p`, and its fork (the argument of the next task) -/
def node (p : List String) : HT := nodeR name k p.reverse
abbrev fk (p : List String) : HT := .fork (node name k p) k

theorem node_nil : node name k [] = .init name := rfl

theorem node_snoc (p : List String) (t : String) : node name k (p ++ [t]) = .call (fk name k p) t := by
  simp [node, fk, nodeR, reverse_append]

theorem node_name (p : List String) : (node name k p).name = name := by
  unfold node
  induction p.reverse with
  | nil => rfl
  | cons t r ih => exact ih

theorem node_tasks (p : List String) : (node name k p).tasks = p := by
  have : ∀ rp, (nodeR name k rp).tasks = rp.reverse := by
    intro rp
    induction rp with
    | nil => rfl
    | cons t rp ih => simp only [nodeR, HT.tasks, ih, reverse_cons]
  rw [node, this, reverse_reverse]

theorem anc_fk {p q : List String} (hpq : p <+: q) (hl : p.length < q.length) {x : HT}
    (hx : x = node name k q ∨ x = fk name k q) : Anc (fk name k p) x := by
  have : ∀ rq, p.reverse <:+ rq → p.reverse ≠ rq → Anc (fk name k p) (nodeR name k rq) := by
    intro rq
    induction rq with
    | nil => intro h1 h2; exact absurd (suffix_nil.1 h1) h2
    | cons t rq ih =>
      intro h1 h2
      rcases suffix_cons_iff.1 h1 with h1 | h1
      · exact absurd h1 h2
      · by_cases h3 : p.reverse = rq
        · subst h3; exact .parent rfl
        · exact .step (.step (ih h1 h3) rfl) rfl
  have hn := this q.reverse (reverse_suffix.2 hpq) fun h => by
    rw [reverse_inj] at h; subst h; omega
  rcases hx with rfl | rfl
  · exact hn
  · exact .step hn rfl

end Chain

section ChainInv
variable (name k : String)

def OnChain (cur : List String) (x : HT) : Prop := ∃ p, p <+: cur ∧ (x = node name k p ∨ x = fk name k p)

theorem OnChain.name_eq {cur : List String} {x : HT} (h : OnChain name k cur x) : x.name = name := by
  obtain ⟨p, _, rfl | rfl⟩ := h <;> exact node_name name k p

/-- Invariant of the backend tables while the scheduler runs chain workflows on `Handle(name)`; `cur` is the chain
of tasks the external system currently reflects. -/
structure J (st : St HT) (cur : List String) : Prop where
  rowName : ∀ p ∈ keys st.rows, p.2 = name
  edgeShape : ∀ a b, (a, b) ∈ st.edges → b.parent = some a
  onChain : ∀ x, st.isValid x = true → OnChain name k cur x
  parent : ∀ a b, b.parent = some a → st.isValid b = true → st.isValid a = true ∧ (a, b) ∈ st.edges

theorem J_init : J name k ({} : St HT) [] := by
  constructor <;> simp [St.isValid, keys]

variable {name k} {st : St HT} {cur : List String}

theorem J.weaken {cur' : List String} (h : J name k st cur) (hp : cur <+: cur') : J name k st cur' :=
  ⟨h.rowName, h.edgeShape, fun x hx => let ⟨p, hp1, hp2⟩ := h.onChain x hx; ⟨p, hp1.trans hp, hp2⟩, h.parent⟩

theorem J.closed (h : J name k st cur) : Closed st :=
  fun a b hab hb => (h.parent a b (h.edgeShape a b hab) hb).1

theorem J.prefix_of_valid (h : J name k st cur) {q : List String} (hv : st.isValid (node name k q) = true) : q <+: cur := by
  obtain ⟨p, hp, hx⟩ := h.onChain _ hv
  have : q = p := by
    rcases hx with hx | hx <;> simpa [fk, HT.tasks, node_tasks] using congrArg HT.tasks hx
  exact this ▸ hp

theorem J.joined (fixed : Bool) (h : J name k st cur) {a b : HT} (he : (a, b) ∈ st.edges) (ha : st.isValid a = true) :
    (a, b) ∈ st.joined fixed name :=
  joined_of_valid fixed he ha fun _ hn => h.rowName _ hn

/-- among the valid states, either search from `a` finds exactly those below `a` in the tree — also the unrepaired
search, because the states in between are valid all the way up -/
theorem J.desc_iff_anc (fixed : Bool) (h : J name k st cur) {a x : HT} (hx : st.isValid x = true) :
    Desc (st.joined fixed name) a x ↔ Anc a x := by
  refine ⟨fun hd => ?_, fun hax => ?_⟩
  · clear hx
    induction hd with
    | edge he => exact .parent (h.edgeShape _ _ (mem_joined.1 he).1)
    | step _ he ih => exact .step ih (h.edgeShape _ _ (mem_joined.1 he).1)
  · induction hax with
    | parent hp =>
      obtain ⟨h1, h2⟩ := h.parent _ _ hp hx
      exact .edge (h.joined fixed h2 h1)
    | step _ hp ih =>
      obtain ⟨h1, h2⟩ := h.parent _ _ hp hx
      exact .step (ih h1) (h.joined fixed h2 h1)

/-- `advance_handle([a], c)` for a recorded parent `a` of which `c` is derived, both on the chain: the fork recorded by
`_preprocess_args`, the result recorded by `_postprocess_result` -/
theorem J.advance (fixed : Bool) (h : J name k st cur) {a c : HT} (hac : c.parent = some a)
    (ha : OnChain name k cur a) (hc : OnChain name k cur c) (hv : a.parent = none ∨ st.isValid a = true) :
    J name k (st.advance fixed [⟨a.ref, true, []⟩] c.ref) cur ∧ (st.advance fixed [⟨a.ref, true, []⟩] c.ref).isValid c = true := by
  have hval : ∀ x, (st.advance fixed [⟨a.ref, true, []⟩] c.ref).isValid x = true ↔ st.isValid x = true ∨ x = c ∨ x = a := by
    intro x; rw [isValid_advance]; simp [touched, touchedRefs, skipped, HT.ref]
  have hedge : ∀ e, e ∈ (st.advance fixed [⟨a.ref, true, []⟩] c.ref).edges ↔ e ∈ st.edges ∨ e = (a, c) := by
    intro e; rw [mem_edges_advance]; cases fixed <;> simp [recordedEdges, skipped, HT.ref]
  have hkeys : ∀ p ∈ keys (st.advance fixed [⟨a.ref, true, []⟩] c.ref).rows, p ∈ keys st.rows ∨ p = (c, c.name) ∨ p = (a, a.name) := by
    intro p hp
    simpa [touchedRefs, skipped, HT.ref] using (keys_foldl_touch _ _).2 hp
  generalize st.advance fixed [⟨a.ref, true, []⟩] c.ref = st' at hval hedge hkeys ⊢
  refine ⟨⟨fun p hp => ?_, fun x y hxy => ?_, fun x hx => ?_, fun x y hxy hy => ?_⟩, (hval c).2 (.inr (.inl rfl))⟩
  · rcases hkeys p hp with h1 | rfl | rfl
    · exact h.rowName p h1
    · exact hc.name_eq
    · exact ha.name_eq
  · rcases (hedge _).1 hxy with h1 | h1
    · exact h.edgeShape _ _ h1
    · cases h1; exact hac
  · rcases (hval x).1 hx with h1 | rfl | rfl
    · exact h.onChain x h1
    · exact hc
    · exact ha
  · have old : st.isValid y = true → st'.isValid x = true ∧ (x, y) ∈ st'.edges := fun h1 =>
      let ⟨h2, h3⟩ := h.parent x y hxy h1
      ⟨(hval x).2 (.inl h2), (hedge _).2 (.inl h3)⟩
    rcases (hval y).1 hy with h1 | rfl | rfl
    · exact old h1
    · cases hac.symm.trans hxy
      exact ⟨(hval _).2 (.inr (.inr rfl)), (hedge _).2 (.inr rfl)⟩
    · rcases hv with hv | hv
      · rw [hv] at hxy; cases hxy
      · exact old hv

/-- `_perform_rollbacks` on the fork of `node p`: afterwards every valid state lies on the chain up to `p` (`J … p`: the
task about to run overwrites what the external system holds deeper down), and the fork itself is still valid -/
theorem J.rollback (fixed : Bool) {p : List String} (h : J name k st cur) (hp : p <+: cur)
    (hv : st.isValid (fk name k p) = true) :
    ∃ st', st.rollback fixed (fk name k p).ref = .ok st' ∧ J name k st' p ∧ st'.isValid (fk name k p) = true := by
  obtain ⟨st', hrb, he, hk, hval⟩ := rollback_spec fixed st (fk name k p).ref
  rw [show (fk name k p).ref.name = name from node_name name k p] at hval
  refine ⟨st', hrb, ⟨hk ▸ h.rowName, he ▸ h.edgeShape, fun x hx => ?_, fun a b hab hb => ?_⟩,
    (hval _).2 ⟨hv, fun hd => Anc.irrefl ((h.desc_iff_anc fixed hv).1 hd)⟩⟩
  · obtain ⟨hx1, hx2⟩ := (hval x).1 hx
    obtain ⟨q, hq, hxq⟩ := h.onChain x hx1
    refine ⟨q, ?_, hxq⟩
    -- `p` and `q` are prefixes of `cur`; were `q` the longer one, `x` would lie below the fork
    rcases Nat.lt_or_ge p.length q.length with hl | hl
    · exact absurd ((h.desc_iff_anc fixed hx1).2
        (anc_fk name k (prefix_of_prefix_length_le hp hq (Nat.le_of_lt hl)) hl hxq)) hx2
    · exact prefix_of_prefix_length_le hq hp hl
  · obtain ⟨hb1, hb2⟩ := (hval b).1 hb
    obtain ⟨h1, h2⟩ := h.parent a b hab hb1
    exact ⟨(hval a).2 ⟨h1, fun hd => hb2 (.step hd (h.joined fixed h2 h1))⟩, he ▸ h2⟩

end ChainInv

section ChainRun
variable (name k : String)

/-- the start of a job of the chain: the argument state `node p` is forked and the fork recorded -/
theorem J.fork (fixed : Bool) {st : St HT} {cur p : List String} (h : J name k st cur) (hp : p <+: cur)
    (hv : p = [] ∨ st.isValid (node name k p) = true) :
    J name k (st.advance fixed [⟨(node name k p).ref, true, []⟩] (fk name k p).ref) cur ∧
      (st.advance fixed [⟨(node name k p).ref, true, []⟩] (fk name k p).ref).isValid (fk name k p) = true :=
  h.advance fixed rfl ⟨p, hp, .inl rfl⟩ ⟨p, hp, .inr rfl⟩ (hv.imp (fun h => by rw [h]; rfl) id)

/-- the chain has been evaluated up to `p`: the tables are right, the external system reflects at least `p`, and the
state after `p` is valid (for the empty chain nothing need be recorded yet) -/
structure UpTo (w : WSt) (p : List String) : Prop where
  inv : J name k w.st w.ext
  pre : p <+: w.ext
  valid : p = [] ∨ w.st.isValid (node name k p) = true

theorem runTask_spec (fixed : Bool) (w : WSt) (p : List String) (t : String) (h : UpTo name k w p) :
    ∃ w' ran, runTask fixed k w p.length t (node name k p) = .ok (w', node name k (p ++ [t]), ran) ∧
      UpTo name k w' (p ++ [t]) := by
  obtain ⟨h1, hfv⟩ := h.inv.fork name k fixed h.pre h.valid
  unfold runTask
  simp only
  rw [← node_snoc name k p t]
  split
  · next hhit => exact ⟨_, false, rfl, h1, h1.prefix_of_valid hhit.2, .inr hhit.2⟩
  · obtain ⟨st2, hrb, hj2, hv2⟩ := h1.rollback fixed h.pre hfv
    rw [hrb]
    simp only [← prefix_iff_eq_take.1 h.pre]
    -- `_postprocess_result`: the result state is derived from the fork and recorded
    obtain ⟨hj3, hv3⟩ := (hj2.weaken (prefix_append p [t])).advance fixed (c := node name k (p ++ [t]))
      (by rw [node_snoc]; rfl) ⟨p, prefix_append p [t], .inr rfl⟩ ⟨_, prefix_refl _, .inl rfl⟩ (.inr hv2)
    exact ⟨_, true, rfl, hj3, prefix_refl _, .inr hv3⟩

theorem runChain_spec (fixed : Bool) (ts : List String) (w : WSt) (p : List String) (ran : List String)
    (h : UpTo name k w p) :
    ∃ w' ran', runChain fixed k w p.length ts (node name k p) ran = .ok (w', node name k (p ++ ts), ran') ∧
      UpTo name k w' (p ++ ts) := by
  induction ts generalizing w p ran with
  | nil => exact ⟨w, ran, by simp [runChain], by simpa using h⟩
  | cons t ts ih =>
    obtain ⟨w1, didRun, hrt, h1⟩ := runTask_spec name k fixed w p t h
    obtain ⟨w2, ran2, hrc, h2⟩ := ih w1 (p ++ [t]) (if didRun then ran ++ [t] else ran) h1
    rw [length_append, append_assoc] at hrc
    exact ⟨w2, ran2, by simp only [runChain, hrt]; exact hrc, append_assoc p [t] ts ▸ h2⟩

/-- in the code's order the rollbacks of all handle states among the arguments are committed before the task
function is entered -/
theorem enterTask_early {fixed : Bool} {d d' : DB} {fs : List (HRef HT)} (h : enterTask fixed true d fs = .ok d') :
    ∃ s, d.rollbackAll fixed fs = .ok s ∧ d' = s.commit := by
  unfold enterTask at h
  simp only [if_true] at h
  cases hr : d.rollbackAll fixed fs with
  | error e => simp [hr] at h
  | ok s => exact ⟨s, rfl, by simpa [hr] using h.symm⟩

/-- `_perform_rollbacks` (repaired backend): what is valid afterwards was valid before and is derived from NONE of the
handle states among the arguments — two states of one handle name are rolled back separately -/
theorem rollbackAll_spec (fs : List (HRef HT)) (d d' : DB) (h : d.rollbackAll true fs = .ok d') (y : HT)
    (hy : d'.ses.isValid y = true) :
    d.ses.isValid y = true ∧ ∀ f ∈ fs, ¬ Desc (d.ses.joined true f.name) f.hash y := by
  induction fs generalizing d with
  | nil => cases h; exact ⟨hy, fun _ hf => nomatch hf⟩
  | cons f fs ih =>
    obtain ⟨s, hrb, he, hk, hv⟩ := rollback_spec true d.ses f
    simp only [DB.rollbackAll, DB.rollback, hrb] at h
    obtain ⟨h1, h2⟩ := ih _ h
    obtain ⟨h3, h4⟩ := (hv y).1 h1
    -- the rows' keys and the edges are those of `d`, so is the repaired join
    exact ⟨h3, forall_mem_cons.2 ⟨h4, fun g hg hd =>
      h2 g hg (hd.mono fun e => by simp only [mem_joined_true, he, hk]; exact id)⟩⟩

/-- the job of `runTask` killed right after its task started writing (code's order): the next process finds the
rollback done and nothing recorded for the task -/
theorem crashTask_spec (fixed : Bool) (w : WSt) (p : List String) (t : String) (h : UpTo name k w p) :
    ∃ w' started, crashTask fixed true k w p.length t (node name k p) = .ok (w', started) ∧
      J name k w'.st w'.ext ∧ (started = false → UpTo name k w' (p ++ [t])) := by
  obtain ⟨h1, hfv⟩ := h.inv.fork name k fixed h.pre h.valid
  unfold crashTask
  simp only
  rw [← node_snoc name k p t]
  split
  · next hhit => exact ⟨_, false, rfl, h1, fun _ => ⟨h1, h1.prefix_of_valid hhit.2, .inr hhit.2⟩⟩
  · obtain ⟨st2, hrb, hj2, _⟩ := h1.rollback fixed h.pre hfv
    simp only [enterTask, DB.rollbackAll, DB.rollback, DB.advance, if_true, hrb, DB.commit, DB.crash, ← prefix_iff_eq_take.1 h.pre]
    exact ⟨_, true, rfl, hj2.weaken (prefix_append p [t]), fun h => by cases h⟩

theorem runChainCrash_spec (fixed : Bool) (ts : List String) (w : WSt) (p : List String) (cd : Nat)
    (h : UpTo name k w p) :
    ∃ w', runChainCrash fixed true k w p.length ts (node name k p) cd = .ok w' ∧ J name k w'.st w'.ext := by
  induction ts generalizing w p cd with
  | nil => exact ⟨w, by simp [runChainCrash], h.inv⟩
  | cons t ts ih =>
    cases cd with
    | zero =>
      obtain ⟨w1, started, hc, hj1, hcont⟩ := crashTask_spec name k fixed w p t h
      cases started with
      | true => exact ⟨w1, by simp only [runChainCrash, hc], hj1⟩
      | false =>
        obtain ⟨w2, ran, hrc, h2⟩ := runChain_spec name k fixed ts w1 (p ++ [t]) [] (hcont rfl)
        rw [length_append, node_snoc, length_singleton] at hrc
        exact ⟨w2, by simp only [runChainCrash, hc, hrc], h2.inv⟩
    | succ cd =>
      obtain ⟨w1, didRun, hrt, h1⟩ := runTask_spec name k fixed w p t h
      obtain ⟨w2, hrc, hj2⟩ := ih w1 (p ++ [t]) cd h1
      rw [length_append] at hrc
      exact ⟨w2, by simp only [runChainCrash, hrt]; exact hrc, hj2⟩

end ChainRun

theorem runExecs_ok (fixed early : Bool) (name : String) (runs : List (List String)) (w : WSt) :
    runExecs fixed early name w (runs.map .ok) = runWorkflows fixed name w runs := by
  induction runs generalizing w with
  | nil => rfl
  | cons ts rest ih =>
    simp only [map_cons, runExecs, runWorkflows]
    cases runWorkflow fixed w name ts with
    | error e => rfl
    | ok r => exact ih _

theorem runWorkflow_spec (fixed : Bool) (name : String) (w : WSt) (ts : List String) (h : J name "1" w.st w.ext) :
    ∃ w' ran, runWorkflow fixed w name ts = .ok (w', node name "1" ts, ran) ∧ UpTo name "1" w' ts :=
  runChain_spec name "1" fixed ts w [] [] ⟨h, nil_prefix, .inl rfl⟩

theorem runExecs_spec (fixed : Bool) (name : String) (execs : List Exec) (w : WSt) (h : J name "1" w.st w.ext) :
    ∃ w', runExecs fixed true name w execs = .ok w' ∧ J name "1" w'.st w'.ext := by
  induction execs generalizing w with
  | nil => exact ⟨w, rfl, h⟩
  | cons e rest ih =>
    cases e with
    | ok ts =>
      obtain ⟨w1, ran, hrc, h1⟩ := runWorkflow_spec fixed name w ts h
      obtain ⟨w2, h2, hj2⟩ := ih w1 h1.inv
      exact ⟨w2, by simp only [runExecs, hrc, h2], hj2⟩
    | killed ts cd =>
      obtain ⟨w1, hrc, hj1⟩ := runChainCrash_spec name "1" fixed ts w [] cd ⟨h, nil_prefix, .inl rfl⟩
      obtain ⟨w2, h2, hj2⟩ := ih w1 hj1
      exact ⟨w2, by simp only [runExecs]; rw [show runChainCrash fixed true "1" w 0 ts (.init name) cd = _ from hrc]; exact h2, hj2⟩

end RedunModel.Handles
