/-
Lemmas for `RedunModel.Model.Handles`: `rollback_handle`'s search (termination within the fuel, result =
descendants in the joined relation), the effect of `advance_handle` and `rollback_handle` on validity, edges and
the keys of the rows, the refinement of the reference lineage model by the repaired backend, and the agreement
of the unrepaired search with the repaired one on ancestor-closed states.  Property theorems are in
`RedunModel.Props.C25`.
-/
import RedunModel.Model.Handles
import RedunModel.Lemmas.ListAux
namespace RedunModel.Handles
open List

set_option linter.unusedSectionVars false
variable {H : Type} [DecidableEq H]

theorem mem_childrenIn {pairs : List (H × H)} {x c : H} : c ∈ childrenIn pairs x ↔ (x, c) ∈ pairs := by
  simp [childrenIn]

theorem dfs_least (pairs : List (H × H)) (S : H → Prop) (hS : ∀ x c, (x, c) ∈ pairs → S x → S c) :
    ∀ (f : Nat) (q vis res : List H), dfs pairs f q vis = some res → (∀ x ∈ vis, S x) → (∀ x ∈ q, S x) → ∀ y ∈ res, S y
  | 0, _, _, _, h, _, _ => by simp [dfs] at h
  | f + 1, [], vis, res, h, hv, _ => by
    simp only [dfs, Option.some.injEq] at h
    exact h ▸ hv
  | f + 1, x :: q, vis, res, h, hv, hq => by
    obtain ⟨hx, hq⟩ := forall_mem_cons.1 hq
    simp only [dfs] at h
    split at h
    · exact dfs_least pairs S hS f q vis res h hv hq
    · refine dfs_least pairs S hS f _ _ res h (forall_mem_cons.2 ⟨hx, hv⟩) fun y hy => ?_
      rcases mem_append.1 hy with hy | hy
      · exact hS x y (mem_childrenIn.1 (mem_reverse.1 hy)) hx
      · exact hq y hy

theorem dfs_closed (pairs : List (H × H)) :
    ∀ (f : Nat) (q vis res : List H), dfs pairs f q vis = some res →
      vis ⊆ res ∧ q ⊆ res ∧ ∀ y ∈ res, y ∈ vis ∨ childrenIn pairs y ⊆ res
  | 0, _, _, _, h => by simp [dfs] at h
  | f + 1, [], vis, res, h => by
    simp only [dfs, Option.some.injEq] at h
    subst h
    exact ⟨Subset.refl _, nil_subset _, fun y hy => .inl hy⟩
  | f + 1, x :: q, vis, res, h => by
    simp only [dfs] at h
    split at h
    · next hx =>
      obtain ⟨h1, h2, h3⟩ := dfs_closed pairs f q vis res h
      exact ⟨h1, cons_subset.2 ⟨h1 hx, h2⟩, h3⟩
    · obtain ⟨h1, h2, h3⟩ := dfs_closed pairs f _ _ res h
      obtain ⟨hx, h1⟩ := cons_subset.1 h1
      obtain ⟨hc, h2⟩ := append_subset.1 h2
      refine ⟨h1, cons_subset.2 ⟨hx, h2⟩, fun y hy => ?_⟩
      rcases h3 y hy with h4 | h4
      · rcases mem_cons.1 h4 with rfl | h4
        · exact .inr (reverse_subset.1 hc)
        · exact .inl h4
      · exact .inr h4

theorem dfs_desc (pairs : List (H × H)) (h : H) (f : Nat) (res : List H)
    (hd : dfs pairs f (childrenIn pairs h).reverse [] = some res) (y : H) : y ∈ res ↔ Desc pairs h y := by
  constructor
  · exact dfs_least pairs (Desc pairs h) (fun x c hc hx => .step hx hc) _ _ _ _ hd (by simp)
      (fun c hc => .edge (mem_childrenIn.1 (mem_reverse.1 hc))) y
  · obtain ⟨_, h2, h3⟩ := dfs_closed pairs _ _ _ _ hd
    intro hy
    induction hy with
    | edge he => exact h2 (mem_reverse.2 (mem_childrenIn.2 he))
    | step _ he ih => exact (h3 _ ih).resolve_left not_mem_nil (mem_childrenIn.2 he)

theorem filter_count_visit (pairs : List (H × H)) (x : H) (vis : List H) (hx : x ∉ vis) :
    (pairs.filter fun e => decide (e.1 ∉ vis)).length =
      (pairs.filter fun e => decide (e.1 ∉ x :: vis)).length + (childrenIn pairs x).length := by
  -- the edges out of unvisited vertices: those out of `x`, and those out of the vertices still unvisited after `x`
  have h := length_eq_countP_add_countP (fun e : H × H => decide (e.1 = x)) (l := pairs.filter fun e => decide (e.1 ∉ vis))
  simp only [countP_eq_length_filter, filter_filter] at h
  rw [h, childrenIn, length_map, Nat.add_comm]
  congr 3 <;> funext e <;> by_cases h1 : e.1 = x <;> simp [h1, hx]

/-- the loop ends within the fuel `St.rollback` gives it: `|queue| + |edges out of unvisited vertices|` goes
down with every iteration -/
theorem dfs_total (pairs : List (H × H)) (q : List H) : ∃ res, dfs pairs (pairs.length + q.length + 1) q [] = some res := by
  have aux : ∀ f q vis, q.length + (pairs.filter fun e => decide (e.1 ∉ vis)).length < f → ∃ res, dfs pairs f q vis = some res := by
    intro f
    induction f with
    | zero => omega
    | succ f ih =>
      intro q vis hf
      cases q with
      | nil => exact ⟨vis, by simp [dfs]⟩
      | cons x q =>
        simp only [dfs]
        split
        · exact ih q vis (by simp only [length_cons] at hf; omega)
        · next hx =>
          apply ih
          have := filter_count_visit pairs x vis hx
          simp only [length_append, length_reverse, length_cons] at hf ⊢
          omega
  have := length_filter_le (fun e : H × H => decide (e.1 ∉ ([] : List H))) pairs
  exact aux _ q [] (by omega)

/-- `is_valid_handle` on the rows of table `handle` -/
def validIn (rows : List (Row H)) (x : H) : Bool :=
  match rows.find? (fun r => decide (r.hash = x)) with
  | some r => r.valid
  | none => false

theorem isValid_eq (st : St H) (x : H) : st.isValid x = validIn st.rows x := rfl

/-- hash and fullname of the rows: `advance_handle` only adds to them, `rollback_handle` leaves them alone -/
def keys (rows : List (Row H)) : List (H × String) := rows.map fun r => (r.hash, r.name)

theorem keys_map (f : Row H → Row H) (hf : ∀ r, (f r).hash = r.hash ∧ (f r).name = r.name) (rows : List (Row H)) :
    keys (rows.map f) = keys rows := by
  simp only [keys, map_map]
  congr 1; funext r
  simp only [Function.comp, hf]

theorem mem_keys {rows : List (Row H)} {a : H} {n : String} : (a, n) ∈ keys rows ↔ ∃ r ∈ rows, r.hash = a ∧ r.name = n := by
  simp [keys]

theorem isValid_row {st : St H} {x : H} (h : st.isValid x = true) : ∃ r ∈ st.rows, r.hash = x ∧ r.valid = true := by
  unfold St.isValid at h
  split at h
  · next r hf => exact ⟨r, mem_of_find?_eq_some hf, by simpa using find?_some hf, h⟩
  · cases h

theorem validIn_map (f : Row H → Row H) (hf : ∀ r, (f r).hash = r.hash) (rows : List (Row H)) (x : H) :
    validIn (rows.map f) x = match rows.find? (fun r => decide (r.hash = x)) with
      | some r => (f r).valid
      | none => false := by
  have hc : ((fun r : Row H => decide (r.hash = x)) ∘ f) = fun r => decide (r.hash = x) := by
    funext r; simp only [Function.comp, hf]
  unfold validIn
  rw [find?_map, hc]
  cases rows.find? (fun r => decide (r.hash = x)) <;> rfl

theorem validIn_map_inv (rows : List (Row H)) (res : List H) (x : H) :
    validIn (rows.map fun r => if r.hash ∈ res then { r with valid := false } else r) x =
      (validIn rows x && decide (x ∉ res)) := by
  rw [validIn_map _ (fun r => by split <;> rfl), validIn]
  cases hf : rows.find? (fun r => decide (r.hash = x)) with
  | none => rfl
  | some r =>
    have hx : r.hash = x := by simpa using find?_some hf
    subst hx
    by_cases hm : r.hash ∈ res <;> simp [hm]

theorem validIn_touchRows (rows : List (Row H)) (h : HRef H) (x : H) :
    validIn (touchRows rows h) x = (decide (x = h.hash) || validIn rows x) := by
  unfold touchRows
  split
  · next hany =>
    rw [validIn_map _ (fun r => by split <;> rfl), validIn]
    cases hf : rows.find? (fun r => decide (r.hash = x)) with
    | none =>
      -- `h.hash` has a row, `x` has none
      obtain ⟨r, hr, hrh⟩ := any_eq_true.1 hany
      have hx : x ≠ h.hash := by
        rintro rfl
        exact find?_eq_none.1 hf r hr hrh
      simp [hx]
    | some r =>
      have hx : r.hash = x := by simpa using find?_some hf
      subst hx
      by_cases hm : r.hash = h.hash <;> simp [hm]
  · next hany =>
    have hnone : rows.find? (fun r => decide (r.hash = h.hash)) = none :=
      find?_eq_none.2 fun r hr hrh => hany (any_eq_true.2 ⟨r, hr, hrh⟩)
    unfold validIn
    rw [find?_append]
    by_cases hx : x = h.hash
    · subst hx; simp [hnone]
    · cases rows.find? (fun r => decide (r.hash = x)) <;> simp [hx, Ne.symm hx]

theorem keys_touchRows (rows : List (Row H)) (h : HRef H) :
    keys (touchRows rows h) = keys rows ∨ keys (touchRows rows h) = keys rows ++ [(h.hash, h.name)] := by
  unfold touchRows
  split
  · exact .inl (keys_map _ (fun r => by split <;> exact ⟨rfl, rfl⟩) rows)
  · right; simp [keys]

theorem keys_foldl_touch (refs : List (HRef H)) (rows : List (Row H)) :
    keys rows ⊆ keys (refs.foldl touchRows rows) ∧
      keys (refs.foldl touchRows rows) ⊆ keys rows ++ refs.map fun h => (h.hash, h.name) := by
  induction refs generalizing rows with
  | nil => simp
  | cons h hs ih =>
    obtain ⟨i1, i2⟩ := ih (touchRows rows h)
    rcases keys_touchRows rows h with e | e <;> rw [e] at i1 i2
    · exact ⟨i1, i2.trans (by simp)⟩
    · exact ⟨(subset_append_left _ _).trans i1, i2.trans (by simp)⟩

theorem mem_foldl_addE {es edges : List (H × H)} {x : H × H} : x ∈ es.foldl addE edges ↔ x ∈ edges ∨ x ∈ es :=
  mem_foldl_append_new

theorem validIn_foldl_touch (refs : List (HRef H)) (rows : List (Row H)) (x : H) :
    validIn (refs.foldl touchRows rows) x = true ↔ validIn rows x = true ∨ x ∈ refs.map (·.hash) := by
  induction refs generalizing rows with
  | nil => simp
  | cons h hs ih =>
    simp only [foldl_cons, ih, validIn_touchRows, map_cons, mem_cons, Bool.or_eq_true, decide_eq_true_eq]
    rw [or_comm (a := x = h.hash), or_assoc]

theorem isValid_advance (fixed : Bool) (st : St H) (ps : List (Parent H)) (c : HRef H) (x : H) :
    (st.advance fixed ps c).isValid x = true ↔ st.isValid x = true ∨ x ∈ touched ps c :=
  validIn_foldl_touch _ _ x

theorem mem_edges_advance {fixed : Bool} {st : St H} {ps : List (Parent H)} {c : HRef H} {e : H × H} :
    e ∈ (st.advance fixed ps c).edges ↔ e ∈ st.edges ∨ e ∈ recordedEdges fixed ps c :=
  mem_foldl_addE

theorem mem_touched {ps : List (Parent H)} {c : HRef H} {a : H} :
    a ∈ touched ps c ↔ (∃ p ∈ skipped ps, a ∈ p.forkChain.map (·.hash)) ∨ a = c.hash ∨ a ∈ ps.map (·.ref.hash) := by
  simp only [touched, touchedRefs, map_append, map_cons, map_flatMap, map_map, mem_append, mem_cons, mem_flatMap]
  rfl

theorem chainEdges_mem {ref : HRef H} {chain : List (HRef H)} {a b : H} (h : (a, b) ∈ chainEdges ref chain) :
    a ∈ chain.map (·.hash) ∧ b ∈ (ref :: chain).map (·.hash) := by
  induction chain generalizing ref with
  | nil => simp [chainEdges] at h
  | cons fp rest ih =>
    simp only [chainEdges, mem_cons, Prod.mk.injEq] at h
    rcases h with ⟨rfl, rfl⟩ | h
    · simp
    · obtain ⟨h1, h2⟩ := ih h
      exact ⟨mem_cons_of_mem _ h1, mem_cons_of_mem _ h2⟩

theorem recordedEdges_touched {fixed : Bool} {ps : List (Parent H)} {c : HRef H} {a b : H}
    (h : (a, b) ∈ recordedEdges fixed ps c) : a ∈ touched ps c ∧ b ∈ touched ps c := by
  simp only [mem_touched]
  rcases mem_append.1 h with h | h
  · obtain ⟨p, hp, h⟩ := mem_map.1 h
    cases h
    exact ⟨.inr (.inr (mem_map_of_mem hp)), .inr (.inl rfl)⟩
  · split at h
    · obtain ⟨p, hp, hce⟩ := mem_flatMap.1 h
      obtain ⟨ha, hb⟩ := chainEdges_mem hce
      refine ⟨.inl ⟨p, hp, ha⟩, ?_⟩
      rcases mem_cons.1 hb with rfl | hb
      · exact .inr (.inr (mem_map_of_mem (mem_filter.1 hp).1))
      · exact .inl ⟨p, hp, hb⟩
    · cases h

theorem rollback_spec (fixed : Bool) (st : St H) (h : HRef H) :
    ∃ st', st.rollback fixed h = .ok st' ∧ st'.edges = st.edges ∧ keys st'.rows = keys st.rows ∧
      ∀ y, st'.isValid y = true ↔ st.isValid y = true ∧ ¬ Desc (st.joined fixed h.name) h.hash y := by
  obtain ⟨res, hres⟩ := dfs_total (st.joined fixed h.name) (childrenIn (st.joined fixed h.name) h.hash).reverse
  have hrb : st.rollback fixed h = .ok { st with rows := st.rows.map fun r => if r.hash ∈ res then { r with valid := false } else r } := by
    unfold St.rollback; simp only [hres]
  refine ⟨_, hrb, rfl, keys_map _ (fun r => by split <;> exact ⟨rfl, rfl⟩) _, fun y => ?_⟩
  simp only [isValid_eq, validIn_map_inv, Bool.and_eq_true, decide_eq_true_eq, dfs_desc _ _ _ _ hres]

theorem Desc.mono {E E' : List (H × H)} (hsub : ∀ e ∈ E, e ∈ E') {a b : H} (h : Desc E a b) : Desc E' a b := by
  induction h with
  | edge h => exact .edge (hsub _ h)
  | step _ h2 ih => exact .step ih (hsub _ h2)

theorem mem_joined {fixed : Bool} {st : St H} {name : String} {e : H × H} :
    e ∈ st.joined fixed name ↔ e ∈ st.edges ∧ ∃ r ∈ st.rows, r.hash = e.1 ∧ r.name = name ∧ (fixed = true ∨ r.valid = true) := by
  simp only [St.joined, mem_filter, any_eq_true, Bool.and_eq_true, Bool.or_eq_true, decide_eq_true_eq, and_assoc]

theorem mem_joined_true {st : St H} {name : String} {e : H × H} :
    e ∈ st.joined true name ↔ e ∈ st.edges ∧ (e.1, name) ∈ keys st.rows := by
  simp only [mem_joined, mem_keys, true_or, and_true]

theorem joined_sub {fixed : Bool} {st : St H} {name : String} {e : H × H} (h : e ∈ st.joined fixed name) :
    e ∈ st.joined true name := by
  obtain ⟨he, r, hr, h1, h2, _⟩ := mem_joined.1 h
  exact mem_joined.2 ⟨he, r, hr, h1, h2, .inl rfl⟩

theorem joined_of_valid (fixed : Bool) {st : St H} {name : String} {a b : H} (he : (a, b) ∈ st.edges)
    (ha : st.isValid a = true) (hn : ∀ n, (a, n) ∈ keys st.rows → n = name) : (a, b) ∈ st.joined fixed name := by
  obtain ⟨r, hr, hrh, hrv⟩ := isValid_row ha
  exact mem_joined.2 ⟨he, r, hr, hrh, hn _ (mem_keys.2 ⟨r, hr, hrh, rfl⟩), .inr hrv⟩

/-- Well-formed call: every handle carries the fullname its hash determines (`nm`), and one `advance_handle`
call only relates handles of one fullname. -/
def WFOp (nm : H → String) : Op H → Prop
  | .advance ps c => c.name = nm c.hash ∧ ∀ p ∈ ps, p.ref.name = nm p.ref.hash ∧ nm p.ref.hash = nm c.hash ∧
      ∀ a ∈ p.forkChain, a.name = nm a.hash ∧ nm a.hash = nm c.hash
  | .rollback h => h.name = nm h.hash

theorem WFOp.touchedRefs {nm : H → String} {ps : List (Parent H)} {c : HRef H} (hwf : WFOp nm (.advance ps c)) :
    ∀ h ∈ touchedRefs ps c, h.name = nm h.hash ∧ nm h.hash = nm c.hash := by
  obtain ⟨hc, hps⟩ := hwf
  intro h hh
  simp only [Handles.touchedRefs, mem_append, mem_flatMap, mem_cons, mem_map] at hh
  rcases hh with ⟨p, hp, ha⟩ | rfl | ⟨p, hp, rfl⟩
  · exact (hps p (mem_filter.1 hp).1).2.2 h ha
  · exact ⟨hc, rfl⟩
  · exact ⟨(hps p hp).1, (hps p hp).2.1⟩

/-- the model of the repaired backend and the reference lineage model describe the same valid set and edges;
every row carries the fullname of its hash, an edge joins recorded states of one fullname -/
structure RI (nm : H → String) (st : St H) (sp : Spec H) : Prop where
  valid : ∀ x, st.isValid x = true ↔ sp.valid x
  edges : ∀ e, e ∈ st.edges ↔ e ∈ sp.edges
  names : ∀ p ∈ keys st.rows, p.2 = nm p.1
  edgeNm : ∀ a b, (a, b) ∈ st.edges → nm a = nm b ∧ (a, nm a) ∈ keys st.rows

/-- under `RI` the repaired search from `h` finds the reference's descendants of `h`: every state derived from `h`
has the fullname of `h`, so the join loses no edge on the way -/
theorem desc_joined_iff {nm : H → String} {st : St H} {sp : Spec H} (hi : RI nm st sp) (h : HRef H)
    (hh : h.name = nm h.hash) (y : H) : Desc (st.joined true h.name) h.hash y ↔ Desc sp.edges h.hash y := by
  have lift : ∀ a b, (a, b) ∈ sp.edges → nm a = nm h.hash → (a, b) ∈ st.joined true h.name ∧ nm b = nm h.hash := by
    intro a b he ha
    have he := (hi.edges _).2 he
    obtain ⟨h1, h2⟩ := hi.edgeNm a b he
    exact ⟨mem_joined_true.2 ⟨he, by rw [hh, ← ha]; exact h2⟩, by rw [← h1, ha]⟩
  refine ⟨Desc.mono fun e he => (hi.edges e).1 (mem_joined_true.1 he).1, fun hd => ?_⟩
  have key : Desc (st.joined true h.name) h.hash y ∧ nm y = nm h.hash := by
    induction hd with
    | edge he => exact ⟨.edge (lift _ _ he rfl).1, (lift _ _ he rfl).2⟩
    | step _ he ih => exact ⟨.step ih.1 (lift _ _ he ih.2).1, (lift _ _ he ih.2).2⟩
  exact key.1

theorem step_refines (nm : H → String) (st : St H) (sp : Spec H) (op : Op H) (hi : RI nm st sp) (hwf : WFOp nm op) :
    ∃ st', st.step true op = .ok st' ∧ RI nm st' (sp.step op) := by
  cases op with
  | rollback h =>
    obtain ⟨st', hrb, he, hk, hv⟩ := rollback_spec true st h
    refine ⟨st', hrb, fun x => ?_, he ▸ hi.edges, hk ▸ hi.names, he ▸ hk ▸ hi.edgeNm⟩
    rw [hv, hi.valid x, desc_joined_iff hi h hwf]
    rfl
  | advance ps c =>
    have hrefs := hwf.touchedRefs
    have htn : ∀ a ∈ touched ps c, nm a = nm c.hash := by
      intro a ha
      obtain ⟨h, hh, rfl⟩ := mem_map.1 ha
      exact (hrefs h hh).2
    obtain ⟨k1, k2⟩ := keys_foldl_touch (touchedRefs ps c) st.rows
    have hnames : ∀ p ∈ keys (st.advance true ps c).rows, p.2 = nm p.1 := by
      intro p hp
      rcases mem_append.1 (k2 hp) with h1 | h1
      · exact hi.names p h1
      · obtain ⟨h, hh, rfl⟩ := mem_map.1 h1
        exact (hrefs h hh).1
    refine ⟨_, rfl, fun x => ?_, fun e => ?_, hnames, fun a b hab => ?_⟩
    · rw [isValid_advance, hi.valid x]; rfl
    · rw [mem_edges_advance, hi.edges e]; exact mem_append.symm
    · rcases mem_edges_advance.1 hab with hab | hab
      · exact ⟨(hi.edgeNm a b hab).1, k1 (hi.edgeNm a b hab).2⟩
      · -- both ends are touched, so they are valid now and have a row
        obtain ⟨ha, hb⟩ := recordedEdges_touched hab
        obtain ⟨r, hr, rfl, _⟩ := isValid_row ((isValid_advance true st ps c a).2 (.inr ha))
        have hk := mem_keys.2 ⟨r, hr, rfl, rfl⟩
        exact ⟨by rw [htn _ ha, htn b hb], hnames _ hk ▸ hk⟩

theorem run_refines (nm : H → String) (st : St H) (sp : Spec H) (ops : List (Op H)) (hi : RI nm st sp)
    (hwf : ∀ op ∈ ops, WFOp nm op) :
    ∃ st', run true st ops = .ok st' ∧ RI nm st' (Spec.run sp ops) := by
  induction ops generalizing st sp with
  | nil => exact ⟨st, rfl, hi⟩
  | cons op ops ih =>
    obtain ⟨hop, hwf⟩ := forall_mem_cons.1 hwf
    obtain ⟨st1, h1, hi1⟩ := step_refines nm st sp op hi hop
    obtain ⟨st2, h2, hi2⟩ := ih st1 (sp.step op) hi1 hwf
    exact ⟨st2, by simp only [run, h1, h2], hi2⟩

theorem ri_init (nm : H → String) : RI nm ({} : St H) Spec.init := by
  constructor <;> simp [St.isValid, Spec.init, keys]

/-- valid ⇒ every recorded parent valid (so, inductively, every ancestor) -/
def Closed (st : St H) : Prop := ∀ a b, (a, b) ∈ st.edges → st.isValid b = true → st.isValid a = true

/-- On an ancestor-closed state the search of the unrepaired `rollback_handle` (valid parents only) finds every
*valid* descendant the full search finds. -/
theorem desc_joined_of_closed (fixed : Bool) {nm : H → String} {st : St H} (hn : ∀ p ∈ keys st.rows, p.2 = nm p.1)
    (hc : Closed st) (h : HRef H) {x : H} (hd : Desc (st.joined true h.name) h.hash x) (hx : st.isValid x = true) :
    Desc (st.joined fixed h.name) h.hash x := by
  have lift : ∀ a b, (a, b) ∈ st.joined true h.name → st.isValid a = true → (a, b) ∈ st.joined fixed h.name := by
    intro a b hab ha
    obtain ⟨he, hk⟩ := mem_joined_true.1 hab
    exact joined_of_valid fixed he ha fun n hn' => (hn _ hn').trans (hn _ hk).symm
  induction hd with
  | edge he => exact .edge (lift _ _ he (hc _ _ (mem_joined_true.1 he).1 hx))
  | step _ he ih =>
    have hb := hc _ _ (mem_joined_true.1 he).1 hx
    exact .step (ih hb) (lift _ _ he hb)

end RedunModel.Handles
