/-
Dry runs of `SchedCore` (C28): event uniqueness and `Promise.all` accounting.  In a dry run nothing is
registered in `_pending_jobs`, so no job collapses; every job has at most one queued event, a settled job
has none, and a job resolves only after all its children resolved.  The event counts come from the token
invariant of all runs (`reachable_tok`); what a dry run adds is `Fam`.  A job that takes the miss exit is stuck (`NR`)
and keeps the root from resolving.  Main results: `reachable_dryTok`, `no_miss_of_root_resolved`.
-/
import RedunModel.Lemmas.SchedTwin
namespace RedunModel.SchedCore

/-- The dry-run reading of `Tok` (queued events only: nothing waits for limits or is in flight) with `rk`, which `Fam`
adds.  `x` exempts one job from the `Promise.all` lower bound as in `Tok`; it is `none` wherever `DryTok` is used.  Of
its clauses `no_miss_of_root_resolved` needs `rk` and `chain` only. -/
structure DryTok (s : S) (x : Option JobId) : Prop where
  pj : s.pendingJobs = []
  tw : ∀ i, (s.jobs i).twins = []
  tok : ∀ j, tk s j ≤ 1 ∧ (¬ pend s j → tk s j = 0) ∧ (s.next ≤ j → tk s j = 0)
  par : ∀ j c, c < s.next → (s.jobs c).parent = some j → pend s c → (s.jobs j).evalFailed = false →
    tk s j = 0 ∧ pend s j
  pre : ∀ j, (Ev.exec j ∈ s.queue ∨ ∃ f, Ev.done j f ∈ s.queue) → noKids s j
  rej : ∀ j c, c < s.next → (s.jobs c).parent = some j → (s.jobs c).status = Status.rejected →
    (s.jobs j).evalFailed = true
  lb : ∀ j, some j ≠ x → (s.jobs j).evalFailed = false → cntPend s j ≤ (s.jobs j).waiting
  rk : ∀ j, ((s.jobs j).status = Status.resolved ∨ Ev.resolve j ∈ s.queue) →
    ∀ c, c < s.next → (s.jobs c).parent = some j → (s.jobs c).status = Status.resolved
  chain : (s.jobs 0).parent = none ∧ ∀ c, 0 < c → c < s.next → ∃ par, par < c ∧ (s.jobs c).parent = some par

/-- What a dry run adds to the token invariant.  `quiet`: a job without children, or one that is resolved or
about to be, waits for nobody and its evaluation has not failed.  Unlike `DryTok.rk`, which follows from it
by the `Promise.all` bound, it speaks of one job at a time, so every handler changes it in one place. -/
structure Fam (s : S) : Prop where
  quiet : ∀ j, j < s.next → (noKids s j ∨ (s.jobs j).status = Status.resolved ∨ Ev.resolve j ∈ s.queue) →
    (s.jobs j).waiting = 0 ∧ (s.jobs j).evalFailed = false
  chain : (s.jobs 0).parent = none ∧ ∀ c, 0 < c → c < s.next → ∃ par, par < c ∧ (s.jobs c).parent = some par

theorem DryTok.ofTok {s : S} (ht : Tok s none none) (hn : NoReg s) (hf : Fam s) : DryTok s none := by
  have hle := tk_le_tot s
  refine ⟨hn.1, hn.2, fun j => ?_, fun j c hc hp hpc he => ?_, fun j h => ?_, ht.rej, ht.lb, fun j h c hc hp => ?_,
    hf.chain⟩
  · obtain ⟨a, b, c⟩ := ht.tok j
    exact ⟨Nat.le_trans (hle j) a, fun h => Nat.le_zero.mp (b h ▸ hle j), fun h => Nat.le_zero.mp ((c h).1 ▸ hle j)⟩
  · obtain ⟨a, b⟩ := ht.par j c hc hp hpc he
    exact ⟨Nat.le_zero.mp (a ▸ hle j), b⟩
  · exact ht.pre j (h.imp EW_pos_of_mem Or.inr)
  · -- `j` waits for nobody, so no child is pending; its evaluation has not failed, so none is rejected
    obtain ⟨hw, he⟩ := hf.quiet j (Nat.lt_trans (ht.parlt c j hc hp) hc) (Or.inr h)
    have hz : cntPend s j = 0 := Nat.le_zero.mp (hw ▸ ht.lb j (by simp) he)
    rcases status_cases (s.jobs c).status with e | e | e
    · exact absurd e (cntPend_eq_zero.mp hz c hc hp)
    · exact e
    · rw [ht.rej j c hc hp e] at he; cases he

theorem fam_frame {s s' : S} (hf : Fam s) (hn : s'.next = s.next)
    (hst : ∀ i, (s'.jobs i).status = (s.jobs i).status) (hwt : ∀ i, (s'.jobs i).waiting = (s.jobs i).waiting)
    (hef : ∀ i, (s'.jobs i).evalFailed = (s.jobs i).evalFailed) (hpar : ∀ i, (s'.jobs i).parent = (s.jobs i).parent)
    (hq : ∀ i, Ev.resolve i ∈ s'.queue → Ev.resolve i ∈ s.queue ∨ noKids s i) : Fam s' := by
  refine ⟨fun j hj h => ?_, by rw [hn]; simp only [hpar]; exact hf.chain⟩
  rw [hwt, hef]
  refine hf.quiet j (hn ▸ hj) ?_
  rcases h with a | a | a
  · exact Or.inl ((noKids_congr hn hpar j).mp a)
  · exact Or.inr (Or.inl (by rw [← hst]; exact a))
  · exact (hq j a).elim (fun b => Or.inr (Or.inr b)) Or.inl

theorem fam_enqueue {s : S} (hf : Fam s) (e : Ev) (he : ∀ i, e = Ev.resolve i → noKids s i) : Fam (enqueue s e) :=
  fam_frame hf rfl (fun _ => rfl) (fun _ => rfl) (fun _ => rfl) (fun _ => rfl)
    (fun i h => ((mem_enqueue_iff s e _).mp h).imp id (fun h' => he i h'.symm))

theorem fam_setWaiting {s : S} (hf : Fam s) (j : JobId) (n : Nat)
    (h : (noKids s j ∨ (s.jobs j).status = Status.resolved ∨ Ev.resolve j ∈ s.queue) →
      n = 0 ∧ (s.jobs j).evalFailed = false) : Fam (setJob s j fun js => { js with waiting := n }) := by
  have hpar : ∀ i, ((setJob s j fun js => { js with waiting := n }).jobs i).parent = (s.jobs i).parent := by
    intro i; simp only [setJob]; split <;> rfl
  refine ⟨fun i hi hq => ?_, by simp only [hpar]; exact hf.chain⟩
  have hq' : noKids s i ∨ (s.jobs i).status = Status.resolved ∨ Ev.resolve i ∈ s.queue := by
    refine hq.imp (fun a => ?_) (Or.imp_left fun a => ?_)
    · exact (noKids_congr (by rfl) hpar i).mp a
    · simp only [setJob] at a; split at a <;> exact a
  simp only [setJob]
  split
  · rename_i e; subst e; exact h hq'
  · exact hf.quiet i hi hq'

theorem fam_spawnOne {s : S} (hf : Fam s) {j : JobId} (hlt : j < s.next) (c : SpecId) : Fam (spawnOne s j c) := by
  refine ⟨fun i hi h => ?_, ?_, fun c' h0 hc' => ?_⟩
  · by_cases hin : i = s.next
    · subst hin; rw [spawnOne_jobs_new]; exact ⟨rfl, rfl⟩
    · rw [spawnOne_jobs_ne s j c i hin] at h ⊢
      refine hf.quiet i (Nat.lt_of_le_of_ne (Nat.le_of_lt_succ hi) hin) (h.imp (fun a c' hc' hp => ?_)
        (Or.imp_right fun a => (spawnOne_mem.mp a).resolve_right nofun))
      exact a c' (Nat.lt_succ_of_lt hc') (by rw [spawnOne_jobs_ne s j c c' (Nat.ne_of_lt hc')]; exact hp)
  · rw [spawnOne_jobs_ne s j c 0 (Nat.ne_of_lt (Nat.lt_of_le_of_lt (Nat.zero_le j) hlt))]; exact hf.chain.1
  · by_cases hcn : c' = s.next
    · subst hcn; exact ⟨j, hlt, by rw [spawnOne_jobs_new]⟩
    · rw [spawnOne_jobs_ne s j c c' hcn]; exact hf.chain.2 c' h0 (Nat.lt_of_le_of_ne (Nat.le_of_lt_succ hc') hcn)

theorem spawn_fam {s : S} (hf : Fam s) {j : JobId} (hd : Hd s j) (hnk : noKids s j) (cs : List SpecId) :
    Fam (spawn s j cs) := by
  have h3 : Fam (cs.foldl (fun s c => spawnOne s j c) s) :=
    spawnFold_ind (I := Fam) j cs s hd.lt hf fun _ c _ hlt' h => fam_spawnOne h hlt' c
  obtain ⟨b, d, e, _⟩ := spawnFold_frame j cs s
  have hef := (hf.quiet j hd.lt (Or.inl hnk)).2
  unfold spawn
  dsimp only
  cases cs with
  | nil =>
    refine fam_enqueue (fam_setWaiting hf j 0 fun _ => ⟨rfl, hef⟩) _ fun i hi => ?_
    cases hi
    intro c hc hpc
    simp only [setJob] at hpc
    split at hpc <;> exact hnk c hc hpc
  | cons c cs =>
    generalize (c :: cs).foldl (fun s c => spawnOne s j c) s = s3 at h3 b d e
    refine fam_setWaiting h3 j _ fun h => ?_
    -- `j` now has children, is pending, and no `resolve j` is queued
    exfalso
    rcases h with a | a | a
    · have := d j
      rw [cntPend_zero_of_noKids a, cntPend_zero_of_noKids hnk] at this
      simp at this
    · rw [b j hd.lt, hd.pd] at a; cases a
    · rcases e _ a with a | ⟨i, a⟩
      · exact not_mem_of_tot_zero hd.tot0 rfl a
      · cases a

theorem Settle.fam_res {s s' : S} {j : JobId} (h : Settle s s' j false) (hf : Fam s)
    (hj : (s.jobs j).waiting = 0 ∧ (s.jobs j).evalFailed = false) : Fam s' := by
  refine ⟨fun i hi hq => ?_, by rw [h.next]; simp only [h.par]; exact hf.chain⟩
  rw [h.next] at hi
  rw [h.ef, if_neg fun c => nomatch c.1]
  -- `i` is `j`, or was quiet before, or is the parent whose last child has just resolved
  have hold : (s.jobs i).waiting = 0 ∧ (s.jobs i).evalFailed = false ∨ Told s j false i := by
    rcases hq with a | a | a
    · exact Or.inl (hf.quiet i hi (Or.inl ((noKids_congr h.next h.par i).mp a)))
    · rw [h.st] at a
      split at a
      · rename_i e; subst e; exact Or.inl hj
      · exact Or.inl (hf.quiet i hi (Or.inr (Or.inl a)))
    · rcases h.mem a with a | ⟨par, t, a⟩
      · exact Or.inl (hf.quiet i hi (Or.inr (Or.inr a)))
      · cases a; exact Or.inr t
  rw [h.wt]
  rcases hold with ⟨a, b⟩ | ⟨a, b, c⟩
  · exact ⟨by split <;> omega, b⟩
  · exact ⟨by rw [if_pos ⟨rfl, a⟩]; exact c rfl, b⟩

theorem Settle.fam_rej {s s' : S} {j : JobId} (h : Settle s s' j true) (hf : Fam s) (hlt : j < s.next) (hp : pend s j)
    (hlb : ∀ i, (s.jobs i).evalFailed = false → cntPend s i ≤ (s.jobs i).waiting) : Fam s' := by
  refine ⟨fun i hi hq => ?_, by rw [h.next]; simp only [h.par]; exact hf.chain⟩
  rw [h.next] at hi
  have hq' : noKids s i ∨ (s.jobs i).status = Status.resolved ∨ Ev.resolve i ∈ s.queue := by
    rcases hq with a | a | a
    · exact Or.inl ((noKids_congr h.next h.par i).mp a)
    · rw [h.st] at a
      split at a
      · cases a
      · exact Or.inr (Or.inl a)
    · rcases h.mem a with a | ⟨par, _, a⟩
      · exact Or.inr (Or.inr a)
      · cases a
  obtain ⟨hw, he⟩ := hf.quiet i hi hq'
  rw [h.wt, h.ef, if_neg fun c => nomatch c.1]
  refine ⟨hw, ?_⟩
  -- `i` waits for nobody, so the pending `j` is not its child
  have hz : cntPend s i = 0 := Nat.le_zero.mp (hw ▸ hlb i he)
  rw [if_neg fun c => cntPend_eq_zero.mp hz j hlt c.2 hp]
  exact he

theorem fam_init : Fam init := by
  exact ⟨fun j _ _ => ⟨(init_jobs j).2.2.2.1, (init_jobs j).2.2.1⟩, (init_jobs 0).2.2.2.2,
    fun c h0 hc => absurd hc (by show ¬ c < 1; omega)⟩

theorem pop_fam (p : Prog) (hdr : p.dryrun = true) (s : S) (h : All p s) (hf : Fam s) : Fam (pop p s) := by
  have ht := h.tok
  have hn := h.noReg hdr
  cases hq : s.queue with
  | nil => rw [pop_nil p hq]; exact hf
  | cons e rest =>
    rw [pop_cons p hq]
    obtain ⟨hpl, hh⟩ := h.lim.dry hdr
    obtain ⟨_, h0, hp, hlt⟩ := tok_head_facts e rest hq ht
    have hm : e ∈ s.queue := by rw [hq]; simp
    have ft : Fam (tl s) := fam_frame hf rfl (fun _ => rfl) (fun _ => rfl) (fun _ => rfl) (fun _ => rfl)
      (fun i h => Or.inl (List.mem_of_mem_tail h))
    cases e with
    | exec j =>
      refine execJob_dry_cases p hdr (tl s) j hpl hn (P := Fam) (fun ev hev _ => ?_)
        (fam_enqueue ft _ fun i hi => by cases hi) ft
      have fc := fr_cached (tl s) j
      refine fam_enqueue (fam_frame ft fc.next fc.st fc.wt fc.ef fc.par fun i h => Or.inl h) ev fun i hi => ?_
      rcases hev with ⟨f, rfl⟩ | rfl <;> cases hi
    | done j f =>
      have hnk : noKids s j := ht.pre j (Or.inr (Or.inr ⟨f, hm⟩))
      show Fam (doneJob p (tl s) j f)
      rw [doneJob_eq, releaseIf_of_not_holds p (tl s) j (hh j)]
      refine doneRest_anyTable p (tl s) j f (fun _ et => ?_) (fun _ et => ?_)
      · exact fam_enqueue (s := { tl s with evalTable := et }) ⟨ft.quiet, ft.chain⟩ _ fun i hi => by cases hi; exact hnk
      · exact spawn_fam (s := { tl s with evalTable := et }) ⟨ft.quiet, ft.chain⟩ ⟨h0, hp, hlt⟩ hnk _
    | resolve j =>
      exact (resolveJob_dry p (tl s) j hn).fam_res ft (hf.quiet j hlt (Or.inr (Or.inr hm)))
    | reject j =>
      exact (rejectJob_dry p (tl s) j (hh j) hn).fam_rej ft hlt hp (ht.lb · (by simp))

theorem reachable_fam (p : Prog) (hdr : p.dryrun = true) (s : S) (h : Reachable p s) : Fam s := by
  induction h with
  | init => exact fam_init
  | @step s _ hr hs ih =>
    cases hs with
    | pop _ _ => exact pop_fam p hdr s (reachable_all p s hr) ih
    | complete j _ hi => rw [(reachable_dry p hdr s hr).infl j] at hi; cases hi

theorem reachable_dryTok (p : Prog) (hdr : p.dryrun = true) (s : S) (h : Reachable p s) : DryTok s none :=
  DryTok.ofTok (reachable_tok p s h) (reachable_noReg p hdr s h) (reachable_fam p hdr s h)

/-- the queue, the statuses and the parents are unchanged: more than `NR` reads (no proof uses it; `nr_setJob` is stated directly) -/
structure Fq (s s' : S) : Prop where
  next : s'.next = s.next
  queue : s'.queue = s.queue
  pj : s'.pendingJobs = s.pendingJobs
  st : ∀ i, (s'.jobs i).status = (s.jobs i).status
  ef : ∀ i, (s'.jobs i).evalFailed = (s.jobs i).evalFailed
  par : ∀ i, (s'.jobs i).parent = (s.jobs i).parent
  tw : ∀ i, (s'.jobs i).twins = (s.jobs i).twins

theorem Fq.trans {a b c : S} (h1 : Fq a b) (h2 : Fq b c) : Fq a c :=
  ⟨h2.next.trans h1.next, h2.queue.trans h1.queue, h2.pj.trans h1.pj, fun i => (h2.st i).trans (h1.st i),
    fun i => (h2.ef i).trans (h1.ef i), fun i => (h2.par i).trans (h1.par i),
    fun i => (h2.tw i).trans (h1.tw i)⟩

/-- `m` is stuck: created, not resolved, and nothing can make it progress (a `reject` may be queued) -/
structure NR (s : S) (m : JobId) : Prop where
  lt : m < s.next
  st : (s.jobs m).status ≠ Status.resolved
  ev : ∀ e, e ∈ s.queue → evJob e = m → e = Ev.reject m
  nk : noKids s m

theorem nr_setJob {s : S} {m : JobId} (j : JobId) (f : JobSt → JobSt) (hn : NR s m)
    (h : ∀ js, (f js).status = js.status ∧ (f js).parent = js.parent) : NR (setJob s j f) m :=
  ⟨hn.lt, by rw [setJob_keep (·.status) s j f fun js => (h js).1]; exact hn.st, hn.ev,
    (noKids_congr (s := s) (s' := setJob s j f) rfl (setJob_keep (·.parent) s j f fun js => (h js).2) m).mpr hn.nk⟩

theorem nr_tl {s : S} {m : JobId} (hn : NR s m) : NR (tl s) m :=
  ⟨hn.lt, hn.st, fun e he => hn.ev e (List.mem_of_mem_tail he), hn.nk⟩

theorem nr_enqueue {s : S} {m : JobId} (e : Ev) (hn : NR s m) (he : evJob e ≠ m ∨ e = Ev.reject m) :
    NR (enqueue s e) m := by
  refine ⟨hn.lt, hn.st, fun e' hm hj => ?_, hn.nk⟩
  rcases (mem_enqueue_iff s e e').mp hm with a | a
  · exact hn.ev e' a hj
  · subst a; exact he.elim (absurd hj) id

theorem nr_spawnOne {s : S} {m j : JobId} (c : SpecId) (hn : NR s m) (hjm : j ≠ m) : NR (spawnOne s j c) m := by
  have hmn : m ≠ s.next := Nat.ne_of_lt hn.lt
  refine ⟨Nat.lt_succ_of_lt hn.lt, by rw [spawnOne_jobs_ne s j c m hmn]; exact hn.st, fun e hm hj => ?_,
    fun c' hc' hp => ?_⟩
  · rcases spawnOne_mem.mp hm with a | a
    · exact hn.ev e a hj
    · rw [a] at hj; exact absurd hj.symm hmn
  · rcases spawnOne_kid hc' hp with ⟨_, e⟩ | ⟨hc'', hp⟩
    · exact hjm e.symm
    · exact hn.nk c' hc'' hp

theorem spawn_nr {s : S} {m j : JobId} (cs : List SpecId) (hn : NR s m) (hjm : j ≠ m) : NR (spawn s j cs) m :=
  spawn_ind (I := (NR · m)) s j cs hn (fun _ c h => nr_spawnOne c h hjm) (fun _ _ h => nr_setJob j _ h fun _ => ⟨rfl, rfl⟩)
    fun _ h => nr_enqueue _ h (Or.inl hjm)

/-- a stuck job stays stuck when another job settles: it has no children, so it is told nothing but, if it
was itself rejected, its own rejection -/
theorem Settle.nr {s s' : S} {m j : JobId} {b : Bool} (h : Settle s s' j b) (hn : NR s m)
    (hjm : b = false → j ≠ m ∧ j < s.next) : NR s' m := by
  refine ⟨by rw [h.next]; exact hn.lt, ?_, fun e hm hj => ?_,
    (noKids_congr h.next h.par m).mpr hn.nk⟩
  · rw [h.st]; split
    · rename_i e
      cases b
      · exact absurd e.symm (hjm rfl).1
      · nofun
    · exact hn.st
  · rcases h.mem hm with a | ⟨par, t, a⟩
    · exact hn.ev e a hj
    · subst a
      rw [evJob_tellEv] at hj; subst hj
      cases b
      · exact absurd t.1 (hn.nk j (hjm rfl).2)
      · rfl

theorem pop_nr (p : Prog) (hdr : p.dryrun = true) (s : S) (h : All p s) (m : JobId) (hnr : NR s m) : NR (pop p s) m := by
  have hn := h.noReg hdr
  cases hq : s.queue with
  | nil => rw [pop_nil p hq]; exact hnr
  | cons e rest =>
    rw [pop_cons p hq]
    obtain ⟨hpl, hh⟩ := h.lim.dry hdr
    have hm : e ∈ s.queue := by rw [hq]; simp
    have nt := nr_tl hnr
    cases e with
    | exec j =>
      have hjm : j ≠ m := fun e => by cases hnr.ev _ hm e
      refine execJob_dry_cases p hdr (tl s) j hpl hn (P := fun s' => NR s' m) (fun ev hev _ => ?_)
        (nr_enqueue _ nt (Or.inl hjm)) nt
      refine nr_enqueue ev (nr_setJob j _ nt fun _ => ⟨rfl, rfl⟩) (Or.inl ?_)
      rcases hev with ⟨f, rfl⟩ | rfl <;> exact hjm
    | done j f =>
      have hjm : j ≠ m := fun e => by cases hnr.ev _ hm e
      show NR (doneJob p (tl s) j f) m
      rw [doneJob_eq, releaseIf_of_not_holds p (tl s) j (hh j)]
      refine doneRest_anyTable p (tl s) j f (P := fun s' => NR s' m) (fun _ et => ?_) (fun _ et => ?_)
      · exact nr_enqueue (s := { tl s with evalTable := et }) _ ⟨nt.lt, nt.st, nt.ev, nt.nk⟩ (Or.inl hjm)
      · exact spawn_nr (s := { tl s with evalTable := et }) _ ⟨nt.lt, nt.st, nt.ev, nt.nk⟩ hjm
    | resolve j =>
      have hjm : j ≠ m := fun e => by cases hnr.ev _ hm e
      exact Settle.nr (resolveJob_dry p (tl s) j hn) nt fun _ => ⟨hjm, (tok_head_facts _ rest hq h.tok).2.lt⟩
    | reject j => exact Settle.nr (rejectJob_dry p (tl s) j (hh j) hn) nt nofun

theorem miss_NR (p : Prog) (hdr : p.dryrun = true) (s : S) (h : All p s) (hmiss : missAtHead p s = true) :
    ∃ m, NR (pop p s) m := by
  have ht := h.tok
  unfold missAtHead at hmiss
  cases hq : s.queue with
  | nil => rw [hq] at hmiss; simp at hmiss
  | cons e rest =>
    rw [hq] at hmiss
    cases e with
    | done j f => simp at hmiss
    | reject j => simp at hmiss
    | resolve j => simp at hmiss
    | exec j =>
      simp only [Bool.and_eq_true, beq_iff_eq] at hmiss
      obtain ⟨_, h0, hp, hlt⟩ := tok_head_facts _ rest hq ht
      have nt : NR (tl s) j :=
        ⟨hlt, by rw [show ((tl s).jobs j).status = _ from hp]; simp, fun e he hj => absurd he (not_mem_of_tot_zero h0 hj),
          ht.pre j (Or.inl (EW_pos_of_mem (by rw [hq]; simp)))⟩
      rw [pop_cons p hq]
      exact ⟨j, execJob_dry_cases p hdr (tl s) j (h.lim.dry hdr).1 (h.noReg hdr) (P := fun s' => NR s' j)
        (fun _ _ h => absurd hmiss.2 h) (nr_enqueue _ nt (Or.inr rfl)) nt⟩

theorem root_unresolved_of_job {s : S} (hd : DryTok s none) :
    ∀ m, m < s.next → (s.jobs m).status ≠ Status.resolved → (s.jobs 0).status ≠ Status.resolved := by
  intro m
  induction m using Nat.strongRecOn with
  | _ m ih =>
    intro hlt hst
    by_cases h0 : m = 0
    · subst h0; exact hst
    · obtain ⟨par, p1, p2⟩ := hd.chain.2 m (Nat.pos_of_ne_zero h0) hlt
      exact ih par p1 (Nat.lt_trans p1 hlt) fun hr => hst (hd.rk par (Or.inl hr) m hlt p2)

theorem popN_succ (p : Prog) (n : Nat) (s : S) : popN p (n + 1) s = pop p (popN p n s) := by
  induction n generalizing s with
  | zero => rfl
  | succ n ih => simp only [popN] at ih ⊢; rw [ih]

theorem reachable_popN (p : Prog) (n : Nat) (h : ∀ k, k < n → (popN p k init).finished = false) :
    Reachable p (popN p n init) := by
  induction n with
  | zero => exact Reachable.init
  | succ n ih =>
    have hr := ih (fun k hk => h k (Nat.lt_succ_of_lt hk))
    rw [popN_succ]
    by_cases hq : (popN p n init).queue = []
    · rw [pop_nil p hq]; exact hr
    · exact Reachable.step hr (Step.pop _ (h n (Nat.lt_succ_self n)) hq)

/-- In a dry run that has not finished before event `n`: if the root is resolved after `n` events then no job
took the miss exit during these events.  A job that takes it is stuck (`miss_NR`) and stays so (`pop_nr`); a job that
never resolves keeps its parent, and so the root, from resolving (`root_unresolved_of_job`, by `DryTok.rk`). -/
theorem no_miss_of_root_resolved (p : Prog) (hdr : p.dryrun = true) (n : Nat)
    (hfin : ∀ k, k < n → (popN p k init).finished = false)
    (hres : ((popN p n init).jobs 0).status = Status.resolved) :
    ∀ k, k < n → missAtHead p (popN p k init) = false := by
  intro k hk
  by_cases hm : missAtHead p (popN p k init) = true
  · exfalso
    have hreach : ∀ i, i ≤ n → Reachable p (popN p i init) :=
      fun i hi => reachable_popN p i (fun k' hk' => hfin k' (Nat.lt_of_lt_of_le hk' hi))
    have hk' := hreach k (Nat.le_of_lt hk)
    obtain ⟨m, hn⟩ := miss_NR p hdr _ (reachable_all p _ hk') hm
    rw [← popN_succ] at hn
    -- the stuck job stays stuck up to event `n`
    have hstay : ∀ d, k + 1 + d ≤ n → NR (popN p (k + 1 + d) init) m := by
      intro d
      induction d with
      | zero => intro _; exact hn
      | succ d ih =>
        intro hle
        rw [show k + 1 + (d + 1) = (k + 1 + d) + 1 by omega, popN_succ]
        exact pop_nr p hdr _ (reachable_all p _ (hreach (k + 1 + d) (by omega))) m (ih (by omega))
    have hfinal := hstay (n - (k + 1)) (by omega)
    rw [show k + 1 + (n - (k + 1)) = n by omega] at hfinal
    exact root_unresolved_of_job (reachable_dryTok p hdr _ (hreach n (Nat.le_refl n))) m hfinal.lt hfinal.st hres
  · simpa using hm

end RedunModel.SchedCore
