/-
The value-hash model (`RedunModel.Model.ValueHash`): a value whose sets have at most one element has a single layout
(`sim_eq_of_rigid`), `Sim` is an equivalence (`sim_eucl`), and `isort` on a strict total order forgets the layout
(`isort_eq_of_perm`).

`V` is nested through `List` and `Sim`/`Sims` are mutual, so inductions over values and over `Sim`
derivations are written as applications of the recursors, with one motive for values and one for lists.
-/
import RedunModel.Model.ValueHash
import RedunModel.Lemmas.InsertSort
namespace RedunModel.ValueHash

theorem SetFrees_iff (xs : List V) : SetFrees xs ↔ ∀ x ∈ xs, SetFree x := by
  induction xs with
  | nil => simp [SetFrees]
  | cons x xs ih => simp [SetFrees, ih]

theorem Rigids_iff (xs : List V) : Rigids xs ↔ ∀ x ∈ xs, Rigid x := by
  induction xs with
  | nil => simp [Rigids]
  | cons x xs ih => simp [Rigids, ih]

theorem rigid_of_setFree (a : V) : SetFree a → Rigid a :=
  V.rec (motive_1 := fun a => SetFree a → Rigid a) (motive_2 := fun xs => SetFrees xs → Rigids xs)
    (none := id) (bool := fun _ => id) (int := fun _ => id) (float := fun _ => id)
    (str := fun _ => id) (bytes := fun _ => id)
    (list := fun _ ih => ih) (tuple := fun _ ih => ih)
    (dict := fun _ _ ihk ihv h => ⟨ihk h.1, ihv h.2⟩)
    (set := fun _ _ => False.elim) (fset := fun _ _ => False.elim)
    (obj := fun _ _ ih => ih) (sub := fun _ _ ih => ih)
    (nil := id) (cons := fun _ _ ih iht h => ⟨ih h.1, iht h.2⟩) a

theorem perm_eq_of_length_le_one {xs zs : List V} (h : xs.length ≤ 1) (p : xs.Perm zs) : xs = zs :=
  match xs, h with
  | [], _ => (List.nil_perm.1 p).symm
  | [_], _ => List.singleton_perm.1 p

theorem sim_eq_of_rigid (a b : V) (hf : Rigid a) (h : Sim a b) : a = b :=
  h.rec (motive_1 := fun a b _ => Rigid a → a = b) (motive_2 := fun xs ys _ => Rigids xs → xs = ys)
    (none := fun _ => rfl) (bool := fun _ _ => rfl) (int := fun _ _ => rfl) (float := fun _ _ => rfl)
    (str := fun _ _ => rfl) (bytes := fun _ _ => rfl)
    (list := fun _ ih hr => congrArg V.list (ih hr)) (tuple := fun _ ih hr => congrArg V.tuple (ih hr))
    (dict := fun _ _ ihk ihv hr => congr (congrArg V.dict (ihk hr.1)) (ihv hr.2))
    (set := fun hp _ ih hr => by cases perm_eq_of_length_le_one hr.1 hp; exact congrArg V.set (ih hr.2))
    (fset := fun hp _ ih hr => by cases perm_eq_of_length_le_one hr.1 hp; exact congrArg V.fset (ih hr.2))
    (obj := fun c _ _ _ ih hr => congrArg (V.obj c) (ih hr))
    (sub := fun c _ _ _ ih hr => congrArg (V.sub c) (ih hr))
    (nil := fun _ => rfl) (cons := fun _ _ ih iht hr => congr (congrArg List.cons (ih hr.1)) (iht hr.2))
    hf

theorem sim_eq_of_setFree (a b : V) (hf : SetFree a) (h : Sim a b) : a = b :=
  sim_eq_of_rigid a b (rigid_of_setFree a hf) h

theorem perm_of_sim_set {xs : List V} (hr : ∀ x ∈ xs, Rigid x) {b : V} (h : Sim (.set xs) b) :
    ∃ ys, b = .set ys ∧ xs.Perm ys := by
  cases h with
  | set hp hs =>
    have hz : Rigid (.list _) := (Rigids_iff _).2 fun x hx => hr x (hp.mem_iff.2 hx)
    exact ⟨_, rfl, V.list.inj (sim_eq_of_rigid _ _ hz (.list hs)) ▸ hp⟩

theorem sim_refl (a : V) : Sim a a :=
  V.rec (motive_1 := fun a => Sim a a) (motive_2 := fun xs => Sims xs xs)
    (none := .none) (bool := .bool) (int := .int) (float := .float) (str := .str) (bytes := .bytes)
    (list := fun _ ih => .list ih) (tuple := fun _ ih => .tuple ih)
    (dict := fun _ _ ihk ihv => .dict ihk ihv)
    (set := fun _ ih => .set (.refl _) ih) (fset := fun _ ih => .fset (.refl _) ih)
    (obj := fun c _ ih => .obj c ih) (sub := fun c _ ih => .sub c ih)
    (nil := .nil) (cons := fun _ _ ih iht => .cons ih iht) a

theorem sims_refl : ∀ xs : List V, Sims xs xs
  | [] => .nil
  | x :: xs => .cons (sim_refl x) (sims_refl xs)

theorem sim_set_of_perm {xs ys : List V} (h : xs.Perm ys) : Sim (.set xs) (.set ys) := .set h (sims_refl ys)
theorem sim_fset_of_perm {xs ys : List V} (h : xs.Perm ys) : Sim (.fset xs) (.fset ys) := .fset h (sims_refl ys)

theorem sims_perm_follow {bs cs : List V} (p : bs.Perm cs) :
    ∀ {as : List V}, Sims as bs → ∃ as', as.Perm as' ∧ Sims as' cs := by
  induction p with
  | nil => intro as h; exact ⟨as, List.Perm.refl _, h⟩
  | cons x _ ih =>
    intro as h
    cases h with
    | cons hxy hrest =>
      obtain ⟨as', hp, hs⟩ := ih hrest
      exact ⟨_ :: as', List.Perm.cons _ hp, .cons hxy hs⟩
  | swap x y l =>
    intro as h
    cases h with
    | cons h1 hrest =>
      cases hrest with
      | cons h2 hrest2 => exact ⟨_, List.Perm.swap _ _ _, .cons h2 (.cons h1 hrest2)⟩
  | trans _ _ ih1 ih2 =>
    intro as h
    obtain ⟨as1, hp1, hs1⟩ := ih1 h
    obtain ⟨as2, hp2, hs2⟩ := ih2 hs1
    exact ⟨as2, hp1.trans hp2, hs2⟩

theorem sims_mem_left {xs ys : List V} (h : Sims xs ys) : ∀ y ∈ ys, ∃ x ∈ xs, Sim x y := by
  induction xs generalizing ys with
  | nil => cases h; nofun
  | cons x xs ih =>
    cases h with
    | cons hxy hrest =>
      intro y hy
      cases hy with
      | head => exact ⟨x, .head _, hxy⟩
      | tail _ hy' =>
        obtain ⟨x', hx', hs⟩ := ih hrest y hy'
        exact ⟨x', .tail _ hx', hs⟩

/-- `Sim` is right-Euclidean; with reflexivity that is symmetry and transitivity in one induction.
At a set node `xs ~ zs ≈ ys`, `xs' ~ zs' ≈ ys` the induction hypothesis gives `zs ≈ zs'`, and the
permutation `zs' ~ xs'` is followed back through that matching. -/
theorem sim_eucl {a b : V} (h : Sim a b) (c : V) (h' : Sim c b) : Sim a c :=
  h.rec (motive_1 := fun a b _ => ∀ c, Sim c b → Sim a c)
    (motive_2 := fun xs ys _ => ∀ zs, Sims zs ys → Sims xs zs)
    (none := fun _ h => by cases h; exact .none) (bool := fun _ _ h => by cases h; exact .bool _)
    (int := fun _ _ h => by cases h; exact .int _) (float := fun _ _ h => by cases h; exact .float _)
    (str := fun _ _ h => by cases h; exact .str _) (bytes := fun _ _ h => by cases h; exact .bytes _)
    (list := fun _ ih _ h => by cases h with | list h => exact .list (ih _ h))
    (tuple := fun _ ih _ h => by cases h with | tuple h => exact .tuple (ih _ h))
    (dict := fun _ _ ihk ihv _ h => by cases h with | dict hk hv => exact .dict (ihk _ hk) (ihv _ hv))
    (set := fun hp _ ih _ h => by
      cases h with
      | set hp' hs' =>
        obtain ⟨_, hpw, hsw⟩ := sims_perm_follow hp'.symm (ih _ hs')
        exact .set (hp.trans hpw) hsw)
    (fset := fun hp _ ih _ h => by
      cases h with
      | fset hp' hs' =>
        obtain ⟨_, hpw, hsw⟩ := sims_perm_follow hp'.symm (ih _ hs')
        exact .fset (hp.trans hpw) hsw)
    (obj := fun c _ _ _ ih _ h => by cases h with | obj _ h => exact .obj c (ih _ h))
    (sub := fun c _ _ _ ih _ h => by cases h with | sub _ h => exact .sub c (ih _ h))
    (nil := fun _ h => by cases h; exact .nil)
    (cons := fun _ _ ih iht _ h => by cases h with | cons h ht => exact .cons (ih _ h) (iht _ ht))
    c h'

theorem sim_symm (a b : V) (h : Sim a b) : Sim b a := sim_eucl (sim_refl b) a h

theorem sim_trans (a b c : V) (h1 : Sim a b) (h2 : Sim b c) : Sim a c := sim_eucl h1 c (sim_symm b c h2)

section sort
variable (lt : V → V → Bool)

theorem insertsBy_insertBy : InsertsBy (fun a b => lt a b = true) (insertBy lt) :=
  ⟨fun _ => rfl, fun _ _ _ => rfl⟩

theorem isort_eq_foldr (l : List V) : isort lt l = l.foldr (insertBy lt) [] := by
  induction l with
  | nil => rfl
  | cons x xs ih => rw [isort, ih]; rfl

theorem isort_perm (l : List V) : (isort lt l).Perm l :=
  isort_eq_foldr lt l ▸ (insertsBy_insertBy lt).sort_perm l

structure StrictTotalOn (l : List V) : Prop where
  asymm : ∀ a ∈ l, ∀ b ∈ l, lt a b = true → lt b a = false
  trans : ∀ a ∈ l, ∀ b ∈ l, ∀ c ∈ l, lt a b = true → lt b c = true → lt a c = true
  connected : ∀ a ∈ l, ∀ b ∈ l, lt a b = false → lt b a = false → a = b

/-- the output is sorted by `¬ b < a`, which needs `<` to be an order only on the elements of the list -/
theorem isort_eq_of_perm {l l' : List V} (h : l.Perm l') (s : StrictTotalOn lt l) : isort lt l = isort lt l' := by
  rw [isort_eq_foldr, isort_eq_foldr]
  refine (insertsBy_insertBy lt).sort_eq_of_perm (P := (· ∈ l)) (R := fun a b => lt b a = false)
    (fun a b ha hb => s.asymm a ha b hb) (fun a b _ _ hab => Bool.not_eq_true _ ▸ hab) (fun a b c ha hb hc hab hcb => ?_) h
    (fun _ hx => hx) fun a b ha hb hba hab => s.connected a ha b hb hab hba
  -- `c < a` and `a < b` would give `c < b`
  cases hca : lt c a with
  | false => rfl
  | true => rw [s.trans c hc a ha b hb hca hab] at hcb; cases hcb

end sort

end RedunModel.ValueHash
