/-
Helper lemmas for C36: the cell-wise preservation relation `Pres`, its preservation by every effect,
operation, revision and by `migrate`.
-/
import RedunModel.Model.Migrate
import RedunModel.Lemmas.AssocList
namespace RedunModel.Migrate
open RedunModel.MigrateOps RedunModel.Generated.Migrations

/-- Every cell of every row of every table of `db` is still there in `db'`, related by `R table column`. -/
def Pres (R : String → String → Val → Val → Prop) (db db' : Db) : Prop :=
  ∀ tn i c v, cell db tn i c = some v → ∃ v', cell db' tn i c = some v' ∧ R tn c v v'

variable {R : String → String → Val → Val → Prop}

theorem pres_refl (hr : ∀ tn c v, R tn c v v) (db : Db) : Pres R db db :=
  fun _ _ _ v h => ⟨v, h, hr _ _ _⟩

theorem pres_trans (ht : ∀ tn c a b d, R tn c a b → R tn c b d → R tn c a d) {db db' db'' : Db}
    (h1 : Pres R db db') (h2 : Pres R db' db'') : Pres R db db'' := by
  intro tn i c v h
  obtain ⟨v', h', r1⟩ := h1 tn i c v h
  obtain ⟨v'', h'', r2⟩ := h2 tn i c v' h'
  exact ⟨v'', h'', ht _ _ _ _ _ r1 r2⟩

theorem getCol_eq_lookup (c : String) (r : Row) : getCol c r = r.lookup c :=
  Assoc.lookup_eq_of_rec (fun _ => rfl) (fun _ _ _ _ => rfl) c r

theorem getCol_append (c : String) (r : Row) (x : String × Val) (v : Val) (h : getCol c r = some v) :
    getCol c (r ++ [x]) = some v := by
  rw [getCol_eq_lookup] at *
  rw [List.lookup_append, h, Option.some_or]

theorem getCol_setCol (c c' : String) (g : Row → Val → Val) (r : Row) :
    getCol c' (setCol c g r) = if c' = c then (getCol c' r).map (g r) else getCol c' r := by
  have : setCol c g r = r.map fun p => (p.1, if p.1 = c then g r p.2 else p.2) :=
    List.map_congr_left fun p _ => by split <;> rfl
  rw [getCol_eq_lookup, getCol_eq_lookup, this, Assoc.lookup_map fun k v => if k = c then g r v else v]
  split
  · rfl
  · exact Option.map_id'

def RowsPres (R : String → Val → Val → Prop) (rs rs' : List Row) : Prop :=
  ∀ (i : Nat) c v, (rs[i]?).bind (getCol c) = some v → ∃ v', (rs'[i]?).bind (getCol c) = some v' ∧ R c v v'

section rows
variable {R : String → Val → Val → Prop}

theorem rowsPres_refl (hr : ∀ c v, R c v v) (rs : List Row) : RowsPres R rs rs :=
  fun _ c v h => ⟨v, h, hr c v⟩

theorem rowsPres_map (g : Row → Row)
    (hg : ∀ r c v, getCol c r = some v → ∃ v', getCol c (g r) = some v' ∧ R c v v') (rs : List Row) :
    RowsPres R rs (rs.map g) := by
  intro i c v h
  rw [List.getElem?_map]
  cases hr : rs[i]? with
  | none => rw [hr] at h; cases h
  | some r => rw [hr] at h; exact hg r c v h

theorem rowsPres_append (hr : ∀ c v, R c v v) (rs more : List Row) : RowsPres R rs (rs ++ more) := by
  intro i c v h
  rcases Nat.lt_or_ge i rs.length with hi | hi
  · rw [List.getElem?_append_left hi]; exact ⟨v, h, hr c v⟩
  · rw [List.getElem?_eq_none hi] at h; cases h

end rows

theorem cell_cons (t : Table) (rest : Db) (tn : String) (i : Nat) (c : String) :
    cell (t :: rest) tn i c = if t.name = tn then (t.rows[i]?).bind (getCol c) else cell rest tn i c := by
  unfold cell
  rw [findTable]
  by_cases e : t.name = tn
  · simp only [if_pos e]; cases t.rows[i]? <;> rfl
  · rw [if_neg e, if_neg e]

theorem pres_cons {t t' : Table} {rest rest' : Db} (hn : t'.name = t.name) (ht : RowsPres (R t.name) t.rows t'.rows)
    (hrest : Pres R rest rest') : Pres R (t :: rest) (t' :: rest') := by
  intro tn i c v h
  rw [cell_cons] at h ⊢
  rw [hn]
  split
  · next e => subst e; rw [if_pos rfl] at h; exact ht i c v h
  · next e => rw [if_neg e] at h; exact hrest tn i c v h

theorem append_pres (hr : ∀ tn c v, R tn c v v) (db : Db) (t : Table) : Pres R db (db ++ [t]) := by
  induction db with
  | nil => intro tn i c v h; cases h
  | cons x rest ih => exact pres_cons rfl (rowsPres_refl (hr _) _) ih

theorem modify_pres (hr : ∀ tn c v, R tn c v v) (tn : String) (cols : Table → List String) (g : List Row → List Row)
    (hrows : ∀ rs, RowsPres (R tn) rs (g rs)) (db : Db) :
    Pres R db (modifyTable tn (fun t => { t with cols := cols t, rows := g t.rows }) db) := by
  induction db with
  | nil => exact pres_refl hr []
  | cons t rest ih =>
    rw [modifyTable]
    split
    · next e => exact pres_cons rfl (e ▸ hrows t.rows) (pres_refl hr rest)
    · exact pres_cons rfl (rowsPres_refl (hr _) _) ih

/-- what an effect may do to existing cells, relative to `R` -/
def EffectOK (R : String → String → Val → Val → Prop) : Effect → Prop
  | .mapCol tn c g => ∀ r v, R tn c v (g r v)
  | _ => True

theorem applyEffect_pres (hr : ∀ tn c v, R tn c v v) (db db' : Db) (e : Effect) (hok : EffectOK R e)
    (h : applyEffect db e = .ok db') : Pres R db db' := by
  cases e with
  | ident => cases h; exact pres_refl hr db
  | addTable t =>
    rw [applyEffect] at h
    split at h
    · cases h
    · cases h; exact append_pres hr db t
  | addCol tn c =>
    rw [applyEffect] at h
    split at h
    · cases h
    · split at h
      · cases h
      · cases h
        exact modify_pres hr tn _ (List.map (· ++ [(c, .null)]))
          (rowsPres_map _ fun r c' v h => ⟨v, getCol_append _ _ _ _ h, hr _ _ _⟩) db
  | appendRows tn rows =>
    rw [applyEffect] at h
    split at h
    · cases h
    · cases h; exact modify_pres hr tn _ (· ++ rows) (fun rs => rowsPres_append (hr tn) rs rows) db
  | mapCol tn c g =>
    rw [applyEffect] at h
    split at h
    · cases h
    · cases h
      refine modify_pres hr tn _ (List.map (setCol c g)) (rowsPres_map _ fun r c' v h => ?_) db
      rw [getCol_setCol, h]
      split
      · next hc => subst hc; exact ⟨_, rfl, hok r v⟩
      · exact ⟨v, rfl, hr _ _ _⟩
  | requireNotNull tn c =>
    rw [applyEffect] at h
    split at h
    · cases h
    · split at h
      · cases h
      · cases h; exact pres_refl hr db

theorem applyEffects_pres (hr : ∀ tn c v, R tn c v v) (ht : ∀ tn c a b d, R tn c a b → R tn c b d → R tn c a d)
    (es : List Effect) :
    ∀ db db', (∀ e ∈ es, EffectOK R e) → applyEffects db es = .ok db' → Pres R db db' := by
  induction es with
  | nil => intro db db' _ h; cases h; exact pres_refl hr db
  | cons e rest ih =>
    intro db db' hok h
    rw [applyEffects] at h
    split at h
    · next d1 he =>
      exact pres_trans ht (applyEffect_pres hr db d1 e (hok e List.mem_cons_self) he)
        (ih d1 db' (fun e' h' => hok e' (List.mem_cons_of_mem _ h')) h)
    · cases h

theorem structural_effects_ok (db : Db) (op : Op) (hs : isStructural op = true)
    (es : List Effect) (h : effectsOf db op = .ok es) : ∀ e ∈ es, EffectOK R e := by
  cases op with
  | execSql s | pyData s => cases hs
  | addColumn t c =>
    cases h; split
    · exact List.forall_mem_singleton.mpr trivial
    · exact List.forall_mem_cons.mpr ⟨trivial, List.forall_mem_singleton.mpr trivial⟩
  | alterColumn t col ty nl => cases h; split <;> exact List.forall_mem_singleton.mpr trivial
  | _ => cases h; exact List.forall_mem_singleton.mpr trivial

theorem applyOp_pres (hr : ∀ tn c v, R tn c v v) (ht : ∀ tn c a b d, R tn c a b → R tn c b d → R tn c a d)
    (db db' : Db) (op : Op) (hok : ∀ es, effectsOf db op = .ok es → ∀ e ∈ es, EffectOK R e)
    (h : applyOp db op = .ok db') : Pres R db db' := by
  unfold applyOp at h
  split at h
  · next es he => exact applyEffects_pres hr ht es db db' (hok es he) h
  · cases h

def REq : String → String → Val → Val → Prop := fun _ _ v v' => v' = v

/-- what the current chain guarantees: equality, except that `job.start_time` / `job.end_time` may have
gone through `dtUtc` (fractional seconds dropped) and `job.execution_id` is recomputed. -/
def RPartial : String → String → Val → Val → Prop := fun tn c v v' =>
  if tn = "job" ∧ (c = "start_time" ∨ c = "end_time") then v' = v ∨ v' = dtUtc v
  else if tn = "job" ∧ c = "execution_id" then True
  else v' = v

theorem dtUtc_idem (v : Val) : dtUtc (dtUtc v) = dtUtc v := by
  cases v <;> simp [dtUtc, roundsUp, first4]

theorem rpartial_refl (tn c : String) (v : Val) : RPartial tn c v v := by
  unfold RPartial; split
  · exact Or.inl rfl
  · split <;> simp

theorem rpartial_trans (tn c : String) (a b d : Val) (h1 : RPartial tn c a b) (h2 : RPartial tn c b d) :
    RPartial tn c a d := by
  unfold RPartial at *
  split
  · next h =>
    rw [if_pos h] at h1 h2
    rcases h1 with rfl | rfl <;> rcases h2 with rfl | rfl <;> simp [dtUtc_idem]
  · next h =>
    rw [if_neg h] at h1 h2
    split
    · trivial
    · next h' => rw [if_neg h'] at h1 h2; rw [h2, h1]

theorem rpartial_start (v : Val) : RPartial "job" "start_time" v (dtUtc v) := by simp [RPartial]
theorem rpartial_end (v : Val) : RPartial "job" "end_time" v (dtUtc v) := by simp [RPartial]
theorem rpartial_execId (v v' : Val) : RPartial "job" "execution_id" v v' := by simp [RPartial]

/-- every data migration rewrites only `job.start_time` / `job.end_time` (through `dtUtc`) and `job.execution_id` -/
theorem dataSem_ok (op : Op) (f : Db → List Effect) (h : dataSem op = .effects f) (db : Db) :
    ∀ e ∈ f db, EffectOK RPartial e := by
  unfold dataSem at h
  split at h <;> cases h <;>
    simp only [List.mem_cons, List.not_mem_nil, or_false, forall_eq_or_imp, forall_eq, EffectOK, backfillExecId,
      rpartial_start, rpartial_end, rpartial_execId, implies_true, and_self]

theorem effectsOf_data (db : Db) (op : Op) (hs : isStructural op = false) :
    effectsOf db op = match dataSem op with
      | .effects f => .ok (f db)
      | .unknown => .error "unknown data migration (hash not in dataSem)" := by
  cases op <;> first | (cases hs; done) | rfl

theorem all_effects_ok (db : Db) (op : Op) (es : List Effect) (h : effectsOf db op = .ok es) :
    ∀ e ∈ es, EffectOK RPartial e := by
  cases hs : isStructural op with
  | true => exact structural_effects_ok db op hs es h
  | false =>
    rw [effectsOf_data db op hs] at h
    split at h
    · next f hd => cases h; exact dataSem_ok op f hd db
    · cases h

theorem applyOp_pres_partial (db db' : Db) (op : Op) (h : applyOp db op = .ok db') : Pres RPartial db db' :=
  applyOp_pres rpartial_refl rpartial_trans db db' op (all_effects_ok db op) h

theorem applyOps_pres_partial (ops : List GOp) : ∀ db db', applyOps db ops = .ok db' → Pres RPartial db db' := by
  induction ops with
  | nil => intro db db' h; cases h; exact pres_refl rpartial_refl db
  | cons g rest ih =>
    intro db db' h
    rw [applyOps] at h
    split at h
    · split at h
      · next d1 ho => exact pres_trans rpartial_trans (applyOp_pres_partial db d1 g.op ho) (ih d1 db' h)
      · cases h
    · exact ih db db' h

theorem applyRevs_pres_partial (revs : List Rev) : ∀ db db', applyRevs db revs = .ok db' → Pres RPartial db db' := by
  induction revs with
  | nil => intro db db' h; cases h; exact pres_refl rpartial_refl db
  | cons r rest ih =>
    intro db db' h
    rw [applyRevs] at h
    split at h
    · next d1 ho => exact pres_trans rpartial_trans (applyOps_pres_partial r.ops db d1 ho) (ih d1 db' h)
    · cases h

end RedunModel.Migrate
