import RedunModel.Model.Pre
import RedunModel.Lemmas.InsertSort
namespace RedunModel.Pre
open List

variable {α : Type}

theorem insertsBy_insertKw : InsertsBy (fun a b : String × α => a.1 ≤ b.1) insertKw :=
  ⟨fun _ => rfl, fun _ _ _ => rfl⟩

theorem sortKw_perm (l : List (String × α)) : (sortKw l).Perm l := insertsBy_insertKw.sort_perm l

theorem mem_sortKw {l : List (String × α)} {a : String × α} : a ∈ sortKw l ↔ a ∈ l :=
  (sortKw_perm l).mem_iff

theorem perm_of_sortKw_eq {l₁ l₂ : List (String × α)} (h : sortKw l₁ = sortKw l₂) : l₁.Perm l₂ :=
  (sortKw_perm l₁).symm.trans (h ▸ sortKw_perm l₂)

/-- where the images under `f` are pairwise distinct, `f` is injective: no two parameters of a signature share a
name, no two items of a Python dict share a key -/
theorem inj_of_nodup_map {γ δ : Type} {f : γ → δ} {l : List γ} (h : (l.map f).Nodup) {a b : γ}
    (ha : a ∈ l) (hb : b ∈ l) (e : f a = f b) : a = b :=
  Pairwise.forall_of_forall_of_flip (R := fun a b => f a = f b → a = b) (fun _ _ _ => rfl)
    ((pairwise_map.mp h).imp fun hne e => absurd e hne) ((pairwise_map.mp h).imp fun hne e => absurd e.symm hne)
    ha hb e

theorem nodup_of_keys_nodup {l : List (String × α)} (h : (keys l).Nodup) : l.Nodup :=
  Pairwise.of_map (·.1) (fun _ _ hne e => hne (e ▸ rfl)) h

theorem sortKw_eq_of_perm {l₁ l₂ : List (String × α)} (hp : l₁.Perm l₂) (hn : (keys l₁).Nodup) :
    sortKw l₁ = sortKw l₂ :=
  insertsBy_insertKw.sort_eq_of_perm (P := (· ∈ l₁)) (fun _ _ _ _ h => h)
    (fun a b _ _ h => (String.le_total a.1 b.1).resolve_left h) (fun _ _ _ _ _ _ => String.le_trans) hp (fun _ h => h)
    fun _ _ ha hb hab hba => inj_of_nodup_map hn ha hb (String.le_antisymm hab hba)

theorem dictSet_of_not_mem (d : List (String × α)) (k : String) (v : α) (h : k ∉ keys d) :
    dictSet d k v = d ++ [(k, v)] := by
  induction d with
  | nil => rfl
  | cons c t ih =>
    obtain ⟨k', v'⟩ := c
    rw [dictSet, if_neg fun e => h (mem_cons.mpr (Or.inl e.symm)), ih fun hm => h (mem_cons_of_mem _ hm)]
    rfl

theorem dictMerge_disjoint (a b : List (String × α)) (hb : (keys b).Nodup)
    (hd : ∀ k ∈ keys b, k ∉ keys a) : dictMerge a b = a ++ b := by
  induction b generalizing a with
  | nil => simp [dictMerge]
  | cons c t ih =>
    have hb' := nodup_cons.mp hb
    show dictMerge (dictSet a c.1 c.2) t = _
    rw [dictSet_of_not_mem a c.1 c.2 (hd c.1 (mem_cons_self ..)), ih _ hb'.2, append_assoc]
    · rfl
    · intro k hk hka
      rw [keys, map_append, mem_append] at hka
      rcases hka with hka | hka
      · exact hd k (mem_cons_of_mem _ hk) hka
      · cases mem_singleton.mp hka; exact hb'.1 hk

theorem record_inj {t t' : String} {l l' : List Pre} :
    Pre.hash (.list (.str t :: l)) = .hash (.list (.str t' :: l')) ↔ t = t' ∧ l = l' := by
  simp only [Pre.hash.injEq, Pre.list.injEq, cons.injEq, Pre.str.injEq]

theorem taskArguments_inj {a a' : List Pre} {k k' : List (String × Pre)} :
    taskArguments a k = taskArguments a' k' ↔ a = a' ∧ sortKw k = sortKw k' := by
  simp only [taskArguments, record_inj, cons.injEq, Pre.list.injEq, Pre.dict.injEq, true_and, and_true]

theorem evalHash_inj {t t' a a' : Pre} : evalHash t a = evalHash t' a' ↔ t = t' ∧ a = a' := by
  simp only [evalHash, record_inj, cons.injEq, true_and, and_true]

end RedunModel.Pre
