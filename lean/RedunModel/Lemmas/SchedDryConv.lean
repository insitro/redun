/-
C28, converse direction: a dry run that reaches a job it would have to run predicts a real run that runs it.
-/
import RedunModel.Lemmas.SchedCse
namespace RedunModel.SchedCore

theorem execJob_sub (p : Prog) (s : S) (j : JobId) :
    (execJob p s j).submits = s.submits ∨ (execJob p s j).submits = s.submits ++ [j] := by
  refine execJob_cases (motive := fun s' => s'.submits = s.submits ∨ s'.submits = s.submits ++ [j]) p s j
    (fun _ _ _ => Or.inl rfl) (fun _ _ _ _ => Or.inl rfl) (fun _ _ _ _ => Or.inl rfl) (fun _ _ _ => ?_)
    (fun _ _ _ _ _ => Or.inl rfl) (fun _ _ _ _ _ => Or.inr ?_)
  · split <;> exact Or.inl rfl
  · show (register p (consume p s j) j).submits ++ [j] = _
    rw [(register_frame p _ j).2.2]; rfl

theorem pop_sub (p : Prog) (s : S) : ∃ l, (pop p s).submits = s.submits ++ l := by
  cases hq : s.queue with
  | nil => exact ⟨[], by rw [pop_nil p hq, List.append_nil]⟩
  | cons e rest =>
    rw [pop_cons p hq]
    cases e with
    | exec j => exact (execJob_sub p (tl s) j).elim (fun h => ⟨[], by rw [List.append_nil]; exact h⟩) fun h => ⟨[j], h⟩
    | resolve j => exact ⟨[], by rw [List.append_nil]; exact (sv_resolveJob p (tl s) j).sub⟩
    | done j f => exact ⟨[], by rw [List.append_nil]; exact (doneJob_keeps p (tl s) j f).1⟩
    | reject j => exact ⟨[], by rw [List.append_nil]; exact (rejectJob_keeps p (tl s) j).1⟩

theorem step_sub_ne (p : Prog) (s t : S) (hs : Step p s t) (h : s.submits ≠ []) : t.submits ≠ [] := by
  cases hs with
  | pop _ _ =>
    obtain ⟨l, hl⟩ := pop_sub p s
    rw [hl]
    intro h0
    exact h (List.append_eq_nil_iff.mp h0).1
  | complete j _ _ => exact h

theorem within_of_feasible (p : Prog) (hf : Feasible p) (s : S) (hu : ∀ r, s.used r = 0) (j : JobId) :
    jobWithin p s j = true := by
  unfold jobWithin within
  rw [List.all_eq_true]
  intro r _
  have := hf (s.specOf j) r
  simp only [decide_eq_true_eq, hu r]
  unfold spec
  omega

/-- In a state without holders, processing an execution that misses pending twins and cache and has an
executor hands the job to the executor (real run, feasible limits). -/
theorem miss_submits (p : Prog) (hd : p.dryrun = false) (hf : Feasible p) (s : S) (hu : ∀ r, s.used r = 0)
    (j : JobId) (rest : List Ev) (hq : s.queue = Ev.exec j :: rest) (hm : missAtHead p s = true)
    (he : (spec p s j).execOk = true) :
    (pop p s).submits = s.submits ++ [j] ∧ (pop p s).inflight j = true := by
  unfold missAtHead at hm
  rw [hq] at hm
  simp only [Bool.and_eq_true, Option.isNone_iff_eq_none, beq_iff_eq] at hm
  obtain ⟨h1, h2⟩ := hm
  rw [pop_cons p hq]
  have hw := within_of_feasible p hf (tl s) hu j
  refine execJob_cases (motive := fun s' => s'.submits = s.submits ++ [j] ∧ s'.inflight j = true) p (tl s) j
    (fun t ho hl => ?_) (fun _ _ hh hm => absurd (hh.symm.trans h2) hm) (fun _ _ _ h => ?_) (fun _ _ h => ?_)
    (fun _ _ _ _ h => ?_) (fun _ _ _ _ _ => ⟨?_, by simp [submit]⟩)
  · rw [if_pos (show optedIn (spec p s j) = true from ho)] at h1
    exact absurd (h1.symm.trans hl) (by simp)
  · rw [hw] at h; cases h
  · rw [hd] at h; cases h
  · rw [show (spec p (tl s) j).execOk = true from he] at h; cases h
  · show (register p (consume p (tl s) j) j).submits ++ [j] = _
    rw [(register_frame p _ j).2.2]; rfl

end RedunModel.SchedCore
