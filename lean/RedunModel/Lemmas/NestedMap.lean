/-
`map_nested_value` with raising primitives (`RedunModel.Model.NestedMap`): over the repaired primitives it never
raises and is the structural map (`mapWith_new`); over the old ones it succeeds exactly on the `OldOk` values
(`mapWith_old_ok`, `oldOk_of_ok`).
-/
import RedunModel.Model.NestedMap
import RedunModel.Lemmas.Nested
namespace RedunModel.NestedMap
open RedunModel.Nested RedunModel.Nested.NV
variable {α β γ ε : Type}

theorem mapWithEach_eq (p : Prims) (f : α → β) (xs : List (NV α)) :
    mapWithEach p f xs = xs.map (mapWith p f) := by
  induction xs with
  | nil => rfl
  | cons x xs ih => rw [mapWithEach, ih, List.map_cons]

theorem OldOks_iff (xs : List (NV α)) : OldOks xs ↔ ∀ x ∈ xs, OldOk x := by
  induction xs with
  | nil => simp [OldOks]
  | cons x xs ih => simp [OldOks, ih]

theorem seqAll_map_ok {δ : Type} (g : δ → γ) (xs : List δ) :
    seqAll (xs.map (fun x => Except.ok (ε := ε) (g x))) = .ok (xs.map g) := by
  induction xs with
  | nil => rfl
  | cons y ys ih => simp [seqAll, ih]

@[simp] theorem andThen_ok_ok (y : γ) : andThen (ε := ε) (.ok ()) (.ok y) = .ok y := rfl

theorem each_ok {p : Prims} {f : α → β} {xs : List (NV α)}
    (h : ∀ x ∈ xs, mapWith p f x = .ok (mapNV f x)) :
    xs.map (mapWith p f) = xs.map (fun x => Except.ok (mapNV f x)) := List.map_congr_left h

theorem mapWith_new (f : α → β) (v : NV α) : mapWith primsNew f v = .ok (mapNV f v) := by
  induction v using NV.ind with
  | leaf a => rfl
  | list xs ih | tuple xs ih | ntuple _ xs ih | set xs ih =>
    simp [mapWith, mapNV, mapWithEach_eq, mapNVs_eq, each_ok ih, seqAll_map_ok, Except.map]
  | dict ks vs ihk ihv =>
    simp [mapWith, mapNV, mapWithEach_eq, mapNVs_eq, each_ok ihk, each_ok ihv, seqAll_map_ok, ← map_interleave]
  | dcls c xs ih =>
    simp only [mapWith, mapNV, mapWithEach_eq, mapNVs_eq, each_ok ih]
    simp only [← map_pick, List.map_map, Function.comp_def, primsNew, pyObjectSetattr, andThen_ok_ok, seqAll_map_ok]
    cases hd : c.hasDict <;> simp [pyGetDict, hd, Except.map]

theorem mapWith_old_ok (f : α → β) (v : NV α) (hv : OldOk v) : mapWith primsOld f v = .ok (mapNV f v) := by
  induction v using NV.ind with
  | leaf a => rfl
  | list xs ih | tuple xs ih | ntuple _ xs ih | set xs ih =>
    have h := each_ok (fun x hx => ih x hx ((OldOks_iff xs).1 hv x hx))
    simp [mapWith, mapNV, mapWithEach_eq, mapNVs_eq, h, seqAll_map_ok, Except.map]
  | dict ks vs ihk ihv =>
    have hk := each_ok (fun x hx => ihk x hx ((OldOks_iff ks).1 hv.1 x hx))
    have hw := each_ok (fun x hx => ihv x hx ((OldOks_iff vs).1 hv.2 x hx))
    simp [mapWith, mapNV, mapWithEach_eq, mapNVs_eq, hk, hw, seqAll_map_ok, ← map_interleave]
  | dcls c xs ih =>
    obtain ⟨hd, hfz, hxs⟩ := hv
    have h := each_ok (fun x hx => ih x hx ((OldOks_iff xs).1 hxs x hx))
    simp only [mapWith, mapNV, mapWithEach_eq, mapNVs_eq, h]
    simp only [← map_pick, List.map_map, Function.comp_def, primsOld, seqAll_map_ok, pyGetDict, hd]
    cases hf : c.frozen
    · simp [pySetattr, hf, seqAll_map_ok, Except.map]
    · simp [hfz hf, seqAll, Except.map]

theorem seqAll_ok {rs : List (Except ε γ)} {ys : List γ} (h : seqAll rs = .ok ys) :
    ∀ r ∈ rs, ∃ y, r = .ok y := by
  induction rs generalizing ys with
  | nil => nofun
  | cons r rs ih =>
    cases r with
    | error e => cases h
    | ok y =>
      rw [seqAll] at h
      split at h
      · cases h
      · next hs =>
        intro r hr
        cases hr with
        | head => exact ⟨y, rfl⟩
        | tail _ hr => exact ih hs r hr

theorem oldOks_of_ok {f : α → β} {xs : List (NV α)} {ys : List (NV β)}
    (ih : ∀ x ∈ xs, ∀ r, mapWith primsOld f x = .ok r → OldOk x)
    (h : seqAll (xs.map (mapWith primsOld f)) = .ok ys) : OldOks xs :=
  (OldOks_iff xs).2 fun x hx =>
    let ⟨y, hy⟩ := seqAll_ok h _ (List.mem_map_of_mem hx)
    ih x hx y hy

theorem oldOk_of_ok (f : α → β) (v : NV α) (r : NV β) (h : mapWith primsOld f v = .ok r) : OldOk v := by
  induction v using NV.ind generalizing r with
  | leaf a => trivial
  | list xs ih | tuple xs ih | ntuple _ xs ih | set xs ih =>
    rw [mapWith, mapWithEach_eq] at h
    cases hs : seqAll (xs.map (mapWith primsOld f)) with
    | error e => rw [hs] at h; cases h
    | ok ys => exact oldOks_of_ok ih hs
  | dict ks vs ihk ihv =>
    simp only [mapWith, mapWithEach_eq] at h
    split at h
    · cases h
    · split at h
      · next hk hv => exact ⟨oldOks_of_ok ihk hk, oldOks_of_ok ihv hv⟩
      · cases h
      · cases h
  | dcls c xs ih =>
    simp only [mapWith, mapWithEach_eq, ← map_pick] at h
    split at h
    · cases h
    · split at h
      · cases h
      · next h2 =>
        split at h
        · cases h
        · next h3 =>
          refine ⟨?_, fun hf => ?_, ?_⟩
          · cases hd : c.hasDict
            · simp [primsOld, pyGetDict, hd] at h3
            · rfl
          · -- a frozen class: the assignment after the first non-`init` field would have raised
            cases hp : pick false c.initFlags xs with
            | nil => rfl
            | cons y _ =>
              have hset : primsOld.setNonInit c = .error .frozenInstanceError := by
                simp [primsOld, pySetattr, hf]
              rw [hp] at h2
              cases hy : mapWith primsOld f y <;>
                simp [seqAll, andThen, hset, hy] at h2
          · cases hs : seqAll (xs.map (mapWith primsOld f)) with
            | error e => rw [hs] at h; cases h
            | ok ys => exact oldOks_of_ok ih hs

end RedunModel.NestedMap
