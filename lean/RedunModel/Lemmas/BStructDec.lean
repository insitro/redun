/-
The decoder side of the bencode model (C14): the digit cap, decoding an encoding (`decF_enc`), why `decode`'s
fuel suffices (`dec_fuel`), the Python-dict view of a decoded dict (`canonD_ofB`).
-/
import RedunModel.Lemmas.BStruct
namespace RedunModel.BStruct

theorem natDigits_length_le_iff (n : Nat) : ∀ k, 0 < k → ((natDigits n).length ≤ k ↔ n < 10 ^ k) := by
  fun_induction natDigits n with
  | case1 n h =>
    intro k hk
    have : 10 ^ 1 ≤ 10 ^ k := Nat.pow_le_pow_right (by omega) hk
    simp; omega
  | case2 n h ih =>
    intro k hk
    rcases k with _ | _ | k
    · omega
    · have := List.length_pos_iff.mpr (natDigits_ne_nil (n / 10))
      simp only [List.length_append, List.length_singleton, Nat.zero_add, Nat.pow_one]
      omega
    · rw [List.length_append, List.length_singleton, Nat.add_le_add_iff_right, ih (k + 1) (by omega),
        Nat.pow_succ _ (k + 1), Nat.div_lt_iff_lt_mul (by omega)]

theorem intFits_of_lt_ten (z : Int) (h : z.natAbs < 10) : intFits z = true := by
  rw [intFits, natDigits, if_pos h]; rfl

theorem natDigits_length_of_ssize (n : Nat) (h : n < 2 ^ 63) : (natDigits n).length ≤ intMaxStrDigits :=
  Nat.le_trans ((natDigits_length_le_iff n 19 (by omega)).mpr (by omega)) (by decide)

theorem filter_digits_natDigits (n : Nat) : (natDigits n).filter isDigitB = natDigits n :=
  List.filter_eq_self.mpr (natDigits_isDigit n)

theorem pyInt_intDigits (z : Int) (h : intFits z = true) : pyInt (intDigits z) = some z := by
  have h' : (natDigits z.natAbs).length ≤ intMaxStrDigits := by simpa [intFits] using h
  have hlen : (intDigits z).filter isDigitB = natDigits z.natAbs := by
    rw [intDigits_eq]
    split
    · rw [List.filter_cons_of_neg (by decide), filter_digits_natDigits]
    · exact filter_digits_natDigits _
  rw [pyInt, hlen, if_neg (by omega), pyIntCore_intDigits]

theorem pyInt_natDigits (n : Nat) (h : (natDigits n).length ≤ intMaxStrDigits) :
    pyInt (natDigits n) = some (Int.ofNat n) :=
  pyInt_intDigits (.ofNat n) (decide_eq_true h)

theorem decBytes_encBytes (b rest : List UInt8) (hb : b.length < 2 ^ 63) :
    decBytes (encBytes b ++ rest) = .ok (.bytes b, rest) := by
  have hr := readUntil_append 58 (natDigits b.length) (b ++ rest) (natDigits_ne_colon _)
  have h2 : ¬ b.length ≥ 2 ^ 63 := by omega
  rw [encBytes, List.append_assoc, List.cons_append, decBytes, hr]
  simp only [pyInt_natDigits b.length (natDigits_length_of_ssize b.length hb)]
  have h1 : ¬ (Int.ofNat b.length < 0) := by simp
  rw [if_neg h1, if_neg (by simpa using h2), if_neg (by simp)]
  simp

mutual
  /-- what `bencode` can emit on CPython: every int is within the `str()` digit cap (`encodable`) and every
  byte string and dict key is shorter than 2^63 (`Py_ssize_t`: CPython cannot hold a longer one;
  `f.read(n)` raises OverflowError for `n ≥ 2^63`) -/
  def Fits : BVal → Prop
    | .int z => intFits z = true
    | .bytes b => b.length < 2 ^ 63
    | .list l => FitsList l
    | .dict d => FitsDict d
  def FitsList : BList → Prop
    | .nil => True
    | .cons v t => Fits v ∧ FitsList t
  def FitsDict : BDict → Prop
    | .nil => True
    | .cons k v t => k.length < 2 ^ 63 ∧ Fits v ∧ FitsDict t
end

mutual
  /-- fuel that `decF` needs on `enc v` -/
  def cost : BVal → Nat
    | .int _ => 1
    | .bytes _ => 1
    | .list l => 1 + costList l
    | .dict d => 1 + costDict d
  def costList : BList → Nat
    | .nil => 2
    | .cons v t => 1 + cost v + costList t
  def costDict : BDict → Nat
    | .nil => 2
    | .cons _ v t => 1 + cost v + costDict t
end

theorem ofB_ne_none (v : BVal) : ofB v ≠ .none := by cases v <;> simp [ofB]

theorem decF_int (last : Option UInt8) (fuel : Nat) (bs : List UInt8) :
    decF last (fuel + 1) (105 :: bs) =
      match readUntil 101 bs with
      | none => .error .value
      | some (ds, rest) =>
        match pyInt ds with
        | none => .error .value
        | some z => .ok (.int z, rest) := by
  rw [decF, if_pos rfl]; rfl

theorem decF_list (last : Option UInt8) (fuel : Nat) (bs : List UInt8) :
    decF last (fuel + 1) (108 :: bs) = (decListF last fuel bs).map fun p => (.list p.1, p.2) := by
  simp only [decF, (by decide : (108 : UInt8) ≠ 105), if_false, if_true]
  cases decListF last fuel bs <;> rfl

theorem decF_dict (last : Option UInt8) (fuel : Nat) (bs : List UInt8) :
    decF last (fuel + 1) (100 :: bs) = (decDictF last fuel bs).map fun p => (.dict p.1, p.2) := by
  simp only [decF, (by decide : (100 : UInt8) ≠ 105), (by decide : (100 : UInt8) ≠ 108), if_false, if_true]
  cases decDictF last fuel bs <;> rfl

theorem decF_digit (last : Option UInt8) (fuel : Nat) {c : UInt8} (bs : List UInt8) (hc : isDigitB c = true) :
    decF last (fuel + 1) (c :: bs) = decBytes (c :: bs) := by
  simp [decF, ne_of_isDigitB hc (x := 105), ne_of_isDigitB hc (x := 108), ne_of_isDigitB hc (x := 100), hc]

theorem decF_e (last : Option UInt8) (fuel : Nat) (bs : List UInt8) :
    decF last (fuel + 1) (101 :: bs) = .ok (.none, bs) := by
  simp [decF, (by decide : isDigitB 101 = false)]

theorem decListF_of_val {last : Option UInt8} {fuel : Nat} {bs r : List UInt8} {v : DVal}
    (h : decF last fuel bs = .ok (v, r)) (hv : v ≠ .none) :
    decListF last (fuel + 1) bs = (decListF last fuel r).map fun p => (.cons v p.1, p.2) := by
  rw [decListF, h]
  cases v with
  | none => exact absurd rfl hv
  | _ => dsimp only; cases decListF last fuel r <;> rfl

theorem decListF_of_none {last : Option UInt8} {fuel : Nat} {bs r : List UInt8}
    (h : decF last fuel bs = .ok (.none, r)) : decListF last (fuel + 1) bs = .ok (.nil, r) := by
  rw [decListF, h]

theorem decF_encBytes (last : Option UInt8) {fuel : Nat} (hf : 0 < fuel) (b rest : List UInt8) (hb : b.length < 2 ^ 63) :
    decF last fuel (encBytes b ++ rest) = .ok (.bytes b, rest) := by
  obtain ⟨f, rfl⟩ := Nat.exists_eq_succ_of_ne_zero (Nat.ne_of_gt hf)
  have hdec := decBytes_encBytes b rest hb
  obtain ⟨c, t, hct, hd⟩ := natDigits_eq_cons b.length
  have hcons : encBytes b ++ rest = c :: (t ++ 58 :: b ++ rest) := by simp [encBytes, hct]
  rw [hcons] at hdec ⊢
  rw [decF_digit _ _ _ hd, hdec]

theorem fuel_succ {c fuel : Nat} (h : 1 + c ≤ fuel) : ∃ f, fuel = f + 1 ∧ c ≤ f := ⟨fuel - 1, by omega⟩

theorem cost_pos (v : BVal) : 0 < cost v := by cases v <;> rw [cost] <;> omega

mutual
  theorem decF_enc (last : Option UInt8) : ∀ (v : BVal) (fuel : Nat) (rest : List UInt8), Fits v → cost v ≤ fuel →
      decF last fuel (enc v ++ rest) = .ok (ofB v, rest)
    | .int z, fuel, rest, hfit, hf => by
      obtain ⟨f, rfl, -⟩ := fuel_succ (c := 0) hf
      rw [enc_int_append, decF_int, readUntil_append 101 _ rest (intDigits_ne_e z)]
      simp only [pyInt_intDigits z hfit]
      rfl
    | .bytes b, fuel, rest, hfit, hf => decF_encBytes last hf b rest hfit
    | .list l, fuel, rest, hfit, hf => by
      obtain ⟨f, rfl, hl⟩ := fuel_succ hf
      rw [enc, List.cons_append, decF_list, decListF_enc last l f rest hfit hl]
      rfl
    | .dict d, fuel, rest, hfit, hf => by
      obtain ⟨f, rfl, hd⟩ := fuel_succ hf
      rw [enc, List.cons_append, decF_dict, decDictF_enc last d f rest hfit hd]
      rfl
  theorem decListF_enc (last : Option UInt8) : ∀ (l : BList) (fuel : Nat) (rest : List UInt8), FitsList l → costList l ≤ fuel →
      decListF last fuel (encList l ++ rest) = .ok (ofBList l, rest)
    | .nil, fuel, rest, _, hf => by
      obtain ⟨f, rfl, h1⟩ := fuel_succ (c := 1) hf
      obtain ⟨f, rfl, -⟩ := fuel_succ (c := 0) h1
      exact decListF_of_none (decF_e last f rest)
    | .cons v t, fuel, rest, hfit, hf => by
      rw [costList, Nat.add_assoc] at hf
      obtain ⟨f, rfl, hvt⟩ := fuel_succ hf
      rw [encList, List.append_assoc,
        decListF_of_val (decF_enc last v f _ hfit.1 (Nat.le_trans (Nat.le_add_right _ _) hvt)) (ofB_ne_none v),
        decListF_enc last t f rest hfit.2 (Nat.le_trans (Nat.le_add_left _ _) hvt)]
      rfl
  theorem decDictF_enc (last : Option UInt8) : ∀ (d : BDict) (fuel : Nat) (rest : List UInt8), FitsDict d → costDict d ≤ fuel →
      decDictF last fuel (encDict d ++ rest) = .ok (ofBDict d, rest)
    | .nil, fuel, rest, _, hf => by
      obtain ⟨f, rfl, h1⟩ := fuel_succ (c := 1) hf
      obtain ⟨f, rfl, -⟩ := fuel_succ (c := 0) h1
      rw [encDict, List.cons_append, decDictF, decF_e]
      rfl
    | .cons k v t, fuel, rest, hfit, hf => by
      rw [costDict, Nat.add_assoc] at hf
      obtain ⟨f, rfl, hvt⟩ := fuel_succ hf
      have hv : cost v ≤ f := Nat.le_trans (Nat.le_add_right _ _) hvt
      simp only [encDict, List.append_assoc]
      rw [decDictF, decF_encBytes last (Nat.lt_of_lt_of_le (cost_pos v) hv) k _ hfit.1]
      simp only [decF_enc last v f _ hfit.2.1 hv,
        decDictF_enc last t f rest hfit.2.2 (Nat.le_trans (Nat.le_add_left _ _) hvt)]
      rfl
end

mutual
  theorem cost_le : ∀ v : BVal, cost v + 1 ≤ 2 * (enc v).length
    | .int z => by simp only [cost, enc, List.length_cons, List.length_append]; omega
    | .bytes b => by
      have := List.length_pos_iff.mpr (natDigits_ne_nil b.length)
      simp only [cost, enc, encBytes, List.length_append, List.length_cons]; omega
    | .list l => by have := costList_le l; simp only [cost, enc, List.length_cons]; omega
    | .dict d => by have := costDict_le d; simp only [cost, enc, List.length_cons]; omega
  theorem costList_le : ∀ l : BList, costList l ≤ 2 * (encList l).length
    | .nil => Nat.le_refl _
    | .cons v t => by
      have := cost_le v; have := costList_le t
      simp only [costList, encList, List.length_append]; omega
  theorem costDict_le : ∀ d : BDict, costDict d ≤ 2 * (encDict d).length
    | .nil => Nat.le_refl _
    | .cons k v t => by
      have := cost_le v; have := costDict_le t
      simp only [costDict, encDict, List.length_append]; omega
end

mutual
  theorem fits_encodable : ∀ v : BVal, Fits v → encodable v = true
    | .int _, h => h
    | .bytes _, _ => rfl
    | .list l, h => fitsList_encodable l h
    | .dict d, h => fitsDict_encodable d h
  theorem fitsList_encodable : ∀ l : BList, FitsList l → encodableList l = true
    | .nil, _ => rfl
    | .cons v t, h => by
      rw [encodableList, fits_encodable v h.1, fitsList_encodable t h.2]; rfl
  theorem fitsDict_encodable : ∀ d : BDict, FitsDict d → encodableDict d = true
    | .nil, _ => rfl
    | .cons _ v t, h => by
      rw [encodableDict, fits_encodable v h.2.1, fitsDict_encodable t h.2.2]; rfl
end

theorem readUntil_length (e : UInt8) : ∀ (bs a r : List UInt8), readUntil e bs = some (a, r) → r.length < bs.length
  | [], a, r, h => by simp [readUntil] at h
  | c :: t, a, r, h => by
    rw [readUntil] at h
    split at h
    · cases h; simp
    · split at h
      · rename_i a' r' hr
        cases h
        exact Nat.lt_succ_of_lt (readUntil_length e t a' r hr)
      · cases h

/-- a step that did not run out of fuel and left at most `n` bytes unread -/
def Within {α : Type} (n : Nat) : Except DErr (α × List UInt8) → Prop
  | .error e => e ≠ .fuel
  | .ok (_, rest) => rest.length ≤ n

/-- ... and fewer than `n` when it returned a value (`none`: the end marker, or the end of the data) -/
def Good (n : Nat) : Except DErr (DVal × List UInt8) → Prop
  | .error e => e ≠ .fuel
  | .ok (v, rest) => rest.length ≤ n ∧ (v ≠ .none → rest.length < n)

theorem within_map {α β : Type} {n m : Nat} {r : Except DErr (α × List UInt8)} (g : α → β) (h : Within n r)
    (hnm : n ≤ m) : Within m (r.map fun p => (g p.1, p.2)) := by
  cases r with
  | error e => exact h
  | ok p => exact Nat.le_trans h hnm

/-- a container that took a byte for its tag -/
theorem within_good {α : Type} {n : Nat} {r : Except DErr (α × List UInt8)} (g : α → DVal) (h : Within n r) :
    Good (n + 1) (r.map fun p => (g p.1, p.2)) := by
  cases r with
  | error e => exact h
  | ok p => exact ⟨Nat.le_succ_of_le h, fun _ => Nat.lt_succ_of_le h⟩

theorem good_ite {c : Prop} [Decidable c] {n : Nat} {a b : Except DErr (DVal × List UInt8)} (ha : Good n a)
    (hb : ¬ c → Good n b) : Good n (if c then a else b) := by
  by_cases h : c
  · rwa [if_pos h]
  · rw [if_neg h]; exact hb h

theorem decBytes_good (bs : List UInt8) : Good bs.length (decBytes bs) := by
  unfold decBytes
  cases hr : readUntil 58 bs with
  | none => exact nofun
  | some p =>
    obtain ⟨ds, r⟩ := p
    have hl := readUntil_length 58 bs ds r hr
    dsimp only
    cases pyInt ds with
    | none => exact nofun
    | some z =>
      refine good_ite nofun fun _ => good_ite nofun fun _ => good_ite nofun fun _ => ?_
      have : (r.drop z.toNat).length < bs.length := by rw [List.length_drop]; omega
      exact ⟨Nat.le_of_lt this, fun _ => this⟩

theorem decF_good (last : Option UInt8) (f : Nat) (bs : List UInt8)
    (ihL : Within bs.length (decListF last f bs)) (ihD : Within bs.length (decDictF last f bs)) (c : UInt8) :
    Good (bs.length + 1) (decF last (f + 1) (c :: bs)) := by
  by_cases h1 : c = 105
  · subst h1
    rw [decF_int]
    cases hr : readUntil 101 bs with
    | none => exact nofun
    | some p =>
      obtain ⟨ds, r⟩ := p
      have hl := readUntil_length 101 bs ds r hr
      dsimp only
      cases pyInt ds with
      | none => exact nofun
      | some z => exact ⟨by omega, fun _ => by omega⟩
  by_cases h2 : c = 108
  · subst h2; rw [decF_list]; exact within_good _ ihL
  by_cases h3 : c = 100
  · subst h3; rw [decF_dict]; exact within_good _ ihD
  by_cases h4 : isDigitB c = true
  · rw [decF_digit _ _ _ h4]; exact decBytes_good (c :: bs)
  rw [decF, if_neg h1, if_neg h2, if_neg h3, if_neg h4]
  exact good_ite ⟨Nat.le_succ _, fun h => absurd rfl h⟩ fun _ => nofun

/-- Where `decode`'s fuel `2 * length + 2` comes from: a value other than the end marker consumes at least one
byte (`Good`), and getting from one byte to the next costs at most two units of fuel, one from `decListF`/`decDictF`
into `decF` and one from `decF` into a container. -/
theorem dec_fuel (last : Option UInt8) : ∀ fuel : Nat,
    (∀ bs, 2 * bs.length + 2 ≤ fuel → Good bs.length (decF last fuel bs)) ∧
    (∀ bs, 2 * bs.length + 3 ≤ fuel → Within bs.length (decListF last fuel bs)) ∧
    (∀ bs, 2 * bs.length + 3 ≤ fuel → Within bs.length (decDictF last fuel bs))
  | 0 => ⟨nofun, nofun, nofun⟩
  | f + 1 => by
    obtain ⟨ihV, ihL, ihD⟩ := dec_fuel last f
    refine ⟨?_, ?_, ?_⟩
    · intro bs hf
      cases bs with
      | nil => rw [decF]; exact good_ite ⟨Nat.le_refl _, fun h => absurd rfl h⟩ fun _ => nofun
      | cons c bs =>
        have hf : 2 * bs.length + 3 ≤ f := Nat.le_of_succ_le_succ hf
        exact decF_good last f bs (ihL bs hf) (ihD bs hf) c
    · intro bs hf
      have hV := ihV bs (Nat.le_of_succ_le_succ hf)
      cases hd : decF last f bs with
      | error e => rw [hd] at hV; rw [decListF, hd]; exact hV
      | ok p =>
        obtain ⟨v, r⟩ := p
        rw [hd] at hV
        by_cases hv : v = .none
        · subst hv; rw [decListF_of_none hd]; exact hV.1
        · rw [decListF_of_val hd hv]
          exact within_map _ (ihL r (by have := hV.2 hv; omega)) hV.1
    · intro bs hf
      have hV := ihV bs (Nat.le_of_succ_le_succ hf)
      rw [decDictF]
      cases hd : decF last f bs with
      | error e => rw [hd] at hV; exact hV
      | ok p =>
        obtain ⟨v, r⟩ := p
        rw [hd] at hV
        cases v with
        | none => exact hV.1
        | int z | list z | dict z => exact nofun
        | bytes k =>
          have hr : 2 * r.length + 3 ≤ f := by have := hV.2 nofun; omega
          have hV2 := ihV r (Nat.le_of_succ_le hr)
          dsimp only
          cases hd2 : decF last f r with
          | error e => rw [hd2] at hV2; exact hV2
          | ok q =>
            obtain ⟨w, r2⟩ := q
            rw [hd2] at hV2
            have hD := ihD r2 (Nat.le_trans (by have := hV2.1; omega) hr)
            dsimp only
            cases hl : decDictF last f r2 with
            | error e => rw [hl] at hD; exact hD
            | ok q => rw [hl] at hD; exact Nat.le_trans hD (Nat.le_trans hV2.1 hV.1)

theorem decode_ne_fuel (data : List UInt8) : decode data ≠ .error .fuel := fun h => by
  have := (dec_fuel data.getLast? _).1 data (Nat.le_refl _)
  rw [decode] at h
  rw [h] at this
  exact this rfl

theorem dHasKey_ofBDict (k : List UInt8) : ∀ t : BDict, dHasKey k (ofBDict t) = true ↔ k ∈ BDict.keys t
  | .nil => by simp [ofBDict, dHasKey, BDict.keys]
  | .cons k' v t => by simp [ofBDict, dHasKey, BDict.keys, dHasKey_ofBDict k t]

theorem dInsert_lt (k : List UInt8) (v : DVal) : ∀ t : BDict, (∀ k' ∈ BDict.keys t, bytesLt k k' = true) →
    dInsert k v (ofBDict t) = .cons k v (ofBDict t)
  | .nil, _ => by simp [ofBDict, dInsert]
  | .cons k' v' t, h => by simp [ofBDict, dInsert, h k' (by simp [BDict.keys])]

mutual
  theorem canonD_ofB : ∀ v : BVal, WF v → canonD (ofB v) = ofB v
    | .int _, _ => rfl
    | .bytes _, _ => rfl
    | .list l, h => congrArg DVal.list (canonDList_ofB l h)
    | .dict d, h => congrArg DVal.dict (canonDDict_ofB d h)
  theorem canonDList_ofB : ∀ l : BList, WFList l → canonDList (ofBList l) = ofBList l
    | .nil, _ => rfl
    | .cons v t, h => by rw [ofBList, canonDList, canonD_ofB v h.1, canonDList_ofB t h.2]
  theorem canonDDict_ofB : ∀ d : BDict, WFDict d → canonDDict (ofBDict d) = ofBDict d
    | .nil, _ => rfl
    | .cons k v t, h => by
      have hk : dHasKey k (ofBDict t) = false := Bool.eq_false_iff.mpr fun hh => by
        have := h.2.1 k ((dHasKey_ofBDict k t).mp hh)
        rw [bytesLt_irrefl] at this; cases this
      rw [ofBDict, canonDDict, canonDDict_ofB t h.2.2, canonD_ofB v h.1]
      simp only [hk]
      exact dInsert_lt k (ofB v) t h.2.1
end

end RedunModel.BStruct
