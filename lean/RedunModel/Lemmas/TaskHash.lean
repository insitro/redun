/-
Helper lemmas for the task-hash model (C17): sorting `hash_includes` by digest rank.
-/
import RedunModel.Model.TaskHash
import RedunModel.Lemmas.Pre
namespace RedunModel.TaskHash
open RedunModel.Pre List

theorem insertsBy_insertR : InsertsBy (fun a b : Inc => a.1 ≤ b.1) insertR :=
  ⟨fun _ => rfl, fun _ _ _ => rfl⟩

theorem sortR_perm (l : List Inc) : (sortR l).Perm l := insertsBy_insertR.sort_perm l

/-- ranks are consistent with the items: equal rank ⇒ equal pre-image (the rank is the position of
the item's digest in the digest order, and digests are injective on pre-images) -/
def RankOK (l : List Inc) : Prop := ∀ a ∈ l, ∀ b ∈ l, a.1 = b.1 → a.2 = b.2

theorem sortR_eq_of_perm {l₁ l₂ : List Inc} (hp : l₁.Perm l₂) (hr : RankOK l₁) : sortR l₁ = sortR l₂ :=
  insertsBy_insertR.sort_eq_of_perm (P := (· ∈ l₁)) (fun _ _ _ _ h => h)
    (fun a b _ _ h => (Nat.le_total a.1 b.1).resolve_left h) (fun _ _ _ _ _ _ => Nat.le_trans) hp (fun _ h => h)
    fun a b ha hb hab hba => Prod.ext (Nat.le_antisymm hab hba) (hr a ha b hb (Nat.le_antisymm hab hba))

end RedunModel.TaskHash
