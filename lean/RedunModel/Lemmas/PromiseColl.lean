/-
Lemmas about the collectors of the promise machine (`Promise.all`, `wait_promises`):
* `OInv` — origins: the promise a wrapped callback / a `wrapper` continuation settles is always a chained promise,
           a collector's target is a promise created by that collector (so nothing else in the library settles it);
* `LInv` — at most one registration loop per collector, at the position recorded in the collector, and exactly one
           while inputs remain to be registered;
* `RInv` — the collector's closure state (`num_done`, `results`) agrees with the registration accounting of `Inv`
           (`RedunModel.Lemmas.Promise`: which callbacks have been invoked, with what); `RecOk` is what it says
           of one record, `RecOk.frame` what keeps a record's clauses true.
Each is shown to be preserved by the primitives of the machine; the composition over `step` is in
`RedunModel.Lemmas.PromiseSpec`.
-/
import RedunModel.Lemmas.Promise
import RedunModel.Lemmas.ListAux
namespace RedunModel.Promise

/-- the promise a callback settles (`wrap`: the chained promise of its `then()` call) -/
def Cb.q (c : Cb) : Nat := match c.kind with | .wrap _ q => q | .direct q => q

def InSys (s : State) (c : Cb) : Prop :=
  (∃ (p : Nat) (pr : Prom) (b : Br), s.heap[p]? = some pr ∧ c ∈ pick b pr) ∨ (∃ v todo, Frame.notify v todo ∈ s.stack ∧ c ∈ todo)

theorem InSys_of {s s' : State} {c} (h : InSys s' c) (hh : s'.heap = s.heap)
    (hs : ∀ v todo, Frame.notify v todo ∈ s'.stack → Frame.notify v todo ∈ s.stack) : InSys s c := by
  rcases h with ⟨p, pr, b, hp, hc⟩ | ⟨v, todo, hm, hc⟩
  · exact .inl ⟨p, pr, b, hh ▸ hp, hc⟩
  · exact .inr ⟨v, todo, hs v todo hm, hc⟩

theorem InSys_settle {s : State} {b q v c} (h : InSys (settle b q v s) c) : InSys s c := by
  rcases settle_cases b q v s with e | ⟨pr, hq, hp, e⟩
  · rwa [e] at h
  · rw [e] at h
    rcases h with ⟨p, pr', b', hp', hc⟩ | ⟨v', todo, hm, hc⟩
    · rcases (set_lookup (lt_of_getElem? hq)).mp hp' with ⟨rfl, rfl⟩ | ⟨_, hp'⟩
      · cases b' <;> cases hc
      · exact .inl ⟨p, pr', b', hp', hc⟩
    · simp only [List.mem_cons] at hm
      rcases hm with hm | hm
      · cases hm; exact .inl ⟨q, pr, b, hq, hc⟩
      · exact .inr ⟨v', todo, hm, hc⟩

theorem InSys_thenOp {s : State} {p r j c} (h : InSys (thenOp p r j s) c) :
    InSys s c ∨ (p < s.heap.length ∧ ∃ b, c = newCb s r j b) := by
  cases hp : s.heap[p]? with
  | none => rw [thenOp_bad (by simpa using hp)] at h; exact .inl (InSys_of h rfl (fun _ _ h => h))
  | some pr =>
  have hplt : p < s.heap.length := lt_of_getElem? hp
  rw [thenOp_eq hp] at h
  -- on the lists of `p` afterwards and in the loop that may start: callbacks of `p` and the two new ones
  have hnew : ∀ b, c ∈ pick b pr ++ [newCb s r j b] → InSys s c ∨ (p < s.heap.length ∧ ∃ b, c = newCb s r j b) :=
    fun b hc => (List.mem_append.mp hc).elim (fun hc => .inl (.inl ⟨p, pr, b, hp, hc⟩))
      (fun hc => .inr ⟨hplt, b, List.mem_singleton.mp hc⟩)
  rcases h with ⟨p', pr', b', hp', hc⟩ | ⟨v', todo, hm, hc⟩
  · rcases (heap_then_lookup hplt).mp hp' with ⟨rfl, rfl⟩ | ⟨_, hp'⟩ | ⟨rfl, rfl⟩
    · rcases Prom.pick_attach pr (newCb s r j) b' with e | e <;> rw [e] at hc
      · exact hnew b' hc
      · cases hc
    · exact .inl (.inl ⟨p', pr', b', hp', hc⟩)
    · rw [pick_empty] at hc; cases hc
  · rcases List.mem_append.mp hm with hm | hm
    · obtain ⟨b, v, _, e⟩ := Prom.mem_fire hm
      cases e
      exact hnew b hc
    · exact .inl (.inr ⟨v', todo, hm, hc⟩)

theorem InSys_newProm {s : State} {o c} (h : InSys (newProm o s) c) : InSys s c := by
  rcases h with ⟨p, pr, b, hp, hc⟩ | h
  · rcases getElem?_snoc_eq_some.mp hp with hp | ⟨_, rfl⟩
    · exact .inl ⟨p, pr, b, hp, hc⟩
    · rw [pick_empty] at hc; cases hc
  · exact .inr h

/-- the promise an adoption callback (`promise.do_resolve` passed by `wrapper`) settles is a chained one -/
def AdoptOk (s : State) (c : Cb) : Prop :=
  ∀ b p q, c.kind = .wrap (.adopt b p) q → origin s p = some .chained

structure OInv (s : State) : Prop where
  cbs : ∀ c, InSys s c → origin s c.q = some .chained
  adp : ∀ c, InSys s c → AdoptOk s c
  fin : ∀ r q, Frame.finish r q ∈ s.stack → origin s q = some .chained
  wrp : ∀ arg acts out q, Frame.script arg acts (.wrapper out q) ∈ s.stack → origin s q = some .chained
  ctor : ∀ arg acts out p, Frame.script arg acts (.ctor out p) ∈ s.stack → origin s p = some .user
  coll : ∀ (a : Nat) (r : Coll), s.colls[a]? = some r → origin s r.target = some (.coll a)

def KontOk (s : State) : Kont → Prop
  | .wrapper _ q => origin s q = some .chained
  | .ctor _ p => origin s p = some .user
  | .top => True

/-- the promise a suspended frame will settle has the right origin -/
def FrameOk (s : State) : Frame → Prop
  | .finish _ q => origin s q = some .chained
  | .script _ _ k => KontOk s k
  | _ => True

theorem OInv.frameOk {s : State} (O : OInv s) {f} (h : f ∈ s.stack) : FrameOk s f := by
  cases f with
  | finish r q => exact O.fin r q h
  | script arg acts k =>
    cases k with
    | wrapper out q => exact O.wrp _ _ _ _ h
    | ctor out p => exact O.ctor _ _ _ _ h
    | top => trivial
  | _ => trivial

/-- nothing new holds a promise reference with a wrong origin, and the old references keep theirs -/
theorem OInv.transfer' {s s' : State} (O : OInv s) (hx : Ext s s')
    (hc : ∀ c, InSys s' c → InSys s c ∨ (origin s' c.q = some .chained ∧ AdoptOk s' c))
    (hf : ∀ f, f ∈ s'.stack → f ∈ s.stack ∨ FrameOk s' f)
    (hr : ∀ (a : Nat) (r : Coll), s'.colls[a]? = some r →
        (∃ r', s.colls[a]? = some r' ∧ r'.target = r.target) ∨ origin s' r.target = some (.coll a)) : OInv s' where
  cbs c h := (hc c h).elim (fun h => hx.orig _ _ (O.cbs c h)) (·.1)
  adp c h := (hc c h).elim (fun h b p q hk => hx.orig _ _ (O.adp c h b p q hk)) (·.2)
  fin r q h := (hf _ h).elim (fun h => hx.orig _ _ (O.fin r q h)) id
  wrp arg acts out q h := (hf _ h).elim (fun h => hx.orig _ _ (O.wrp arg acts out q h)) id
  ctor arg acts out p h := (hf _ h).elim (fun h => hx.orig _ _ (O.ctor arg acts out p h)) id
  coll a r h := (hr a r h).elim (fun ⟨r', h', ht⟩ => ht ▸ hx.orig _ _ (O.coll a r' h')) id

/-- `transfer'` with the condition on new frames written out shape by shape -/
theorem OInv.transfer {s s' : State} (O : OInv s) (hx : Ext s s')
    (hc : ∀ c, InSys s' c → InSys s c ∨ (origin s' c.q = some .chained ∧ AdoptOk s' c))
    (hf : ∀ f, f ∈ s'.stack → f ∈ s.stack ∨ (∃ v todo, f = .notify v todo) ∨ (∃ m a i rest, f = .loop m a i rest) ∨
        (∃ r q, f = .finish r q ∧ origin s' q = some .chained) ∨
        (∃ arg acts out q, f = .script arg acts (.wrapper out q) ∧ origin s' q = some .chained) ∨
        (∃ arg acts out p, f = .script arg acts (.ctor out p) ∧ origin s' p = some .user) ∨
        (∃ arg acts, f = .script arg acts .top))
    (hr : ∀ (a : Nat) (r : Coll), s'.colls[a]? = some r →
        (∃ r', s.colls[a]? = some r' ∧ r'.target = r.target) ∨ origin s' r.target = some (.coll a)) : OInv s' := by
  refine O.transfer' hx hc (fun f h => (hf f h).imp_right fun h => ?_) hr
  rcases h with ⟨_, _, rfl⟩ | ⟨_, _, _, _, rfl⟩ | ⟨_, _, rfl, ho⟩ | ⟨_, _, _, _, rfl, ho⟩ | ⟨_, _, _, _, rfl, ho⟩ | ⟨_, _, rfl⟩
  · trivial
  · trivial
  · exact ho
  · exact ho
  · exact ho
  · trivial

theorem mkCb_q (rid b f q) : (mkCb rid b f q).q = q := by
  unfold mkCb Cb.q; cases f <;> rfl

theorem mkCb_wrap {rid b f q g q'} (h : (mkCb rid b f q).kind = .wrap g q') : f = some g := by
  cases f with
  | none => cases h
  | some g' => cases h; rfl

theorem newCb_wrap {s : State} {r j b g q} (h : (newCb s r j b).kind = .wrap g q) : r = some g ∨ j = some g := by
  have := mkCb_wrap h
  cases b
  · exact .inl this
  · exact .inr this

theorem OInv_settle {s : State} (O : OInv s) (b q v) : OInv (settle b q v s) := by
  refine O.transfer' (Ext_settle b q v s) (fun c h => .inl (InSys_settle h)) ?_ ?_
  · intro f hf
    rcases settle_stack b q v s with e | ⟨todo, e⟩ <;> rw [e] at hf
    · exact .inl hf
    · exact (List.mem_cons.mp hf).elim (fun e => .inr (by subst e; trivial)) .inl
  · intro a r h; rw [settle_colls] at h; exact .inl ⟨r, h, rfl⟩

theorem OInv_thenOp {s : State} (O : OInv s) (p r j)
    (hadp : ∀ b p', (r = some (.adopt b p') ∨ j = some (.adopt b p')) → origin s p' = some .chained) :
    OInv (thenOp p r j s) := by
  refine O.transfer' (Ext_thenOp p r j s) ?_ ?_ ?_
  · intro c h
    rcases InSys_thenOp h with h | ⟨hp, b, rfl⟩
    · exact .inl h
    · rw [show (newCb s r j b).q = s.heap.length from mkCb_q ..]
      exact .inr ⟨origin_thenOp_new hp, fun b' p' q hk => (Ext_thenOp p r j s).orig _ _ (hadp b' p' (newCb_wrap hk))⟩
  · intro f hf
    rcases thenOp_stack p r j s with e | ⟨v, todo, e⟩ <;> rw [e] at hf
    · exact .inl hf
    · exact (List.mem_cons.mp hf).elim (fun e => .inr (by subst e; trivial)) .inl
  · intro a r h; rw [thenOp_colls] at h; exact .inl ⟨r, h, rfl⟩

theorem OInv_newProm {s : State} (O : OInv s) (o) : OInv (newProm o s) :=
  O.transfer' (Ext_newProm o s) (fun _ h => .inl (InSys_newProm h)) (fun _ hf => .inl hf)
    (fun _ r h => .inl ⟨r, h, rfl⟩)

theorem OInv.same_heap {s s' : State} (O : OInv s) (hh : s'.heap = s.heap) (hc : s'.colls = s.colls)
    (hf : ∀ f, f ∈ s'.stack → f ∈ s.stack ∨ (f.todo = [] ∧ FrameOk s' f)) : OInv s' := by
  refine O.transfer' (.of_heap_eq hh) (fun c h => .inl ?_) (fun f h => (hf f h).imp_right (·.2))
    (fun _ r h => .inl ⟨r, hc ▸ h, rfl⟩)
  rcases h with ⟨p, pr, b, hp, hc⟩ | ⟨v, todo, hm, hc⟩
  · exact .inl ⟨p, pr, b, hh ▸ hp, hc⟩
  · rcases hf _ hm with h | ⟨h, _⟩
    · exact .inr ⟨v, todo, h, hc⟩
    · cases h; cases hc

theorem OInv.emit {s : State} (O : OInv s) (e) : OInv (emit e s) :=
  O.same_heap rfl rfl (fun _ h => .inl h)

theorem OInv.push {s : State} (O : OInv s) (f : Frame) (hn : f.todo = []) (hf : FrameOk s f) : OInv (push f s) :=
  O.same_heap rfl rfl (fun _ h => (List.mem_cons.mp h).elim (fun e => .inr (by subst e; exact ⟨hn, hf⟩)) .inl)

theorem OInv.pop {s : State} (O : OInv s) {f rest} (hs : s.stack = f :: rest) : OInv { s with stack := rest } :=
  O.same_heap rfl rfl (fun _ h => .inl (hs ▸ List.mem_cons_of_mem _ h))

theorem OInv.setColl {s : State} (O : OInv s) {a r r'} (h : s.colls[a]? = some r) (ht : r'.target = r.target) :
    OInv (setColl s a r') := by
  refine O.transfer' (.of_heap_eq rfl) (fun _ h => .inl h) (fun _ h => .inl h) fun a' x hx => .inl ?_
  rcases (set_lookup (lt_of_getElem? h)).mp hx with ⟨rfl, rfl⟩ | ⟨_, hx⟩
  · exact ⟨r, h, ht.symm⟩
  · exact ⟨x, hx, rfl⟩

def Frame.rest : Frame → List Nat
  | .loop _ _ _ rest => rest
  | _ => []

def isLoop (a : Nat) : Frame → Bool
  | .loop _ a' _ _ => a' == a
  | _ => false
def loopCnt (a : Nat) (st : List Frame) : Nat := st.countP (isLoop a)

structure LInv (s : State) : Prop where
  frame : ∀ m a i rest, Frame.loop m a i rest ∈ s.stack → ∃ r, s.colls[a]? = some r ∧ r.mode = m ∧
    i = r.rids.length ∧ rest = r.subs.drop i ∧ ∀ p ∈ rest, p < s.heap.length
  cnt : ∀ a, loopCnt a s.stack ≤ 1
  run : ∀ (a : Nat) (r : Coll), s.colls[a]? = some r → r.rids.length < r.subs.length → loopCnt a s.stack = 1

theorem loopCnt_cons (a f st) : loopCnt a (f :: st) = loopCnt a st + if isLoop a f then 1 else 0 := by
  simp [loopCnt, List.countP_cons]

theorem LInv.transfer {s s' : State} (L : LInv s) (hc : s'.colls = s.colls) (hl : s.heap.length ≤ s'.heap.length)
    (hm : ∀ m a i rest, Frame.loop m a i rest ∈ s'.stack → Frame.loop m a i rest ∈ s.stack)
    (hn : ∀ a, loopCnt a s'.stack = loopCnt a s.stack) : LInv s' := by
  refine ⟨?_, ?_, ?_⟩
  · intro m a i rest h
    obtain ⟨r, h1, h2, h3, h4, h5⟩ := L.frame m a i rest (hm m a i rest h)
    exact ⟨r, hc ▸ h1, h2, h3, h4, fun p hp => Nat.lt_of_lt_of_le (h5 p hp) hl⟩
  · intro a; rw [hn]; exact L.cnt a
  · intro a r h hlt; rw [hn]; exact L.run a r (hc ▸ h) hlt

theorem LInv.pushed {s s' : State} (L : LInv s) (hc : s'.colls = s.colls) (hl : s.heap.length ≤ s'.heap.length)
    (hs : s'.stack = s.stack ∨ ∃ f, s'.stack = f :: s.stack ∧ ∀ m a i rest, f ≠ .loop m a i rest) : LInv s' := by
  rcases hs with e | ⟨f, e, hf⟩
  · exact L.transfer hc hl (fun _ _ _ _ h => e ▸ h) (fun _ => by rw [e])
  · refine L.transfer hc hl (fun m a i rest h => ?_) (fun a => ?_)
    · exact (List.mem_cons.mp (e ▸ h)).resolve_left fun h => hf m a i rest h.symm
    · rw [e, loopCnt_cons]
      cases f with
      | loop m a' i rest => exact absurd rfl (hf m a' i rest)
      | _ => rfl

theorem LInv_settle {s : State} (L : LInv s) (b q v) : LInv (settle b q v s) :=
  L.pushed (settle_colls ..) (Nat.le_of_eq (settle_heap_length ..).symm)
    ((settle_stack b q v s).imp_right fun ⟨_, e⟩ => ⟨_, e, nofun⟩)

theorem LInv_thenOp {s : State} (L : LInv s) (p r j) : LInv (thenOp p r j s) :=
  L.pushed (thenOp_colls ..) (Ext_thenOp p r j s).len ((thenOp_stack p r j s).imp_right fun ⟨_, _, e⟩ => ⟨_, e, nofun⟩)

theorem LInv_newProm {s : State} (L : LInv s) (o) : LInv (newProm o s) :=
  L.pushed rfl (Ext_newProm o s).len (.inl rfl)

theorem LInv.push {s : State} (L : LInv s) (f : Frame) (hf : ∀ m a i rest, f ≠ .loop m a i rest) : LInv (push f s) :=
  L.pushed rfl (Nat.le_refl _) (.inr ⟨f, rfl, hf⟩)

theorem LInv.emit {s : State} (L : LInv s) (e : Event) : LInv (emit e s) :=
  L.pushed rfl (Nat.le_refl _) (.inl rfl)

theorem LInv.pop {s : State} (L : LInv s) {f rest} (hs : s.stack = f :: rest)
    (hf : f.rest = []) : LInv { s with stack := rest } := by
  refine ⟨?_, ?_, ?_⟩
  · intro m a i rest' h
    exact L.frame m a i rest' (by rw [hs]; exact List.mem_cons_of_mem _ h)
  · intro a
    have := L.cnt a
    rw [hs, loopCnt_cons] at this
    show loopCnt a rest ≤ 1
    omega
  · intro a r h hlt
    have h1 := L.run a r h hlt
    rw [hs, loopCnt_cons] at h1
    show loopCnt a rest = 1
    by_cases hl : isLoop a f = true
    · -- the popped frame is the (finished) loop of `a`: then its collector is complete
      exfalso
      cases f with
      | loop m a' i rest' =>
        simp only [isLoop, beq_iff_eq] at hl
        subst hl
        obtain ⟨r', h1', _, h3, h4, _⟩ := L.frame m a' i rest' (by rw [hs]; exact List.mem_cons_self ..)
        rw [h] at h1'; cases h1'
        cases rest' with
        | nil =>
          have : (r.subs.drop i).length = 0 := by rw [← h4]; rfl
          rw [List.length_drop] at this
          omega
        | cons p ps => cases hf
      | _ => simp [isLoop] at hl
    · simp [hl] at h1; exact h1

theorem LInv.setColl {s : State} (L : LInv s) {a r r'} (h : s.colls[a]? = some r) (hm : r'.mode = r.mode)
    (hr : r'.rids = r.rids) (hs : r'.subs = r.subs) : LInv (setColl s a r') := by
  have hlt : a < s.colls.length := lt_of_getElem? h
  refine ⟨?_, L.cnt, ?_⟩
  · intro m a' i rest hf
    obtain ⟨x, h1, h2, h3, h4, h5⟩ := L.frame m a' i rest hf
    by_cases ha : a' = a
    · subst ha
      rw [h] at h1; cases h1
      exact ⟨r', (set_lookup hlt).mpr (.inl ⟨rfl, rfl⟩), hm ▸ h2, hr ▸ h3, by rw [hs]; exact h4, h5⟩
    · exact ⟨x, (set_lookup hlt).mpr (.inr ⟨ha, h1⟩), h2, h3, h4, h5⟩
  · intro a' x hx hlt'
    rcases (set_lookup hlt).mp hx with ⟨rfl, rfl⟩ | ⟨_, hx⟩
    · exact L.run a' r h (by rw [← hr, ← hs]; exact hlt')
    · exact L.run a' x hx hlt'

/-- "input number .. has reported" as seen by the collector's counter -/
def doneP (m : Mode) (log : List Event) (rid : Nat) : Bool :=
  match m with
  | .all => decide (calls rid .res log = 1)
  | .wait => decide (calls rid .res log + calls rid .rej log = 1)

/-- one of the closures that `Promise.all` / `wait_promises` themselves pass to `then` -/
def Fn.ofColl : Fn → Bool
  | .allThen .. | .allFail _ | .waitDone _ => true
  | _ => false

/-- a closure that counts an input of its collector: `then(i, ·)` of `Promise.all`, `done` of `wait_promises` -/
def CbKind.counts : CbKind → Bool
  | .wrap (.allThen ..) _ | .wrap (.waitDone _) _ => true
  | _ => false
/-- the `fail` closure of `Promise.all` -/
def CbKind.fails : CbKind → Bool
  | .wrap (.allFail _) _ => true
  | _ => false

/-- what a callback that is one of the library's own closures must be registered as -/
def RidOk (colls : List Coll) (c : Cb) : Fn → Prop
  | .allThen a i => c.br = .res ∧ ∃ r, colls[a]? = some r ∧ r.mode = .all ∧ r.rids[i]? = some c.rid
  | .allFail a => c.br = .rej ∧ ∃ r, colls[a]? = some r ∧ r.mode = .all ∧ c.rid ∈ r.rids
  | .waitDone a => ∃ r, colls[a]? = some r ∧ r.mode = .wait ∧ c.rid ∈ r.rids
  | _ => True

/-- Of every collector record: `reg` — the loop's `i`-th registration is a `then()` call on input `i`; `inc` — so the
numbers in `rids` are distinct; `done` — `num_done` counts the registrations that have reported (`doneP`); `res` —
`results[i]` is what the resolver of the `i`-th registration was invoked with; `kind` — a callback in the system that
carries the `i`-th registration is the closure the loop made for input `i`.  `rid` is the converse of `kind`: a
collector closure in the system carries a registration of its own collector, on the right branch. -/
structure RInv (s : State) : Prop where
  len : ∀ (a : Nat) (r : Coll), s.colls[a]? = some r →
    r.rids.length ≤ r.subs.length ∧ (r.mode = .all → r.results.length = r.subs.length)
  reg : ∀ (a : Nat) (r : Coll) (i rid : Nat), s.colls[a]? = some r → r.rids[i]? = some rid →
    ∃ p, r.subs[i]? = some p ∧ s.regs[rid]? = some p
  inc : ∀ (a : Nat) (r : Coll), s.colls[a]? = some r → r.rids.Pairwise (· < ·)
  done : ∀ (a : Nat) (r : Coll), s.colls[a]? = some r → r.numDone = r.rids.countP (doneP r.mode s.log)
  res : ∀ (a : Nat) (r : Coll) (i rid : Nat) (v : Val), s.colls[a]? = some r → r.mode = .all →
    r.rids[i]? = some rid → Event.invoke rid .res v ∈ s.log → r.results[i]? = some v
  kind : ∀ (a : Nat) (r : Coll) (i : Nat) (c : Cb), s.colls[a]? = some r → InSys s c → r.rids[i]? = some c.rid →
    ∃ q, c.kind = .wrap (loopFn r.mode a i c.br) q
  rid : ∀ (c : Cb) (f : Fn) (q : Nat), InSys s c → c.kind = .wrap f q → RidOk s.colls c f

theorem countP_congr_mem {α} {p q : α → Bool} {l : List α} (h : ∀ x ∈ l, p x = q x) : l.countP p = l.countP q :=
  List.countP_congr fun x hx => by rw [h x hx]

theorem doneP_congr {m log log' rid} (h : ∀ b, calls rid b log' = calls rid b log) : doneP m log' rid = doneP m log rid := by
  cases m <;> simp [doneP, h]

/-- what `RInv` says of one collector record -/
structure RecOk (s : State) (a : Nat) (r : Coll) : Prop where
  len : r.rids.length ≤ r.subs.length ∧ (r.mode = .all → r.results.length = r.subs.length)
  reg : ∀ (i rid : Nat), r.rids[i]? = some rid → ∃ p, r.subs[i]? = some p ∧ s.regs[rid]? = some p
  inc : r.rids.Pairwise (· < ·)
  done : r.numDone = r.rids.countP (doneP r.mode s.log)
  res : ∀ (i rid : Nat) (v : Val), r.mode = .all → r.rids[i]? = some rid → Event.invoke rid .res v ∈ s.log →
    r.results[i]? = some v
  kind : ∀ (i : Nat) (c : Cb), InSys s c → r.rids[i]? = some c.rid → ∃ q, c.kind = .wrap (loopFn r.mode a i c.br) q

theorem RInv.recOk {s : State} (R : RInv s) {a : Nat} {r : Coll} (h : s.colls[a]? = some r) : RecOk s a r :=
  ⟨R.len a r h, fun i rid => R.reg a r i rid h, R.inc a r h, R.done a r h, fun i rid v => R.res a r i rid v h,
    fun i c => R.kind a r i c h⟩

theorem RInv.of_rec {s : State} (h : ∀ (a : Nat) (r : Coll), s.colls[a]? = some r → RecOk s a r)
    (hrid : ∀ (c : Cb) (f : Fn) (q : Nat), InSys s c → c.kind = .wrap f q → RidOk s.colls c f) : RInv s :=
  ⟨fun a r h' => (h a r h').len, fun a r i rid h' => (h a r h').reg i rid, fun a r h' => (h a r h').inc,
    fun a r h' => (h a r h').done, fun a r i rid v h' => (h a r h').res i rid v, fun a r i c h' => (h a r h').kind i c, hrid⟩

/-- a record keeps its invariant when registrations are only added and its own registrations have reported as
before; a callback new to the system that carries one of its registrations must be accounted for by the caller -/
theorem RecOk.frame {s s' : State} {a : Nat} {r : Coll} (K : RecOk s a r)
    (hregs : ∀ (rid p : Nat), s.regs[rid]? = some p → s'.regs[rid]? = some p)
    (hdone : ∀ rid ∈ r.rids, doneP r.mode s'.log rid = doneP r.mode s.log rid)
    (hinv : ∀ rid ∈ r.rids, ∀ v, Event.invoke rid .res v ∈ s'.log → Event.invoke rid .res v ∈ s.log)
    (hsys : ∀ (i : Nat) (c : Cb), InSys s' c → r.rids[i]? = some c.rid →
      InSys s c ∨ ∃ q, c.kind = .wrap (loopFn r.mode a i c.br) q) : RecOk s' a r where
  len := K.len
  reg i rid h := (K.reg i rid h).imp fun _ hp => ⟨hp.1, hregs _ _ hp.2⟩
  inc := K.inc
  done := K.done.trans (countP_congr_mem fun rid hr => (hdone rid hr).symm)
  res i rid v hm h hi := K.res i rid v hm h (hinv rid (List.mem_of_getElem? h) v hi)
  kind i c hs h := (hsys i c hs h).elim (K.kind i c · h) id

theorem RInv.transfer {s s' : State} (R : RInv s) (hc : s'.colls = s.colls)
    (hregs : ∀ (rid p : Nat), s.regs[rid]? = some p → s'.regs[rid]? = some p)
    (hcalls : ∀ rid b, calls rid b s'.log = calls rid b s.log)
    (hinv : ∀ rid v, Event.invoke rid .res v ∈ s'.log → Event.invoke rid .res v ∈ s.log)
    (hk : ∀ (a : Nat) (r : Coll) (i : Nat) (c : Cb), s.colls[a]? = some r → InSys s' c → ¬ InSys s c →
      r.rids[i]? = some c.rid → ∃ q, c.kind = .wrap (loopFn r.mode a i c.br) q)
    (hr : ∀ (c : Cb) (f : Fn) (q : Nat), InSys s' c → ¬ InSys s c → c.kind = .wrap f q → RidOk s.colls c f) :
    RInv s' := by
  refine .of_rec (fun a r h => ?_) (fun c f q hs hkind => ?_)
  · rw [hc] at h
    exact (R.recOk h).frame hregs (fun rid _ => doneP_congr (hcalls rid)) (fun rid _ => hinv rid)
      (fun i c hs h' => (Classical.em (InSys s c)).imp_right (hk a r i c h hs · h'))
  · rw [hc]
    exact (Classical.em (InSys s c)).elim (R.rid c f q · hkind) (hr c f q hs · hkind)

theorem RInv_settle {s : State} (R : RInv s) (b q v) : RInv (settle b q v s) :=
  R.transfer (settle_colls ..) (fun _ _ h => by rw [settle_regs]; exact h) (fun _ _ => by rw [settle_log])
    (fun _ _ h => by rw [settle_log] at h; exact h)
    (fun _ _ _ _ _ h hn => absurd (InSys_settle h) hn) (fun _ _ _ h hn => absurd (InSys_settle h) hn)

theorem RInv_newProm {s : State} (R : RInv s) (o) : RInv (newProm o s) :=
  R.transfer rfl (fun _ _ h => h) (fun _ _ => rfl) (fun _ _ h => h)
    (fun _ _ _ _ _ h hn => absurd (InSys_newProm h) hn) (fun _ _ _ h hn => absurd (InSys_newProm h) hn)

theorem RInv.restack {s : State} (R : RInv s) (st : List Frame)
    (hs : ∀ v todo, Frame.notify v todo ∈ st → Frame.notify v todo ∈ s.stack) : RInv { s with stack := st } :=
  R.transfer rfl (fun _ _ h => h) (fun _ _ => rfl) (fun _ _ h => h)
    (fun _ _ _ _ _ h hn => absurd (InSys_of (s := s) h rfl hs) hn) (fun _ _ _ h hn => absurd (InSys_of (s := s) h rfl hs) hn)

theorem RInv.pop {s : State} (R : RInv s) {f rest} (hs : s.stack = f :: rest) : RInv { s with stack := rest } :=
  R.restack rest (fun v todo h => by rw [hs]; exact List.mem_cons_of_mem _ h)

theorem RInv.emit {s : State} (R : RInv s) (e : Event) (he : ∀ rid b v, e ≠ .invoke rid b v) : RInv (emit e s) :=
  R.transfer rfl (fun _ _ h => h) (fun rid b => by simp [Promise.emit, calls_cons, isInv_false he])
    (fun rid v h => (List.mem_cons.mp h).resolve_left fun h => he rid .res v h.symm)
    (fun _ _ _ _ _ h hn => absurd (InSys_of h rfl (fun _ _ h => h)) hn)
    (fun _ _ _ h hn => absurd (InSys_of h rfl (fun _ _ h => h)) hn)

/-- a `then()` whose callbacks are not the library's collector closures (user functions, adoption, defaults) -/
theorem RInv_thenOp {s : State} (R : RInv s) (p r j)
    (hr : ∀ f, r = some f ∨ j = some f → f.ofColl = false) :
    RInv (thenOp p r j s) := by
  by_cases hp : p < s.heap.length
  case neg => rw [thenOp_bad hp]; exact R.emit _ nofun
  have hnew : ∀ c, InSys (thenOp p r j s) c → ¬ InSys s c → ∃ b, c = newCb s r j b :=
    fun c h hn => (InSys_thenOp h).elim (absurd · hn) (·.2)
  refine R.transfer (thenOp_colls ..) ?_ (fun rid b => thenOp_calls ..) ?_ ?_ ?_
  · intro rid p' h; rw [thenOp_regs hp]; exact getElem?_snoc_eq_some.mpr (.inl h)
  · intro rid v h; exact (thenOp_mem_log p r j s _ (by simp)).mp h
  · intro a r' i c hcoll hs hn hrid
    obtain ⟨b, rfl⟩ := hnew c hs hn
    obtain ⟨p', _, h2⟩ := R.reg a r' i _ hcoll hrid
    rw [show (newCb s r j b).rid = s.regs.length from rfl, List.getElem?_eq_none (Nat.le_refl _)] at h2; cases h2
  · intro c f q hs hn hkind
    obtain ⟨b, rfl⟩ := hnew c hs hn
    have := hr f (newCb_wrap hkind)
    cases f <;> first | trivial | cases this

theorem RidOk_mono {colls colls' : List Coll} {c f}
    (h : ∀ (a : Nat) (r : Coll), colls[a]? = some r → ∃ r', colls'[a]? = some r' ∧ r'.mode = r.mode ∧
      ∀ (i rid : Nat), r.rids[i]? = some rid → r'.rids[i]? = some rid)
    (hk : RidOk colls c f) : RidOk colls' c f := by
  cases f with
  | allThen a i =>
    obtain ⟨h1, r, h2, h3, h4⟩ := hk
    obtain ⟨r', h5, h6, h7⟩ := h a r h2
    exact ⟨h1, r', h5, h6 ▸ h3, h7 _ _ h4⟩
  | allFail a =>
    obtain ⟨h1, r, h2, h3, h4⟩ := hk
    obtain ⟨r', h5, h6, h7⟩ := h a r h2
    obtain ⟨i, hi⟩ := List.getElem?_of_mem h4
    exact ⟨h1, r', h5, h6 ▸ h3, List.mem_of_getElem? (h7 _ _ hi)⟩
  | waitDone a =>
    obtain ⟨r, h2, h3, h4⟩ := hk
    obtain ⟨r', h5, h6, h7⟩ := h a r h2
    obtain ⟨i, hi⟩ := List.getElem?_of_mem h4
    exact ⟨r', h5, h6 ▸ h3, List.mem_of_getElem? (h7 _ _ hi)⟩
  | user _ => trivial
  | adopt _ _ => trivial

theorem RidOk.set {colls : List Coll} {c f} {a : Nat} {r r' : Coll} (h : RidOk colls c f) (hr : colls[a]? = some r)
    (hm : r'.mode = r.mode) (hrids : ∀ (k rid : Nat), r.rids[k]? = some rid → r'.rids[k]? = some rid) :
    RidOk (colls.set a r') c f := by
  refine RidOk_mono (fun a' x hx => ?_) h
  by_cases ha : a' = a
  · subst ha
    rw [hr] at hx; cases hx
    exact ⟨r', (set_lookup (lt_of_getElem? hr)).mpr (.inl ⟨rfl, rfl⟩), hm, hrids⟩
  · exact ⟨x, (set_lookup (lt_of_getElem? hr)).mpr (.inr ⟨ha, hx⟩), rfl, fun _ _ h => h⟩

def newColl (m : Mode) (ps : List Nat) (s : State) : Coll :=
  { mode := m, target := s.heap.length, subs := ps,
    results := (match m with | .all => List.replicate ps.length Val.none | .wait => []), numDone := 0 }

def withColl (m : Mode) (ps : List Nat) (s : State) : State :=
  { newProm (.coll s.colls.length) s with colls := s.colls ++ [newColl m ps s] }

theorem collect_eq (m ps) (s : State) : collect m ps s =
    if refsOk ps s then
      (if ps.isEmpty then settle .res s.heap.length (.list []) (withColl m ps s)
       else push (.loop m s.colls.length 0 ps) (withColl m ps s))
    else emit .badRef s := rfl

theorem Ext_withColl (m ps) (s : State) : Ext s (withColl m ps s) :=
  (Ext_newProm (.coll s.colls.length) s).trans (Ext.of_heap_eq rfl)

theorem OInv_withColl {s : State} (O : OInv s) (m ps) : OInv (withColl m ps s) := by
  refine O.transfer' (Ext_withColl m ps s) (fun c h => .inl (InSys_newProm (InSys_of h rfl (fun _ _ h => h))))
    (fun f h => .inl h) ?_
  intro a r h
  rcases getElem?_snoc_eq_some.mp h with h | ⟨rfl, rfl⟩
  · exact .inl ⟨r, h, rfl⟩
  · right
    unfold origin withColl newProm newColl
    simp

theorem refsOk_lt {ps : List Nat} {s : State} (h : refsOk ps s = true) : ∀ p ∈ ps, p < s.heap.length := by
  intro p hp
  simp only [refsOk, List.all_eq_true, decide_eq_true_eq] at h
  exact h p hp

theorem LInv_withColl_frames {s : State} (L : LInv s) (m ps) :
    ∀ m' a i rest, Frame.loop m' a i rest ∈ s.stack → ∃ r, (withColl m ps s).colls[a]? = some r ∧ r.mode = m' ∧
      i = r.rids.length ∧ rest = r.subs.drop i ∧ ∀ p ∈ rest, p < (withColl m ps s).heap.length := by
  intro m' a i rest h
  obtain ⟨r, h1, h2⟩ := L.frame m' a i rest h
  refine ⟨r, getElem?_snoc_eq_some.mpr (.inl h1), h2.1, h2.2.1, h2.2.2.1, fun p hp => ?_⟩
  have := h2.2.2.2 p hp
  simp only [withColl, newProm, List.length_append, List.length_singleton]; omega

theorem LInv.no_future_loop {s : State} (L : LInv s) {a} (ha : s.colls.length ≤ a) : loopCnt a s.stack = 0 := by
  unfold loopCnt
  rw [List.countP_eq_zero]
  intro f hf
  cases f with
  | loop m a' i rest =>
    simp only [isLoop, beq_iff_eq]
    intro h; subst h
    obtain ⟨r, h1, _⟩ := L.frame m a' i rest hf
    have := lt_of_getElem? h1
    omega
  | _ => simp [isLoop]

theorem LInv_collect {s : State} (L : LInv s) (m ps) : LInv (collect m ps s) := by
  rw [collect_eq]
  split
  · next hrefs =>
    split
    · next hemp =>
      have hps : ps = [] := by simpa using hemp
      refine LInv_settle (s := withColl m ps s) ⟨LInv_withColl_frames L m ps, L.cnt, ?_⟩ _ _ _
      intro a r h hlt
      rcases getElem?_snoc_eq_some.mp h with h | ⟨rfl, rfl⟩
      · exact L.run a r h hlt
      · simp [newColl, hps] at hlt
    · next hne =>
      refine ⟨?_, ?_, ?_⟩
      · intro m' a i rest h
        simp only [push, List.mem_cons] at h
        rcases h with h | h
        · cases h
          refine ⟨newColl m ps s, by simp [withColl, push], rfl, rfl, rfl, fun p hp => ?_⟩
          have := refsOk_lt hrefs p hp
          simp only [withColl, newProm, push, List.length_append, List.length_singleton]; omega
        · exact LInv_withColl_frames L m ps m' a i rest h
      · intro a
        simp only [push, loopCnt_cons, isLoop]
        by_cases ha : s.colls.length = a
        · subst ha
          have : loopCnt s.colls.length (withColl m ps s).stack = 0 := L.no_future_loop (Nat.le_refl _)
          simp [this]
        · have := L.cnt a
          simp [ha]; exact this
      · intro a r h hlt
        simp only [push, loopCnt_cons, isLoop]
        rcases getElem?_snoc_eq_some.mp h with h | ⟨rfl, rfl⟩
        · have hne' : s.colls.length ≠ a := by
            have := lt_of_getElem? h; omega
          simp [hne']; exact L.run a r h hlt
        · have : loopCnt s.colls.length (withColl m ps s).stack = 0 := L.no_future_loop (Nat.le_refl _)
          simp [this]
  · exact L.emit _

theorem OInv_collect {s : State} (O : OInv s) (m ps) : OInv (collect m ps s) := by
  rw [collect_eq]
  split
  · split
    · exact OInv_settle (OInv_withColl O m ps) _ _ _
    · exact (OInv_withColl O m ps).push _ rfl trivial
  · exact O.emit _

theorem RInv_withColl {s : State} (R : RInv s) (m ps) : RInv (withColl m ps s) := by
  have hsys : ∀ {c}, InSys (withColl m ps s) c → InSys s c :=
    fun h => InSys_newProm (InSys_of (s := newProm (.coll s.colls.length) s) h rfl (fun _ _ h => h))
  refine .of_rec (fun a r h => ?_) fun c f q hs hk => RidOk_mono
    (fun a r h => ⟨r, getElem?_snoc_eq_some.mpr (.inl h), rfl, fun _ _ h => h⟩) (R.rid c f q (hsys hs) hk)
  rcases getElem?_snoc_eq_some.mp h with h | ⟨_, rfl⟩
  · exact (R.recOk h).frame (fun _ _ h => h) (fun _ _ => rfl) (fun _ _ _ h => h) (fun _ _ hs _ => .inl (hsys hs))
  · -- the new record has no registrations yet
    exact ⟨by cases m <;> simp [newColl], by simp [newColl], by simp [newColl], by simp [newColl], by simp [newColl],
      by simp [newColl]⟩

theorem RInv.push {s : State} (R : RInv s) (f : Frame) (hf : ∀ v todo, f ≠ .notify v todo) : RInv (push f s) := by
  refine R.restack (f :: s.stack) ?_
  intro v todo h
  simp only [List.mem_cons] at h
  rcases h with h | h
  · exact absurd h.symm (hf v todo)
  · exact h

theorem RInv_collect {s : State} (R : RInv s) (m ps) : RInv (collect m ps s) := by
  rw [collect_eq]
  split
  · split
    · exact RInv_settle (RInv_withColl R m ps) _ _ _
    · exact (RInv_withColl R m ps).push _ (by intros; simp)
  · exact R.emit _ (by intros; simp)

theorem note_eq {s : State} {a r} (h : s.colls[a]? = some r) :
    note a s = { s with colls := s.colls.set a { r with rids := r.rids ++ [s.regs.length] } } := by
  unfold note; rw [h]

theorem RInv.rid_lt {s : State} (R : RInv s) {a : Nat} {r : Coll} {i rid : Nat} (h : s.colls[a]? = some r) (h' : r.rids[i]? = some rid) :
    rid < s.regs.length := by
  obtain ⟨p, _, h2⟩ := R.reg a r i rid h h'
  exact lt_of_getElem? h2

theorem Inv.insys_lt {s : State} (I : Inv s) {c} (h : InSys s c) : c.rid < s.regs.length := by
  rcases h with ⟨p, pr, b, hp, hc⟩ | ⟨v, todo, hm, hc⟩
  · exact (List.getElem?_eq_some_iff.mp (I.owner p pr hp b c hc).2).1
  · obtain ⟨p, pr, h, _⟩ := I.frames v todo hm c hc
    exact lt_of_getElem? h

structure LoopTop (s : State) (m : Mode) (a i p : Nat) (ps : List Nat) (stk : List Frame) (r : Coll) : Prop where
  stack : s.stack = .loop m a i (p :: ps) :: stk
  coll : s.colls[a]? = some r
  mode : r.mode = m
  idx : i = r.rids.length
  drop : p :: ps = r.subs.drop i
  refs : ∀ p' ∈ p :: ps, p' < s.heap.length

theorem LInv.loopTop {s : State} (L : LInv s) {m a i p ps stk} (hs : s.stack = .loop m a i (p :: ps) :: stk) :
    ∃ r, LoopTop s m a i p ps stk r := by
  obtain ⟨r, h1, h2, h3, h4, h5⟩ := L.frame m a i (p :: ps) (by rw [hs]; exact List.mem_cons_self ..)
  exact ⟨r, hs, h1, h2, h3, h4, h5⟩

/-- the last case of `step`: the loop frame `.loop m a i (p :: ps)` on top of `stk` takes one turn -/
def advanced (s : State) (m : Mode) (a i p : Nat) (ps : List Nat) (stk : List Frame) : State :=
  thenOp p (some (loopFn m a i .res)) (some (loopFn m a i .rej)) (push (.loop m a (i + 1) ps) (note a { s with stack := stk }))

theorem drop_succ_of_cons {α} {l : List α} {i x xs} (h : x :: xs = l.drop i) : l[i]? = some x ∧ xs = l.drop (i + 1) := by
  have h1 : l[i]? = some x := by
    have := List.getElem?_drop (xs := l) (i := i) (j := 0)
    rw [← h] at this; simpa using this.symm
  refine ⟨h1, ?_⟩
  have : l.drop (i + 1) = (l.drop i).drop 1 := by rw [List.drop_drop]
  rw [this, ← h]; rfl

theorem OInv_advanced {s : State} (O : OInv s) {m a i p ps stk r} (T : LoopTop s m a i p ps stk r) :
    OInv (advanced s m a i p ps stk) := by
  unfold advanced
  rw [note_eq (s := { s with stack := stk }) T.coll]
  refine OInv_thenOp ?_ _ _ _ (by intro b p' h; cases m <;> simp [loopFn] at h)
  refine OInv.push ?_ _ rfl trivial
  exact (O.pop T.stack).setColl T.coll rfl

theorem LInv_advanced {s : State} (L : LInv s) {m a i p ps stk r} (T : LoopTop s m a i p ps stk r) :
    LInv (advanced s m a i p ps stk) := by
  unfold advanced
  apply LInv_thenOp
  have hlt : a < s.colls.length := lt_of_getElem? T.coll
  rw [note_eq (s := { s with stack := stk }) T.coll]
  have hcnt0 : loopCnt a stk = 0 := by
    have := L.cnt a
    rw [T.stack, loopCnt_cons] at this
    simp [isLoop] at this; omega
  obtain ⟨hsub, hdrop⟩ := drop_succ_of_cons T.drop
  refine ⟨?_, ?_, ?_⟩
  · intro m' a' i' rest' h
    simp only [push, List.mem_cons] at h
    rcases h with h | h
    · cases h
      refine ⟨_, (set_lookup hlt).mpr (.inl ⟨rfl, rfl⟩), T.mode, ?_, ?_, ?_⟩
      · simp [T.idx]
      · exact hdrop
      · intro p' hp'; exact T.refs p' (List.mem_cons_of_mem _ hp')
    · have hne : a' ≠ a := by
        intro e; subst e
        have : loopCnt a' stk ≥ 1 := by
          unfold loopCnt
          exact List.countP_pos_iff.mpr ⟨_, h, by simp [isLoop]⟩
        omega
      obtain ⟨r', h1, h2⟩ := L.frame m' a' i' rest' (by rw [T.stack]; exact List.mem_cons_of_mem _ h)
      exact ⟨r', (set_lookup hlt).mpr (.inr ⟨hne, h1⟩), h2⟩
  · intro a'
    have := L.cnt a'
    rw [T.stack, loopCnt_cons] at this
    simpa [push, loopCnt_cons, isLoop] using this
  · intro a' r' h hlt'
    rcases (set_lookup hlt).mp h with ⟨rfl, rfl⟩ | ⟨hne, h⟩
    · simp [push, loopCnt_cons, isLoop, hcnt0]
    · have := L.run a' r' h hlt'
      rw [T.stack, loopCnt_cons] at this
      simpa [push, loopCnt_cons, isLoop] using this

theorem doneP_fresh {s : State} (I : Inv s) (m) : doneP m s.log s.regs.length = false := by
  have h1 := (I.fresh (Nat.le_refl s.regs.length) .res).2
  have h2 := (I.fresh (Nat.le_refl s.regs.length) .rej).2
  cases m <;> simp [doneP, h1, h2]

/-- the loop turn, field by field: the record of `a` notes the registration, which a `then()` that logs nothing and
changes no status makes on input `p`; the callbacks in the system afterwards are the old ones and the two closures -/
theorem advanced_fields {s : State} {m a i p ps stk r} (T : LoopTop s m a i p ps stk r) :
    (advanced s m a i p ps stk).colls = s.colls.set a { r with rids := r.rids ++ [s.regs.length] } ∧
    (advanced s m a i p ps stk).regs = s.regs ++ [p] ∧ (advanced s m a i p ps stk).log = s.log ∧
    (∀ t, t < s.heap.length → status (advanced s m a i p ps stk) t = status s t) ∧
    ∀ c, InSys (advanced s m a i p ps stk) c →
      InSys s c ∨ ∃ b, c = mkCb s.regs.length b (some (loopFn m a i b)) s.heap.length := by
  have hp : p < s.heap.length := T.refs p (List.mem_cons_self ..)
  unfold advanced
  rw [note_eq (s := { s with stack := stk }) T.coll]
  obtain ⟨h1, _, h3, _⟩ := thenOp_fields (s := push (.loop m a (i + 1) ps)
    { s with stack := stk, colls := s.colls.set a { r with rids := r.rids ++ [s.regs.length] } }) hp
    (some (loopFn m a i .res)) (some (loopFn m a i .rej))
  refine ⟨thenOp_colls .., h1, h3, fun t ht => status_thenOp (s := push _ _) ht, fun c h => ?_⟩
  rcases InSys_thenOp h with h | ⟨_, b, hc⟩
  · refine .inl (InSys_of h rfl fun v todo hm => ?_)
    rw [T.stack]
    exact List.mem_cons_of_mem _ ((List.mem_cons.mp hm).resolve_left nofun)
  · exact .inr ⟨b, by rw [hc]; cases b <;> rfl⟩

theorem RInv_advanced {s : State} (I : Inv s) (R : RInv s) {m a i p ps stk r} (T : LoopTop s m a i p ps stk r) :
    RInv (advanced s m a i p ps stk) := by
  have hlt : a < s.colls.length := lt_of_getElem? T.coll
  obtain ⟨hsub, hdrop⟩ := drop_succ_of_cons T.drop
  obtain ⟨hcolls, hregs, hlog, _, hsys⟩ := advanced_fields T
  -- what a record says of its old registrations still holds: the two new callbacks carry a new number
  have hframe : ∀ {a' x}, s.colls[a']? = some x → RecOk (advanced s m a i p ps stk) a' x := by
    intro a' x hx
    refine (R.recOk hx).frame (fun rid p' h => by rw [hregs]; exact getElem?_snoc_eq_some.mpr (.inl h))
      (fun _ _ => by rw [hlog]) (fun _ _ _ h => hlog ▸ h) fun k c hs hk => .inl ?_
    refine (hsys c hs).resolve_right fun ⟨b, e⟩ => ?_
    have := R.rid_lt hx hk
    rw [e, mkCb_rid] at this
    exact Nat.lt_irrefl _ this
  have hnew : ∀ {k rid}, (r.rids ++ [s.regs.length])[k]? = some rid → r.rids[k]? = some rid ∨ (k = i ∧ rid = s.regs.length) :=
    fun h => (getElem?_snoc_eq_some.mp h).imp_right fun ⟨h1, h2⟩ => ⟨h1.trans T.idx.symm, h2.symm⟩
  refine .of_rec (fun a' x h => ?_) (fun c f q hs hk => ?_)
  · rw [hcolls] at h
    rcases (set_lookup hlt).mp h with ⟨rfl, rfl⟩ | ⟨_, h⟩
    · -- the loop's record: one more registration, on input `i`, not yet called
      have K := hframe T.coll
      refine ⟨⟨?_, K.len.2⟩, ?_, ?_, ?_, ?_, ?_⟩
      · have := lt_of_getElem? hsub
        simp only [List.length_append, List.length_singleton]
        rw [← T.idx]; omega
      · intro k rid h'
        rcases hnew h' with h' | ⟨rfl, rfl⟩
        · exact K.reg k rid h'
        · exact ⟨p, hsub, by rw [hregs]; simp⟩
      · refine List.pairwise_append.mpr ⟨K.inc, List.pairwise_singleton .., fun x hx y hy => ?_⟩
        cases List.mem_singleton.mp hy
        obtain ⟨k, hk⟩ := List.getElem?_of_mem hx
        exact R.rid_lt T.coll hk
      · show r.numDone = (r.rids ++ [s.regs.length]).countP (doneP r.mode _)
        rw [List.countP_append, List.countP_singleton, hlog, doneP_fresh I]
        exact hlog ▸ K.done
      · intro k rid v hm h' hiv
        rcases hnew h' with h' | ⟨rfl, rfl⟩
        · exact K.res k rid v hm h' hiv
        · obtain ⟨p', pr, h1, _⟩ := I.logs _ _ _ (hlog ▸ hiv)
          rw [List.getElem?_eq_none (Nat.le_refl _)] at h1; cases h1
      · intro k c hs h'
        rcases hnew h' with h' | ⟨rfl, hrid⟩
        · exact K.kind k c hs h'
        · rcases hsys c hs with hold | ⟨b, rfl⟩
          · exact absurd (I.insys_lt hold) (by omega)
          · exact ⟨s.heap.length, by rw [← T.mode]; rfl⟩
    · exact hframe h
  · rw [hcolls]
    rcases hsys c hs with hold | ⟨b, rfl⟩
    · exact (R.rid c f q hold hk).set T.coll rfl (fun k rid hk => getElem?_snoc_eq_some.mpr (.inl hk))
    · simp only [mkCb, CbKind.wrap.injEq] at hk
      obtain ⟨rfl, _⟩ := hk
      have hmine : (s.colls.set a { r with rids := r.rids ++ [s.regs.length] })[a]? = some { r with rids := r.rids ++ [s.regs.length] } :=
        (set_lookup hlt).mpr (.inl ⟨rfl, rfl⟩)
      have hlast : (r.rids ++ [s.regs.length])[i]? = some s.regs.length := by
        rw [T.idx]; simp
      cases m <;> cases b <;> simp only [loopFn, RidOk, mkCb_rid, mkCb_br]
      · exact ⟨trivial, _, hmine, T.mode, hlast⟩
      · exact ⟨trivial, _, hmine, T.mode, by simp⟩
      · exact ⟨_, hmine, T.mode, by simp⟩
      · exact ⟨_, hmine, T.mode, by simp⟩

theorem InSys_invoked {s : State} {v c todo stk c'} (hs : s.stack = .notify v (c :: todo) :: stk)
    (h : InSys (invoked s v c todo stk) c') : InSys s c' := by
  rcases h with ⟨p, pr, b, hp, hc⟩ | ⟨v', todo', hm, hc⟩
  · exact .inl ⟨p, pr, b, hp, hc⟩
  · simp only [invoked, List.mem_cons] at hm
    rcases hm with hm | hm
    · cases hm; exact .inr ⟨v, c :: todo, by rw [hs]; exact List.mem_cons_self .., List.mem_cons_of_mem _ hc⟩
    · exact .inr ⟨v', todo', by rw [hs]; exact List.mem_cons_of_mem _ hm, hc⟩

theorem OInv_invoked {s : State} (O : OInv s) {v c todo stk} (hs : s.stack = .notify v (c :: todo) :: stk) :
    OInv (invoked s v c todo stk) := by
  refine O.transfer' (.of_heap_eq rfl) (fun c' h => .inl (InSys_invoked hs h)) (fun f hf => ?_) (fun a r h => .inl ⟨r, h, rfl⟩)
  exact (List.mem_cons.mp hf).elim (fun e => .inr (by subst e; trivial)) (fun h => .inl (hs ▸ List.mem_cons_of_mem _ h))

theorem LInv_invoked {s : State} (L : LInv s) {v c todo stk} (hs : s.stack = .notify v (c :: todo) :: stk) :
    LInv (invoked s v c todo stk) :=
  ((L.pop hs rfl).push (.notify v todo) nofun).emit _

theorem InSys_head {s : State} {v c todo stk} (hs : s.stack = .notify v (c :: todo) :: stk) : InSys s c :=
  .inr ⟨v, c :: todo, hs ▸ List.mem_cons_self .., List.mem_cons_self ..⟩

/-- the invocation of a callback leaves a record as it is unless it counts for it: the record did not register the
callback, or registered it as its `fail` closure.  `RecOk` does not read the list of records, so the new state may
carry any (`cs`): a counting closure has rewritten its own record by then. -/
theorem RecOk.invoked {s : State} {a : Nat} {x : Coll} (K : RecOk s a x) {v c todo stk}
    (hs : s.stack = .notify v (c :: todo) :: stk) (h : c.rid ∈ x.rids → x.mode = .all ∧ c.br = .rej) (cs : List Coll) :
    RecOk { invoked s v c todo stk with colls := cs } a x := by
  refine K.frame (fun _ _ h => h) (fun rid hrid => ?_) (fun rid hrid v' hiv => ?_)
    (fun _ _ hs' _ => .inl (InSys_invoked hs hs'))
  · by_cases he : c.rid = rid
    · obtain ⟨hm, hb⟩ := h (he ▸ hrid)
      simp [doneP, hm, calls_invoked, hb]
    · exact doneP_congr fun b => by simp [calls_invoked, he]
  · refine (List.mem_cons.mp hiv).resolve_left fun e => ?_
    obtain ⟨rfl, hb, _⟩ := Event.invoke.inj e
    rw [(h hrid).2] at hb; cases hb

/-- the callback is not one of a collector's closures that count (`allThen`, `waitDone`): the collectors'
counters still agree with the log -/
theorem RInv_invoked_other {s : State} (R : RInv s) {v c todo stk}
    (hs : s.stack = .notify v (c :: todo) :: stk) (hk : c.kind.counts = false) :
    RInv (invoked s v c todo stk) := by
  refine .of_rec (fun a r h => (R.recOk h).invoked hs (fun hrid => ?_) _)
    (fun c' f q hs' hk' => R.rid c' f q (InSys_invoked hs hs') hk')
  -- a collector that registered `c` made it one of its closures; only `fail` does not count
  obtain ⟨k, h'⟩ := List.getElem?_of_mem hrid
  obtain ⟨q, hq⟩ := R.kind a r k c h (InSys_head hs) h'
  rw [hq] at hk
  cases hm : r.mode <;> cases hb : c.br <;> simp [loopFn, hm, hb, CbKind.counts] at hk
  exact ⟨rfl, rfl⟩

theorem pairwise_lt_inj {l : List Nat} (h : l.Pairwise (· < ·)) {k i x : Nat} (hk : l[k]? = some x) (hi : l[i]? = some x) :
    k = i :=
  (List.getElem?_inj (lt_of_getElem? hk) (h.imp Nat.ne_of_lt)).mp (hk.trans hi.symm)

/-- `c` is a closure of the collector with record `r` that counts an input: `then(i, v)` of `Promise.all`, which also
stores `v`, or `done` of `wait_promises`.  `res'`: the results afterwards; `V`: what the target is resolved with once
the count is complete. -/
def Counts (r : Coll) (c : Cb) (v : Val) (res' : List Val) (V : Val) : Prop :=
  c.rid ∈ r.rids ∧
  ((r.mode = .all ∧ c.br = .res ∧ ∃ i, r.rids[i]? = some c.rid ∧ res' = r.results.set i v ∧ V = .list res') ∨
   (r.mode = .wait ∧ res' = r.results ∧ V = .list (r.subs.map .prom)))

theorem loopFn_same_coll {m m' a a' i i' b} (h : loopFn m a i b = loopFn m' a' i' b) : a = a' := by
  cases m <;> cases m' <;> cases b <;> simp [loopFn] at h <;> omega

theorem RInv.one_coll {s : State} (R : RInv s) {c} (hc : InSys s c) {a a' : Nat} {r x : Coll}
    (h : s.colls[a]? = some r) (h' : s.colls[a']? = some x) (hi : c.rid ∈ r.rids) (hk : c.rid ∈ x.rids) : a' = a := by
  obtain ⟨i, hi⟩ := List.getElem?_of_mem hi
  obtain ⟨k, hk⟩ := List.getElem?_of_mem hk
  obtain ⟨q, e⟩ := R.kind a r i c h hc hi
  obtain ⟨q', e'⟩ := R.kind a' x k c h' hc hk
  rw [e, CbKind.wrap.injEq] at e'
  exact (loopFn_same_coll e'.1).symm

/-- a counting closure of collector `a` is invoked: the callback leaves the loop, `num_done += 1` (and
`results[i] = v` for `Promise.all`) -/
theorem RInv_invoked_counted {s : State} (I : Inv s) (R : RInv s) {v c todo stk a r res' V}
    (hs : s.stack = .notify v (c :: todo) :: stk) (hr : s.colls[a]? = some r) (hf : Counts r c v res' V) :
    RInv (setColl (invoked s v c todo stk) a { r with results := res', numDone := r.numDone + 1 }) := by
  have hcs := InSys_head hs
  have hzero := I.head_uncalled hs
  obtain ⟨hmem, hf⟩ := hf
  have hcalls : ∀ rid b, calls rid b (invoked s v c todo stk).log =
      calls rid b s.log + if c.rid = rid ∧ c.br = b then 1 else 0 := fun rid b => calls_invoked rid b
  have hsys : ∀ {c'}, InSys (setColl (invoked s v c todo stk) a { r with results := res', numDone := r.numDone + 1 }) c' →
      InSys s c' := fun h => InSys_invoked hs (InSys_of h rfl fun _ _ h => h)
  have K := R.recOk hr
  refine .of_rec (fun a' x h => ?_) (fun c' f' q' hs' hk' => (R.rid c' f' q' (hsys hs') hk').set hr rfl (fun _ _ h => h))
  rcases (set_lookup (lt_of_getElem? hr)).mp h with ⟨rfl, rfl⟩ | ⟨hne, h⟩
  · refine ⟨⟨K.len.1, fun hm => ?_⟩, K.reg, K.inc, ?_, ?_, fun k c' hs' => K.kind k c' (hsys hs')⟩
    · rcases hf with ⟨_, _, i, _, rfl, _⟩ | ⟨hw, _⟩
      · simpa using K.len.2 hm
      · rw [hw] at hm; cases hm
    · show r.numDone + 1 = r.rids.countP (doneP r.mode (invoked s v c todo stk).log)
      rw [K.done]
      -- the registration of `c` is the only one whose `doneP` changes, from false to true
      refine (countP_flip (K.inc.imp Nat.ne_of_lt) hmem (fun y _ hy => doneP_congr fun b => ?_) ?_ ?_).symm
      · have : ¬ c.rid = y := fun e => hy e.symm
        simp [hcalls, this]
      · cases r.mode <;> simp [doneP, hzero]
      · rcases hf with ⟨hm, hb, _⟩ | ⟨hm, _⟩
        · simp [doneP, hm, hcalls, hb, hzero]
        · cases hb : c.br <;> simp [doneP, hm, hcalls, hb, hzero]
    · intro k rid v' hm h' hiv
      obtain ⟨_, _, i, hrid, rfl, _⟩ := hf.resolve_right (fun h => by rw [hm] at h; cases h.1)
      have hi_lt : i < r.results.length := by
        have := lt_of_getElem? hrid
        have := K.len.1
        rw [K.len.2 hm]; omega
      show (r.results.set i v)[k]? = some v'
      rcases List.mem_cons.mp hiv with e | hold
      · obtain ⟨rfl, _, rfl⟩ := Event.invoke.inj e
        cases pairwise_lt_inj K.inc h' hrid
        simp [hi_lt]
      · have hki : k ≠ i := by
          rintro rfl
          rw [hrid] at h'; cases h'
          have := calls_pos_iff.mpr ⟨_, hold⟩
          have := hzero .res
          omega
        rw [List.getElem?_set_ne (fun e => hki e.symm)]
        exact K.res k rid v' hm h' hold
  · -- no other collector registered `c`
    exact (R.recOk h).invoked hs (fun hrid => absurd (R.one_coll hcs hr h hmem hrid) hne) _

end RedunModel.Promise
