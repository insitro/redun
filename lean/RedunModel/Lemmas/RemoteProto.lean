/-
Helper lemmas for `RedunModel.Model.RemoteProto` (C32): the job-name scanner, the `-array` suffix, scratch
paths, array index files, and the invariants of `gather_inflight_jobs`.  Core Lean only.
-/
import RedunModel.Model.RemoteProto
import RedunModel.Lemmas.Script
import RedunModel.Lemmas.ListAux
namespace RedunModel.RemoteProto
open RedunModel.Script (Str splitNL joinNL)

/-- non-empty lowercase hex text: eval hashes (`hash_struct`) and array ids (`uuid4().hex`) -/
def IsHex (h : Str) : Prop := h ≠ [] ∧ ∀ c ∈ h, c ∈ "0123456789abcdef".toList

theorem hex_chars : ∀ c ∈ "0123456789abcdef".toList, c ≠ '-' ∧ c ≠ '\n' ∧ c ≠ '/' ∧ c ≠ 'y' := by
  rw [Script.toList_lit rfl]
  decide

theorem hex_ne_dash {h : Str} (hh : IsHex h) : '-' ∉ h := fun hm => (hex_chars _ (hh.2 _ hm)).1 rfl
theorem hex_ne_nl {h : Str} (hh : IsHex h) : '\n' ∉ h := fun hm => (hex_chars _ (hh.2 _ hm)).2.1 rfl
theorem hex_ne_slash {h : Str} (hh : IsHex h) : '/' ∉ h := fun hm => (hex_chars _ (hh.2 _ hm)).2.2.1 rfl
theorem hex_ne_y {h : Str} (hh : IsHex h) : 'y' ∉ h := fun hm => (hex_chars _ (hh.2 _ hm)).2.2.2 rfl

/-- one step of the scanner: up to the first newline, every `-` that a non-empty `-`-free run follows makes that
run the candidate -/
theorem scanHash_cons (c : Char) (rest : Str) (best : Option Str) :
    scanHash (c :: rest) best = if c = '\n' then best else
      scanHash rest (if c = '-' ∧ rest.takeWhile (· ≠ '-') ≠ [] then some (rest.takeWhile (· ≠ '-')) else best) := by
  conv => lhs; unfold scanHash
  split
  · rfl
  · split
    · rcases rest with _ | ⟨c', r⟩
      · simp [scanHash]
      · by_cases h : c' = '-' <;> simp [*, List.takeWhile]
    · simp [*]

theorem scanHash_no_dash (s : Str) (best : Option Str) (h : '-' ∉ s) : scanHash s best = best := by
  induction s with
  | nil => rfl
  | cons c cs ih =>
    simp only [List.mem_cons, not_or] at h
    rw [scanHash_cons, if_neg (fun e : c = '-' ∧ _ => h.1 e.1.symm), ih h.2, ite_self]

/-- the greedy `.*` of the pattern: the last `-`-free run after a `-` wins, whatever the prefix holds -/
theorem scanHash_prefix (p h : Str) (best : Option Str) (hp : '\n' ∉ p) (hne : h ≠ []) (h1 : '-' ∉ h) :
    scanHash (p ++ '-' :: h) best = some h := by
  induction p generalizing best with
  | nil =>
    have ht : h.takeWhile (· ≠ '-') = h := by
      simpa using List.takeWhile_append_of_pos (p := (· ≠ '-')) (l₂ := []) fun x hx => by
        simpa using fun e : x = '-' => h1 (e ▸ hx)
    rw [List.nil_append, scanHash_cons, if_neg (by decide), ht, if_pos ⟨rfl, hne⟩, scanHash_no_dash _ _ h1]
  | cons c cs ih =>
    simp only [List.mem_cons, not_or] at hp
    rw [List.cons_append, scanHash_cons, if_neg (Ne.symm hp.1)]
    exact ih _ hp.2

theorem isSuffix_arraySuffix_append (x : Str) : arraySuffix.isSuffixOf (x ++ arraySuffix) = true := by
  rw [List.isSuffixOf_iff_suffix]; exact List.suffix_append _ _

theorem not_isSuffix_of_hex (p h : Str) (hh : IsHex h) : arraySuffix.isSuffixOf (p ++ '-' :: h) = false := by
  -- the name ends with the last character of `h`, the suffix with `y`
  have hc : h.getLast hh.1 ≠ 'y' := fun e => hex_ne_y hh (e ▸ List.getLast_mem _)
  rw [← List.dropLast_concat_getLast hh.1]
  simp [List.isSuffixOf, arraySuffix, List.isPrefixOf, Ne.symm hc]

theorem jobName_array (p h : Str) : jobName p h true = (p ++ '-' :: h) ++ arraySuffix := by simp [jobName]

theorem jobName_single (p h : Str) : jobName p h false = p ++ '-' :: h := by simp [jobName]

theorem stripArraySuffix_array (x : Str) : stripArraySuffix (x ++ arraySuffix) = x := by
  unfold stripArraySuffix
  rw [isSuffix_arraySuffix_append]
  simp

/-- `h` is a non-empty `-`-free run of `s` that directly follows a `-` and is followed by `-` or the end -/
def IsSegment (s h : Str) : Prop :=
  h ≠ [] ∧ '-' ∉ h ∧ ∃ a b, s = a ++ '-' :: h ++ b ∧ (b = [] ∨ ∃ b', b = '-' :: b')

theorem isSegment_run (pre rest : Str) (hne : rest.takeWhile (· ≠ '-') ≠ []) :
    IsSegment (pre ++ '-' :: rest) (rest.takeWhile (· ≠ '-')) := by
  refine ⟨hne, fun hm => by simpa using List.all_eq_true.1 List.all_takeWhile _ hm, pre, rest.dropWhile (· ≠ '-'),
    by simp, ?_⟩
  cases h : rest.dropWhile (· ≠ '-') with
  | nil => exact Or.inl rfl
  | cons x b' =>
    have := List.head?_dropWhile_not (· ≠ '-') rest
    rw [h] at this
    exact Or.inr ⟨b', by simpa using this⟩

theorem scanHash_some (s : Str) (best : Option Str) (pre : Str) (h : Str)
    (hb : ∀ x, best = some x → IsSegment (pre ++ s) x) (hr : scanHash s best = some h) : IsSegment (pre ++ s) h := by
  induction s generalizing best pre with
  | nil => exact hb h hr
  | cons c cs ih =>
    rw [scanHash_cons] at hr
    split at hr
    · exact hb h hr
    · rw [show pre ++ c :: cs = (pre ++ [c]) ++ cs by simp] at hb ⊢
      refine ih _ _ (fun x hx => ?_) hr
      split at hx
      · -- the one place where `best` changes: to the `-`-free run after this `-`
        obtain ⟨rfl, hne⟩ := ‹_ ∧ _›
        cases hx
        simpa using isSegment_run pre cs hne
      · exact hb x hx

/-- `os.path.join(s, seg)` for a segment that does not start with `/`: a prefix depending only on `s`, then `seg` -/
def joinBase (s : Str) : Str := if s = [] ∨ s.getLast? = some '/' then s else s ++ ['/']

theorem pathJoin_base (s seg : Str) (h : seg.head? ≠ some '/') : pathJoin s seg = joinBase s ++ seg := by
  unfold pathJoin joinBase
  split
  · simp at h
  · split <;> simp

/-- a non-empty path segment without `/`: a directory name, an eval hash, an array id -/
def Seg (a : Str) : Prop := a ≠ [] ∧ '/' ∉ a

theorem Seg.head {a : Str} (h : Seg a) : a.head? ≠ some '/' := fun e => h.2 (List.mem_of_mem_head? e)

theorem hex_seg {h : Str} (hh : IsHex h) : Seg h := ⟨hh.1, hex_ne_slash hh⟩

theorem pathJoin_seg (x a b : Str) (ha : Seg a) (hb : b.head? ≠ some '/') :
    pathJoin (x ++ a) b = x ++ a ++ '/' :: b := by
  have hl : a.getLast? ≠ some '/' := fun e => ha.2 (List.mem_of_getLast? e)
  unfold pathJoin
  split
  · simp at hb
  · simp [ha.1, hl]

/-- the closed form of `get_job_scratch_file` / `get_array_scratch_file`: three nested `os.path.join`s of plain
segments -/
theorem scratchFile_eq (s dir a n : Str) (hd : Seg dir) (ha : Seg a) (hn : n.head? ≠ some '/') :
    pathJoin (pathJoin (pathJoin s dir) a) n = joinBase s ++ dir ++ '/' :: a ++ '/' :: n := by
  rw [pathJoin_base s dir hd.head, pathJoin_seg _ dir a hd ha.head,
    show joinBase s ++ dir ++ '/' :: a = (joinBase s ++ dir ++ ['/']) ++ a by simp, pathJoin_seg _ a n ha hn]

theorem scratchFile_inj {s d1 d2 a1 a2 n1 n2 : Str} (hd1 : Seg d1) (hd2 : Seg d2) (ha1 : Seg a1) (ha2 : Seg a2)
    (hn1 : n1.head? ≠ some '/') (hn2 : n2.head? ≠ some '/')
    (h : pathJoin (pathJoin (pathJoin s d1) a1) n1 = pathJoin (pathJoin (pathJoin s d2) a2) n2) :
    d1 = d2 ∧ a1 = a2 ∧ n1 = n2 := by
  rw [scratchFile_eq s d1 a1 n1 hd1 ha1 hn1, scratchFile_eq s d2 a2 n2 hd2 ha2 hn2] at h
  simp only [List.append_assoc, List.cons_append] at h
  obtain ⟨e1, h⟩ := append_cons_inj hd1.2 hd2.2 (List.append_cancel_left h)
  exact ⟨e1, append_cons_inj ha1.2 ha2.2 h⟩

theorem scratchDirs : Seg "jobs".toList ∧ Seg "array_jobs".toList ∧ "jobs".toList ≠ "array_jobs".toList := by
  rw [Script.toList_lit rfl, Script.toList_lit rfl]
  exact ⟨⟨by decide, by decide⟩, ⟨by decide, by decide⟩, by decide⟩

theorem idx_map {γ δ : Type} (f : γ → δ) (l : List γ) (i : Nat) (h : i < l.length) : idx (l.map f) i = .ok (f l[i]) := by
  simp [idx, List.getElem?_map, List.getElem?_eq_getElem h]

theorem idx_oob {γ : Type} (l : List γ) (i : Nat) (h : l.length ≤ i) : idx l i = .error .indexError := by
  simp [idx, List.getElem?_eq_none h]

theorem idx_errorPaths {α β : Type} (scratch : Str) (jobs : List (RJob α β)) (i : Nat) (hi : i < jobs.length) :
    idx (writeArrayFiles scratch jobs).errorPaths i = .ok (errorPath scratch jobs[i]) := by
  simp only [writeArrayFiles, idx_map _ _ _ hi]; rfl

theorem idx_outputPaths {α β : Type} (scratch : Str) (jobs : List (RJob α β)) (i : Nat) (hi : i < jobs.length) :
    idx (writeArrayFiles scratch jobs).outputPaths i = .ok (resultPath scratch jobs[i]) := by
  simp only [writeArrayFiles, idx_map _ _ _ hi]; rfl

/-- the binding `h ↦ id` comes from a non-array job whose name carries `h` -/
def BoundSingle (jobs : List Inflight) (h id : Str) : Prop :=
  ∃ j ∈ jobs, isArrayJobName j.name = false ∧ hashFromJobName j.name = some h ∧ id = j.jobId

/-- the binding `h ↦ id` comes from child `i` of an array job whose eval-hash file has `h` on line `i` -/
def BoundChild (ef : Str → Option (List Str)) (jobs : List Inflight) (h id : Str) : Prop :=
  ∃ j ∈ jobs, isArrayJobName j.name = true ∧ ∃ parent hs i, hashFromJobName j.name = some parent ∧
    ef parent = some hs ∧ (id, i) ∈ j.children ∧ hs[i]? = some h

def Bound (ef : Str → Option (List Str)) (jobs : List Inflight) (h id : Str) : Prop :=
  BoundSingle jobs h id ∨ BoundChild ef jobs h id

theorem Pre.set_inv {P : Str → Str → Prop} (m : Pre) (k v : Str) (hm : ∀ kv ∈ m, P kv.1 kv.2) (hk : P k v) :
    ∀ kv ∈ m.set k v, P kv.1 kv.2 := by
  intro kv hkv
  unfold Pre.set at hkv
  rcases List.mem_cons.1 hkv with e | e
  · subst e; exact hk
  · exact hm kv (List.mem_filter.1 e).1

theorem Pre.get_mem (m : Pre) (k v : Str) (h : m.get k = some v) : (k, v) ∈ m := by
  obtain ⟨⟨k', v'⟩, hf, rfl⟩ := Option.map_eq_some_iff.1 h
  obtain rfl : k' = k := by simpa using List.find?_some hf
  exact List.mem_of_find?_eq_some hf

def ArrInv (all : List Inflight) (arrs : List (Str × List (Str × Nat))) : Prop :=
  ∀ e ∈ arrs, ∃ j ∈ all, j.name = e.1 ∧ isArrayJobName j.name = true ∧ e.2 = j.children

theorem setArray_inv (all : List Inflight) (arrs) (j : Inflight) (hj : j ∈ all) (ha : isArrayJobName j.name = true)
    (h : ArrInv all arrs) : ArrInv all (setArray arrs j.name j.children) := by
  unfold setArray
  split
  · intro e he
    obtain ⟨e0, he0, rfl⟩ := List.mem_map.1 he
    split
    · exact ⟨j, hj, rfl, ha, rfl⟩
    · exact h e0 he0
  · intro e he
    rcases List.mem_append.1 he with h' | h'
    · exact h e h'
    · simp at h'; subst h'; exact ⟨j, hj, rfl, ha, rfl⟩

theorem gatherFirst_inv (all js : List Inflight) (pre : Pre) (arrs) (hsub : ∀ j ∈ js, j ∈ all)
    (hp : ∀ kv ∈ pre, BoundSingle all kv.1 kv.2) (ha : ArrInv all arrs) :
    (∀ kv ∈ (gatherFirst js pre arrs).1, BoundSingle all kv.1 kv.2) ∧ ArrInv all (gatherFirst js pre arrs).2 := by
  induction js generalizing pre arrs with
  | nil => exact ⟨hp, ha⟩
  | cons j js ih =>
    have hj : j ∈ all := hsub j (by simp)
    have hsub' : ∀ x ∈ js, x ∈ all := fun x hx => hsub x (List.mem_cons_of_mem _ hx)
    unfold gatherFirst
    split
    · rename_i harr
      exact ih pre _ hsub' hp (setArray_inv all arrs j hj harr ha)
    · rename_i harr
      split
      · rename_i h hh
        exact ih _ arrs hsub' (Pre.set_inv pre h j.jobId hp ⟨j, hj, by simpa using harr, hh, rfl⟩) ha
      · exact ih pre arrs hsub' hp ha

theorem bindChildren_inv {P : Str → Str → Prop} (hs : List Str) (ch : List (Str × Nat)) (pre pre' : Pre)
    (hp : ∀ kv ∈ pre, P kv.1 kv.2) (hch : ∀ cid i h, (cid, i) ∈ ch → hs[i]? = some h → P h cid)
    (hr : bindChildren hs ch pre = .ok pre') : ∀ kv ∈ pre', P kv.1 kv.2 := by
  induction ch generalizing pre with
  | nil => cases hr; exact hp
  | cons c cs ih =>
    obtain ⟨cid, i⟩ := c
    unfold bindChildren at hr
    split at hr
    · exact ih _ (Pre.set_inv pre _ cid hp (hch cid i _ (by simp) ‹_›)) (fun c j h hc => hch c j h (List.mem_cons_of_mem _ hc)) hr
    · cases hr

theorem gatherSecond_inv (ef) (all : List Inflight) (arrs) (ha : ArrInv all arrs) (pre pre' : Pre)
    (hp : ∀ kv ∈ pre, Bound ef all kv.1 kv.2) (hr : gatherSecond ef arrs pre = .ok pre') :
    ∀ kv ∈ pre', Bound ef all kv.1 kv.2 := by
  induction arrs generalizing pre with
  | nil => cases hr; exact hp
  | cons e es ih =>
    obtain ⟨name, ch⟩ := e
    have ha' : ArrInv all es := fun x hx => ha x (List.mem_cons_of_mem _ hx)
    obtain ⟨j, hj, rfl, harr, rfl⟩ := ha (name, ch) (by simp)
    unfold gatherSecond at hr
    split at hr
    · exact ih ha' pre hp hr
    · rename_i parent hpar
      split at hr
      · exact ih ha' pre hp hr
      · rename_i hs hef
        split at hr
        · cases hr
        · rename_i pre1 hb
          refine ih ha' pre1 (bindChildren_inv hs _ pre pre1 hp (fun cid i h hc hh => ?_) hb) hr
          exact Or.inr ⟨j, hj, harr, parent, hs, i, hpar, hef, hc, hh⟩

theorem gather_bound (ef) (jobs : List Inflight) (pre : Pre) (h : gather ef jobs = .ok pre) :
    ∀ kv ∈ pre, Bound ef jobs kv.1 kv.2 := by
  obtain ⟨h1, h2⟩ := gatherFirst_inv jobs jobs [] [] (fun _ hj => hj) (by simp) (fun e he => by simp at he)
  exact gatherSecond_inv ef jobs _ h2 _ pre (fun kv hkv => Or.inl (h1 kv hkv)) h

theorem reunite_some {pre pre' : Pre} {backend : Bool} {e id : Str} {alive : Str → Bool}
    (h : reunite pre backend e alive = (pre', some id)) : backend = true ∧ pre.get e = some id ∧ alive id = true := by
  unfold reunite at h
  split at h
  · split at h
    · rename_i id0 hget
      obtain ⟨-, h⟩ := Prod.mk.inj h
      split at h
      · cases h; exact ⟨‹_›, hget, ‹_›⟩
      · cases h
    · cases h
  · cases h

end RedunModel.RemoteProto
