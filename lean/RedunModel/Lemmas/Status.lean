/-
Helper lemmas and the finite tables for C33 (status filters vs displayed statuses).
The tables (`table_row`, `table_extra`) are closed by evaluation over the REGENERATED filter terms and
decision lists of `RedunModel.Generated.Status`: if the code changes so that a filter and the displayed
status disagree on some recorder-producible row shape, this file stops compiling.

Everything about a list of statuses is reduced to single statuses: the WHERE clause of a list matches a row
iff the term of one member does (`rowMatches_clause`), a row is displayed as one of a list iff as one member
(`displayIn_any`), and the two agree member by member (`table_row`).  Executions use the same clause for the
list extended by `execStatuses`, which holds exactly the job statuses shown as one of the execution statuses
asked for (`execStatuses_contains`).
-/
import RedunModel.Model.Status
import RedunModel.Lemmas.AssocList
import RedunModel.Lemmas.ListAux
namespace RedunModel.Status
open RedunModel.StatusSql RedunModel.Generated.Status

theorem rowMatches_or (js : List Join) (a b : Term) (r : Row) :
    rowMatches js (.or a b) r = (rowMatches js a r || rowMatches js b r) := by
  simp only [rowMatches, Term.eval, ← Bool.and_or_distrib_left]
  cases a.eval r <;> cases b.eval r <;> rfl

theorem rowMatches_foldl_or (js : List Join) (r : Row) (f : St → Term) (rest : List St) : ∀ t0 : Term,
    rowMatches js (rest.foldl (fun acc s => .or acc (f s)) t0) r =
      (rowMatches js t0 r || rest.any fun s => rowMatches js (f s) r) := by
  induction rest with
  | nil => intro t0; simp
  | cons s rest ih => intro t0; rw [List.foldl_cons, ih, rowMatches_or, List.any_cons, Bool.or_assoc]

theorem rowMatches_clause (js : List Join) (r : Row) {ss : List St} {t : Term} (h : clause ss = some t) :
    rowMatches js t r = ss.any fun s => rowMatches js (jobStatusTerm s) r := by
  cases ss with
  | nil => cases h
  | cons s rest => cases h; exact rowMatches_foldl_or js r jobStatusTerm rest _

theorem clause_of_ne_nil {ss : List St} (hne : ss ≠ []) : ∃ t, clause ss = some t := by
  cases ss with
  | nil => exact absurd rfl hne
  | cons s rest => exact ⟨_, rfl⟩

theorem displayIn_any (ss : List St) (r : Row) : displayIn ss r = ss.any fun s => displayIn [s] r := by
  unfold displayIn
  cases display r with
  | error e => simp
  | ok s' => simp only [List.contains_eq_any_beq, List.any_cons, List.any_nil, Bool.or_false]

theorem displayIn_iff (ss : List St) (r : Row) : displayIn ss r = true ↔ ∃ s ∈ ss, display r = .ok s := by
  unfold displayIn
  cases display r with
  | error e => simp
  | ok s' => simp

/-- the finite table: either join list, every recorder-producible row shape, single status -/
theorem table_row : ∀ js ∈ [jobValueJoins, execValueJoins], ∀ r ∈ Row.all, RecInv r = true → ∀ s ∈ St.all,
    rowMatches js (jobStatusTerm s) r = displayIn [s] r := by decide +kernel

/-- The WHERE clause of any non-empty list of statuses, behind the joins of the job or of the execution query,
is true on a recorder-producible job row iff its displayed status is one of them. -/
theorem filter_multi {js : List Join} (hjs : js ∈ [jobValueJoins, execValueJoins]) (r : Row) (hr : RecInv r = true)
    {ss : List St} (hne : ss ≠ []) :
    (clause ss).map (fun t => rowMatches js t r) = some (displayIn ss r) := by
  obtain ⟨t, ht⟩ := clause_of_ne_nil hne
  rw [ht, Option.map_some, rowMatches_clause js r ht, displayIn_any]
  congr 2
  funext s
  exact table_row js hjs r (Row.mem_all r) hr s (St.mem_all s)

/-- Filtering by any non-empty list of statuses returns a recorder-producible job row iff its displayed
status is one of them. -/
theorem job_filter_multi (r : Row) (hr : RecInv r = true) (ss : List St) (hne : ss ≠ []) :
    jobMatches ss r = some (displayIn ss r) := filter_multi (by simp) r hr hne

theorem job_filter_iff_display (r : Row) (hr : RecInv r = true) (s : St) :
    jobMatches [s] r = some true ↔ display r = .ok s := by
  rw [job_filter_multi r hr [s] (by simp), Option.some.injEq, displayIn_iff]
  simp

def stepExtra (acc : List St) (p : St × St) : List St := if acc.contains p.1 then acc ++ [p.2] else acc

theorem execStatuses_eq (ss : List St) : execStatuses ss = execExtra.foldl stepExtra ss := rfl

/-- which statuses the extended list holds depends only on which statuses the given list holds -/
theorem foldl_extra_congr (ex : List (St × St)) : ∀ a b : List St, (∀ s, s ∈ a ↔ s ∈ b) →
    ∀ s, s ∈ ex.foldl stepExtra a ↔ s ∈ ex.foldl stepExtra b := by
  induction ex with
  | nil => intro a b h; exact h
  | cons p rest ih =>
    intro a b h
    refine ih _ _ fun s => ?_
    have hc : a.contains p.1 = b.contains p.1 := by
      rw [Bool.eq_iff_iff, List.contains_iff_mem, List.contains_iff_mem]; exact h p.1
    simp only [stepExtra, hc]
    split <;> simp [h s]

theorem foldl_extra_ne_nil (ex : List (St × St)) : ∀ a : List St, a ≠ [] → ex.foldl stepExtra a ≠ [] := by
  induction ex with
  | nil => intro a h; exact h
  | cons p rest ih =>
    intro a h
    refine ih _ ?_
    simp only [stepExtra]
    split <;> simp [h]

theorem execStatuses_ne_nil {ss : List St} (hne : ss ≠ []) : execStatuses ss ≠ [] :=
  foldl_extra_ne_nil execExtra ss hne

def subsets : List St → List (List St)
  | [] => [[]]
  | s :: t => (subsets t).map (s :: ·) ++ subsets t

theorem filter_mem_subsets (p : St → Bool) (l : List St) : l.filter p ∈ subsets l := by
  induction l with
  | nil => simp [subsets]
  | cons s t ih =>
    rw [List.filter_cons, subsets, List.mem_append]
    split
    · exact .inl (List.mem_map_of_mem ih)
    · exact .inr ih

/-- the finite table for `filter_execution_statuses`: every set of execution statuses, every job status -/
theorem table_extra : ∀ l ∈ subsets execStatusDomain, ∀ s ∈ St.all,
    (execStatuses l).contains s = l.contains (execOfJob (some s)) := by decide +kernel

/-- The list `filter_execution_statuses` hands to the job filter holds exactly the job statuses that are shown as
one of the execution statuses asked for. -/
theorem execStatuses_contains {ss : List St} (hdom : ∀ s ∈ ss, s ∈ execStatusDomain) (s : St) :
    (execStatuses ss).contains s = ss.contains (execOfJob (some s)) := by
  -- `ss` and the sublist of `execStatusDomain` with the same members are interchangeable on both sides
  have hm (x : St) : x ∈ execStatusDomain.filter (ss.contains ·) ↔ x ∈ ss := by
    rw [List.mem_filter, List.contains_iff_mem]; exact ⟨fun h => h.2, fun h => ⟨hdom x h, h⟩⟩
  have ht := table_extra _ (filter_mem_subsets (ss.contains ·) execStatusDomain) s (St.mem_all s)
  rw [Bool.eq_iff_iff, List.contains_iff_mem, List.contains_iff_mem] at ht ⊢
  rw [← hm, ← ht]
  exact foldl_extra_congr execExtra _ _ (fun x => (hm x).symm) s

/-- Filtering executions by a non-empty list of execution statuses (RUNNING, FAILED, DONE) returns an
execution whose root job row is recorder-producible iff its displayed status is one of them. -/
theorem exec_filter_multi (r : Row) (hr : RecInv r = true) (ss : List St) (hne : ss ≠ [])
    (hdom : ∀ s ∈ ss, s ∈ execStatusDomain) :
    execMatches ss ⟨some r⟩ = some (execDisplayIn ss ⟨some r⟩) := by
  have h : execMatches ss ⟨some r⟩ = some (displayIn (execStatuses ss) r) :=
    filter_multi (by simp) r hr (execStatuses_ne_nil hne)
  simp only [h, displayIn, execDisplayIn, execDisplay]
  cases display r with
  | error e => rfl
  | ok s => exact congrArg some (execStatuses_contains hdom s)

theorem alookup_eq_lookup {β : Type} (k : Nat) (l : List (Nat × β)) : alookup k l = l.lookup k :=
  Assoc.lookup_eq_of_rec (fun _ => rfl) (fun _ _ _ _ => rfl) k l

theorem alookup_mem {β : Type} {k : Nat} {v : β} {l : List (Nat × β)} (h : alookup k l = some v) : (k, v) ∈ l :=
  Assoc.mem_of_lookup (alookup_eq_lookup k l ▸ h)

theorem alookup_append_isSome {β : Type} {k : Nat} {l : List (Nat × β)} (x : Nat × β)
    (h : (alookup k l).isSome) : (alookup k (l ++ [x])).isSome := by
  rw [alookup_eq_lookup] at *
  rw [List.lookup_append, Option.isSome_or, h, Bool.true_or]

theorem alookup_append_self_isSome {β : Type} (k : Nat) (l : List (Nat × β)) (v : β) :
    (alookup k (l ++ [(k, v)])).isSome := by
  rw [alookup_eq_lookup, List.lookup_append, Option.isSome_or, List.lookup_cons_self, Option.isSome_some, Bool.or_true]

/-- well-formedness kept by the recorder: the three foreign keys and what `record_job_start/end` write -/
structure WF (db : Db) : Prop where
  callVal : ∀ p ∈ db.calls, (alookup p.2 db.values).isSome
  jobShape : ∀ j ∈ db.jobs, match j.callHash with
    | none => j.endNull = true ∧ j.cached = false
    | some ch => j.endNull = false ∧ (alookup ch db.calls).isSome
  execJob : ∀ e ∈ db.execs, ∃ j ∈ db.jobs, j.id = e.2

/-- `record_job_start` leaves `call_hash` empty (decided on the regenerated `startWritesCallHash`) -/
theorem startCallHash_none (known : Option Nat) : startCallHash known = none := by
  simp [startCallHash, startWritesCallHash]

theorem startJob_calls (db : Db) (id : Nat) (ex known : Option Nat) : (startJob db id ex known).calls = db.calls := by
  unfold startJob; split <;> rfl

theorem startJob_values (db : Db) (id : Nat) (ex known : Option Nat) : (startJob db id ex known).values = db.values := by
  unfold startJob; split <;> rfl

theorem startJob_wf (db : Db) (id : Nat) (ex known : Option Nat) (h : WF db) : WF (startJob db id ex known) := by
  refine ⟨by rw [startJob_calls, startJob_values]; exact h.callVal, ?_, ?_⟩
  · rw [startJob_calls]
    unfold startJob
    split
    · exact h.jobShape
    · exact List.forall_mem_append.2 ⟨h.jobShape, List.forall_mem_singleton.2 (by simp [startCallHash_none])⟩
  · unfold startJob
    split
    · exact h.execJob
    · have old : ∀ e ∈ db.execs, ∃ j ∈ db.jobs ++ [⟨id, true, false, startCallHash known⟩], j.id = e.2 := fun e he =>
        have ⟨j, hj, hid⟩ := h.execJob e he
        ⟨j, List.mem_append_left _ hj, hid⟩
      cases ex with
      | none => exact old
      | some x =>
        exact List.forall_mem_append.2 ⟨old, List.forall_mem_singleton.2 ⟨_, List.mem_append_right _ List.mem_cons_self, rfl⟩⟩

theorem recStep_wf (db : Db) (op : RecOp) (h : WF db) : WF (recStep db op) := by
  cases op with
  | recordValue vh e =>
    simp only [recStep]
    split
    · exact h
    · exact ⟨fun p hp => alookup_append_isSome _ (h.callVal p hp), h.jobShape, h.execJob⟩
  | recordCallNode ch vh =>
    simp only [recStep]
    split
    · exact h
    · split
      · exact h
      · rename_i hv
        refine ⟨List.forall_mem_append.2 ⟨h.callVal, List.forall_mem_singleton.2 ?_⟩, fun j hj => ?_, h.execJob⟩
        · simpa [Option.isSome_iff_ne_none] using hv
        · have := h.jobShape j hj
          split at this
          · exact this
          · exact ⟨this.1, alookup_append_isSome _ this.2⟩
  | jobStart id ex known => exact startJob_wf db id ex known h
  | jobEnd id c ch =>
    simp only [recStep]
    split
    · exact h
    · rename_i hch
      have h' := startJob_wf db id none (some ch) h
      refine ⟨h'.callVal, fun j hj => ?_, fun e he => ?_⟩
      · obtain ⟨j0, hj0, rfl⟩ := List.mem_map.mp hj
        by_cases hid : (j0.id == id) = true
        · rw [if_pos hid]
          exact ⟨rfl, by rw [startJob_calls]; simpa [Option.isSome_iff_ne_none] using hch⟩
        · rw [if_neg hid]; exact h'.jobShape j0 hj0
      · obtain ⟨j, hj, hid⟩ := h'.execJob e he
        exact ⟨_, List.mem_map_of_mem hj, by split <;> exact hid⟩

theorem runRec_wf (ops : List RecOp) : WF (runRec ops) :=
  foldl_inv _ ops _ ⟨nofun, nofun, nofun⟩ fun db op _ => recStep_wf db op

theorem wf_recInv (db : Db) (h : WF db) (j : JobRec) (hj : j ∈ db.jobs) : RecInv (rowOf db j) = true := by
  have hs := h.jobShape j hj
  cases hc : j.callHash with
  | none =>
    simp only [hc] at hs
    simp [RecInv, rowOf, linkOf, hc, hs.1, hs.2]
  | some ch =>
    simp only [hc] at hs
    cases hl : alookup ch db.calls with
    | none => simp [hl] at hs
    | some vh =>
      have hv := h.callVal (ch, vh) (alookup_mem hl)
      cases hvv : alookup vh db.values with
      | none => simp [hvv] at hv
      | some b => cases b <;> simp [RecInv, rowOf, linkOf, hc, hl, hvv, hs.1]

/-- After any sequence of recorder operations, `filter_job_statuses(ss)` returns exactly the jobs whose
displayed status is in `ss`. -/
theorem query_jobs_eq_displayed (ops : List RecOp) (ss : List St) (hne : ss ≠ []) :
    queryJobs ss (runRec ops) = some (displayedJobs ss (runRec ops)) := by
  obtain ⟨t, ht⟩ := clause_of_ne_nil hne
  rw [queryJobs, ht, Option.map_some, displayedJobs]
  congr 2
  apply List.filter_congr
  intro j hj
  have := job_filter_multi (rowOf (runRec ops) j) (wf_recInv _ (runRec_wf ops) j hj) ss hne
  rw [jobMatches, ht, Option.map_some] at this
  exact Option.some.inj this

/-- Same for executions and the execution statuses RUNNING / FAILED / DONE, for executions whose root
job row exists (the recorder adds the Execution row together with its root job). -/
theorem query_execs_eq_displayed (ops : List RecOp) (ss : List St) (hne : ss ≠ [])
    (hdom : ∀ s ∈ ss, s ∈ execStatusDomain) :
    queryExecs ss (runRec ops) = some (displayedExecs ss (runRec ops)) := by
  obtain ⟨t, ht⟩ := clause_of_ne_nil (execStatuses_ne_nil hne)
  rw [queryExecs, ht, Option.map_some, displayedExecs]
  congr 2
  apply List.filter_congr
  intro e he
  obtain ⟨j0, hj0, hid⟩ := (runRec_wf ops).execJob e he
  cases hf : findJob (runRec ops) e.2 with
  | none => exact absurd hf (by simp [findJob]; exact ⟨j0, hj0, hid⟩)
  | some j =>
    have hj : j ∈ (runRec ops).jobs := List.mem_of_find?_eq_some hf
    rw [execRowOf, hf, Option.map_some,
      exec_filter_multi (rowOf (runRec ops) j) (wf_recInv _ (runRec_wf ops) j hj) ss hne hdom]
    simp

end RedunModel.Status
