/-
Three-way comparisons that are strict total orders (`LawfulCmp`), the one lexicographic step all structural
orders on hash pre-images are built from, and what sorting needs of them: `cmp a b != .gt` is a total order,
so `mergeSort` by it does not depend on the order of its input; closure under `cmpList` and `cmpProd`; and
`lawful_nested`: comparing trees label first, then the children lexicographically, is lawful, of which both
call-hash orders are instances.  `cmpList` and `cmpProd` are defined in `Model/Cmp`; the comparisons of the timing
model are built from them, and the recorder model's `H.cmpL` is `cmpList H.cmp`.  Used for the call-hash pre-images of
the recorder model (C20) and of the timing model (C07); everything is declared in the namespace of the latter, hence
`Timing.LawfulCmp`, `Timing.lawful_nested` in `Lemmas/Merkle`.
-/
import RedunModel.Model.Cmp
namespace RedunModel.Timing

structure LawfulCmp {α : Type} (cmp : α → α → Ordering) : Prop where
  eq : ∀ a b, cmp a b = .eq → a = b
  swap : ∀ a b, (cmp a b).swap = cmp b a
  lt_trans : ∀ a b c, cmp a b = .lt → cmp b c = .lt → cmp a c = .lt

theorem then_lt_trans {α : Type} {cmp : α → α → Ordering} {a b c : α} {p q r : Ordering}
    (eab : cmp a b = .eq → a = b) (ebc : cmp b c = .eq → b = c)
    (tr : cmp a b = .lt → cmp b c = .lt → cmp a c = .lt) (trp : p = .lt → q = .lt → r = .lt)
    (h1 : (cmp a b).then p = .lt) (h2 : (cmp b c).then q = .lt) : (cmp a c).then r = .lt := by
  rw [Ordering.then_eq_lt] at h1 h2 ⊢
  rcases h1 with h1 | ⟨h1, hp⟩ <;> rcases h2 with h2 | ⟨h2, hq⟩
  · exact .inl (tr h1 h2)
  · exact .inl (ebc h2 ▸ h1)
  · exact .inl (eab h1 ▸ h2)
  · exact .inr ⟨eab h1 ▸ h2, trp hp hq⟩

theorem lawful_nat : LawfulCmp (compare : Nat → Nat → Ordering) where
  eq := fun _ _ => Nat.compare_eq_eq.1
  swap := Nat.compare_swap
  lt_trans := fun _ _ _ h1 h2 => Nat.compare_eq_lt.2 (Nat.lt_trans (Nat.compare_eq_lt.1 h1) (Nat.compare_eq_lt.1 h2))

namespace LawfulCmp
variable {α : Type} {cmp : α → α → Ordering} (h : LawfulCmp cmp)
include h

theorem eq_iff {a b : α} : cmp a b = .eq ↔ a = b := by
  refine ⟨h.eq a b, ?_⟩
  rintro rfl
  have := h.swap a a
  cases hc : cmp a a <;> simp [hc] at this ⊢

theorem then_lt {a b c : α} {p q r : Ordering} (trp : p = .lt → q = .lt → r = .lt) :
    (cmp a b).then p = .lt → (cmp b c).then q = .lt → (cmp a c).then r = .lt :=
  then_lt_trans (h.eq a b) (h.eq b c) (h.lt_trans a b c) trp

theorem le_total (a b : α) : (cmp a b != .gt || cmp b a != .gt) = true := by
  rw [← h.swap a b]
  cases cmp a b <;> rfl

theorem le_antisymm (a b : α) (h1 : (cmp a b != .gt) = true) (h2 : (cmp b a != .gt) = true) : a = b := by
  rw [← h.swap a b] at h2
  apply h.eq
  revert h1 h2
  cases cmp a b <;> decide

theorem le_trans (a b c : α) (h1 : (cmp a b != .gt) = true) (h2 : (cmp b c != .gt) = true) :
    (cmp a c != .gt) = true := by
  cases hab : cmp a b
  · cases hbc : cmp b c
    · simp [h.lt_trans a b c hab hbc]
    · rw [← h.eq b c hbc]; simp [hab]
    · simp [hbc] at h2
  · rw [h.eq a b hab]; exact h2
  · simp [hab] at h1

end LawfulCmp

theorem LawfulCmp.refl {α : Type} {cmp : α → α → Ordering} (h : LawfulCmp cmp) (a : α) : cmp a a = .eq :=
  h.eq_iff.2 rfl

/-- The laws of `cmpList cmp` at a list `a` need those of `cmp` at the members of `a` only (and, for transitivity,
that `cmp` recognises equality everywhere); in this form they also serve a comparison of trees that compares the
children of a node by `cmpList` of itself (`lawful_nested`). -/
theorem cmpList_eq {α : Type} {cmp : α → α → Ordering} {a b : List α} (h : ∀ x ∈ a, ∀ y, cmp x y = .eq → x = y) :
    cmpList cmp a b = .eq → a = b := by
  fun_induction cmpList cmp a b with
  | case4 x xs y ys ih =>
    intro hb; rw [Ordering.then_eq_eq] at hb
    rw [h x List.mem_cons_self y hb.1, ih (fun z hz => h z (List.mem_cons_of_mem _ hz)) hb.2]
  | _ => simp

theorem cmpList_swap {α : Type} {cmp : α → α → Ordering} {a b : List α} (h : ∀ x ∈ a, ∀ y, (cmp x y).swap = cmp y x) :
    (cmpList cmp a b).swap = cmpList cmp b a := by
  fun_induction cmpList cmp a b with
  | case4 x xs y ys ih =>
    rw [cmpList, Ordering.swap_then, h x List.mem_cons_self y, ih fun z hz => h z (List.mem_cons_of_mem _ hz)]
  | _ => rfl

theorem cmpList_lt_trans {α : Type} {cmp : α → α → Ordering} (he : ∀ x y, cmp x y = .eq → x = y) {a b c : List α}
    (h : ∀ x ∈ a, ∀ y z, cmp x y = .lt → cmp y z = .lt → cmp x z = .lt)
    (h1 : cmpList cmp a b = .lt) (h2 : cmpList cmp b c = .lt) : cmpList cmp a c = .lt := by
  induction a generalizing b c with
  | nil => cases b <;> cases c <;> simp [cmpList] at h1 h2 ⊢
  | cons x xs ih =>
    cases b with
    | nil => simp [cmpList] at h1
    | cons y ys =>
      cases c with
      | nil => simp [cmpList] at h2
      | cons z zs =>
        exact then_lt_trans (he x y) (he y z) (h x List.mem_cons_self y z)
          (ih fun w hw => h w (List.mem_cons_of_mem _ hw)) h1 h2

theorem lawful_cmpList {α : Type} {cmp : α → α → Ordering} (h : LawfulCmp cmp) : LawfulCmp (cmpList cmp) where
  eq _ _ := cmpList_eq fun x _ => h.eq x
  swap _ _ := cmpList_swap fun x _ => h.swap x
  lt_trans _ _ _ := cmpList_lt_trans h.eq fun x _ => h.lt_trans x

/-- A comparison of trees that compares the labels `(view x).1` by a lawful `cmpA` and then the lists of children
`(view x).2` lexicographically by itself is lawful.  `ind` is induction over the trees. -/
theorem lawful_nested {τ α : Type} {cmp : τ → τ → Ordering} {cmpA : α → α → Ordering} (hA : LawfulCmp cmpA)
    (view : τ → α × List τ) (hinj : ∀ a b, view a = view b → a = b)
    (hc : ∀ a b, cmp a b = (cmpA (view a).1 (view b).1).then (cmpList cmp (view a).2 (view b).2))
    (ind : ∀ P : τ → Prop, (∀ a, (∀ x ∈ (view a).2, P x) → P a) → ∀ a, P a) : LawfulCmp cmp := by
  have heq : ∀ a b, cmp a b = .eq → a = b := ind _ fun a ih b h => by
    rw [hc, Ordering.then_eq_eq] at h
    exact hinj a b (Prod.ext (hA.eq _ _ h.1) (cmpList_eq ih h.2))
  refine ⟨heq, ind _ fun a ih b => ?_, ind _ fun a ih b c h1 h2 => ?_⟩
  · rw [hc, hc, Ordering.swap_then, hA.swap, cmpList_swap ih]
  · rw [hc] at h1 h2 ⊢
    exact hA.then_lt (cmpList_lt_trans heq ih) h1 h2

theorem lawful_cmpProd {α β : Type} {c1 : α → α → Ordering} {c2 : β → β → Ordering} (h1 : LawfulCmp c1)
    (h2 : LawfulCmp c2) : LawfulCmp (cmpProd c1 c2) where
  eq := by
    intro a b h
    simp only [cmpProd, Ordering.then_eq_eq] at h
    exact Prod.ext (h1.eq _ _ h.1) (h2.eq _ _ h.2)
  swap := by
    intro a b
    simp only [cmpProd, Ordering.swap_then, h1.swap, h2.swap]
  lt_trans := fun _ _ _ => h1.then_lt (h2.lt_trans _ _ _)

theorem lawful_of_inj {α β : Type} {cmp : β → β → Ordering} (h : LawfulCmp cmp) (f : α → β)
    (hf : ∀ a b, f a = f b → a = b) : LawfulCmp (fun a b => cmp (f a) (f b)) where
  eq := fun a b he => hf a b (h.eq _ _ he)
  swap := fun _ _ => h.swap _ _
  lt_trans := fun _ _ _ => h.lt_trans _ _ _

theorem mergeSort_eq_of_perm {α : Type} {le : α → α → Bool} (total : ∀ a b, (le a b || le b a) = true)
    (antisymm : ∀ a b, le a b = true → le b a = true → a = b)
    (trans : ∀ a b c, le a b = true → le b c = true → le a c = true) {l1 l2 : List α} (hp : l1.Perm l2) :
    l1.mergeSort le = l2.mergeSort le := by
  have sorted := List.pairwise_mergeSort (le := le) trans total
  exact List.Perm.eq_of_pairwise (fun a b _ _ => antisymm a b) (sorted l1) (sorted l2)
    ((List.mergeSort_perm l1 le).trans (hp.trans (List.mergeSort_perm l2 le).symm))

theorem perm_of_mergeSort_eq {α : Type} {le : α → α → Bool} {k k' : List α} (h : k.mergeSort le = k'.mergeSort le) :
    k.Perm k' :=
  (List.mergeSort_perm k le).symm.trans (h ▸ List.mergeSort_perm k' le)

end RedunModel.Timing
