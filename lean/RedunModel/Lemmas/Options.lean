/-
Helper lemmas for the task-option model (property C27): association-list dictionaries, value evaluation,
`rawOptions`/`evalOptions` key by key, ancestor chains, job trees, task construction.
`rightmost`, `layers`, `provOffLayer`, `effective`, `CallWF`, `InfoWF`, `parentOff` are specification-side notions
(not code of redun).
-/
import RedunModel.Model.Options
import RedunModel.Lemmas.AssocList
import RedunModel.Lemmas.ListAux
namespace RedunModel.Options
open Assoc

theorem lookup_dset (k k' : String) (v : α) (d : Dict α) :
    (dset k' v d).lookup k = if k = k' then some v else d.lookup k :=
  lookup_set_of_rec (set := dset) (fun _ _ => rfl) (fun _ _ _ _ _ => rfl) k' k v d

theorem keys_dset (k : String) (v : α) (d : Dict α) :
    keys (dset k v d) = if k ∈ keys d then keys d else keys d ++ [k] :=
  keys_set_of_rec (set := dset) (fun _ _ => rfl) (fun _ _ _ _ _ => rfl) k v d

theorem mem_keys_dset (k k' : String) (v : α) (d : Dict α) : k ∈ keys (dset k' v d) ↔ k = k' ∨ k ∈ keys d := by
  rw [keys_dset]
  split
  · exact ⟨Or.inr, fun h => h.elim (· ▸ ‹_›) id⟩
  · simp [or_comm]

theorem wf_dset (k : String) (v : α) (d : Dict α) (h : WF d) : WF (dset k v d) := by
  unfold WF at *
  rw [keys_dset]
  split
  · exact h
  · rename_i hk
    exact List.nodup_append.2 ⟨h, by simp, fun a ha b hb e => hk (List.mem_singleton.1 hb ▸ e ▸ ha)⟩

theorem wf_dmerge (a b : Dict α) (h : WF a) : WF (dmerge a b) :=
  foldl_inv _ b a h fun _ _ _ hd => wf_dset _ _ _ hd

theorem lookup_dmerge (k : String) (a b : Dict α) (hb : WF b) :
    (dmerge a b).lookup k = (b.lookup k).or (a.lookup k) := by
  unfold dmerge
  induction b generalizing a with
  | nil => rfl
  | cons kv t ih =>
    obtain ⟨k0, v0⟩ := kv
    have ⟨hk0, ht⟩ := List.nodup_cons.1 hb
    rw [List.foldl_cons, ih _ ht, lookup_dset, lookup_cons]
    split
    · subst_vars; rw [lookup_eq_none_iff.2 hk0]; rfl
    · rfl

theorem mem_keys_dmerge (k : String) (a b : Dict α) : k ∈ keys (dmerge a b) ↔ k ∈ keys a ∨ k ∈ keys b := by
  unfold dmerge
  induction b generalizing a with
  | nil => simp [keys]
  | cons kv t ih =>
    rw [List.foldl_cons, ih, mem_keys_dset, show keys (kv :: t) = kv.1 :: keys t from rfl, List.mem_cons]
    exact or_assoc.trans or_left_comm

theorem lookup_mapVals (f : α → β) (k : String) (d : Dict α) : (mapVals f d).lookup k = (d.lookup k).map f :=
  lookup_map (fun _ => f) k d

theorem wf_mapVals (f : α → β) (d : Dict α) (h : WF d) : WF (mapVals f d) := by
  simpa [WF, keys, mapVals, Function.comp_def] using h

theorem lookup_dpop (k k' : String) (d : Dict α) : (dpop k' d).lookup k = if k = k' then none else d.lookup k :=
  lookup_erase k' k d

theorem dset_same (k : String) (v : α) (d : Dict α) (h : d.lookup k = some v) : dset k v d = d := by
  induction d with
  | nil => cases h
  | cons kv t ih =>
    obtain ⟨k0, v0⟩ := kv
    rw [lookup_cons] at h
    simp only [dset]
    split at h
    · cases h; subst_vars; rw [if_pos rfl]
    · rename_i hk; rw [if_neg (Ne.symm hk), ih h]

theorem mem_dset {kv : String × α} {k : String} {v : α} {d : Dict α} (h : kv ∈ dset k v d) : kv ∈ d ∨ kv = (k, v) := by
  induction d with
  | nil => exact Or.inr (List.mem_singleton.1 h)
  | cons x t ih =>
    obtain ⟨k0, v0⟩ := x
    simp only [dset] at h
    split at h
    · subst_vars
      exact (List.mem_cons.1 h).elim Or.inr fun h => Or.inl (List.mem_cons_of_mem _ h)
    · rcases List.mem_cons.1 h with h | h
      · exact Or.inl (h ▸ List.mem_cons_self)
      · exact (ih h).imp_left (List.mem_cons_of_mem _)

theorem mem_dmerge {kv : String × α} {a b : Dict α} (h : kv ∈ dmerge a b) : kv ∈ a ∨ kv ∈ b := by
  unfold dmerge at h
  induction b generalizing a with
  | nil => exact Or.inl h
  | cons x t ih =>
    rcases ih h with h | h
    · rcases mem_dset h with h | rfl
      · exact Or.inl h
      · exact Or.inr List.mem_cons_self
    · exact Or.inr (List.mem_cons_of_mem _ h)

mutual
theorem evalVal_embed : (v : CVal) → evalVal (embed v) = v
  | .none => rfl
  | .bool _ => rfl
  | .int _ => rfl
  | .str _ => rfl
  | .enum _ _ => rfl
  | .list l => by simp only [embed, evalVal, evalL_embedL l]
theorem evalL_embedL : (l : List CVal) → evalL (embedL l) = l
  | [] => rfl
  | v :: t => by simp only [embedL, evalL, evalVal_embed v, evalL_embedL t]
end

mutual
theorem calls_embed : (v : CVal) → calls (embed v) = []
  | .none => rfl
  | .bool _ => rfl
  | .int _ => rfl
  | .str _ => rfl
  | .enum _ _ => rfl
  | .list l => by simp only [embed, calls, callsL_embedL l]
theorem callsL_embedL : (l : List CVal) → callsL (embedL l) = []
  | [] => rfl
  | v :: t => by simp only [embedL, callsL, calls_embed v, callsL_embedL t, List.append_nil]
end

theorem optionJobs_embed (d : Dict CVal) : optionJobs (mapVals embed d) = [] := by
  induction d with
  | nil => rfl
  | cons kv t ih =>
    simp only [optionJobs, mapVals, List.map_cons, List.flatMap_cons, calls_embed, List.nil_append] at ih ⊢
    exact ih

theorem optionJobs_dmerge {i : String} {a b : Dict Val} (h : i ∈ optionJobs (dmerge a b)) :
    i ∈ optionJobs a ∨ i ∈ optionJobs b := by
  simp only [optionJobs, List.mem_flatMap] at h ⊢
  obtain ⟨kv, hkv, hi⟩ := h
  exact (mem_dmerge hkv).imp (fun h => ⟨kv, h, hi⟩) (fun h => ⟨kv, h, hi⟩)

/-- the dicts of a call have unique keys (Python dicts) -/
def CallWF (c : Call) : Prop := WF c.reg.base ∧ WF c.reg.over ∧ WF c.var.over

def InfoWF : Option JobInfo → Prop
  | none => True
  | some p => WF p.evalOpts

def parentOff : Option JobInfo → Bool
  | none => false
  | some p => !recProv p.evalOpts

theorem forced_eq (u : Bool) (p : Option JobInfo) :
    forced u p = (if u then [] else [("cache_scope", scopeC "CSE")]) ++
      if parentOff p then [("prov", .bool false)] else [] := by
  cases p with
  | none => rfl
  | some p => cases h : recProv p.evalOpts <;> simp [forced, parentOff, h]

theorem wf_forced (u : Bool) (p : Option JobInfo) : WF (forced u p) := by
  rw [forced_eq]
  cases u <;> cases parentOff p <;> simp [WF, keys]

theorem lookup_forced (u : Bool) (p : Option JobInfo) (k : String) :
    (forced u p).lookup k =
      if k = "cache_scope" ∧ u = false then some (scopeC "CSE")
      else if k = "prov" ∧ parentOff p = true then some (.bool false) else none := by
  rw [forced_eq]
  cases u <;> cases parentOff p <;> simp [lookup_cons]

theorem lookup_forced_other (u : Bool) (p : Option JobInfo) (k : String) (h1 : k ≠ "cache_scope") (h2 : k ≠ "prov") :
    (forced u p).lookup k = none := by
  rw [lookup_forced]; simp [h1, h2]

theorem wf_inherited (p : Option JobInfo) (h : InfoWF p) : WF (inherited p) := by
  cases p with
  | none => exact List.nodup_nil
  | some p => exact nodup_keys_filter _ h

theorem lookup_inherited (p : JobInfo) (k : String) :
    (inherited (some p)).lookup k = if k ∈ p.exports then p.evalOpts.lookup k else none := by
  simpa [inherited] using lookup_filter (fun k => decide (k ∈ p.exports)) k p.evalOpts

theorem wf_rawOptions (u : Bool) (p : Option JobInfo) (c : Call) (h : WF c.reg.base) : WF (rawOptions u p c) :=
  wf_dmerge _ _ (wf_dmerge _ _ (wf_dmerge _ _ (wf_dmerge _ _ h)))

theorem evalOptions_eq (u : Bool) (p : Option JobInfo) (c : Call) :
    evalOptions u p c =
      if recProv (mapVals evalVal (rawOptions u p c)) = true then mapVals evalVal (rawOptions u p c)
      else dset "cache_scope" (scopeC "NONE") (mapVals evalVal (rawOptions u p c)) := rfl

theorem lookup_evalOptions (u : Bool) (p : Option JobInfo) (c : Call) (k : String) :
    (evalOptions u p c).lookup k =
      if k = "cache_scope" ∧ recProv (mapVals evalVal (rawOptions u p c)) = false then some (scopeC "NONE")
      else ((rawOptions u p c).lookup k).map evalVal := by
  rw [evalOptions_eq]
  cases recProv (mapVals evalVal (rawOptions u p c))
  · simp only [Bool.false_eq_true, if_false, lookup_dset, lookup_mapVals, and_true]
  · simp only [if_true, lookup_mapVals, Bool.true_eq_false, and_false, if_false]

theorem lookup_evalOptions_other (u : Bool) (p : Option JobInfo) (c : Call) (k : String) (h1 : k ≠ "cache_scope") :
    (evalOptions u p c).lookup k = ((rawOptions u p c).lookup k).map evalVal := by
  rw [lookup_evalOptions]; simp [h1]

theorem recProv_evalOptions (u : Bool) (p : Option JobInfo) (c : Call) :
    recProv (evalOptions u p c) = recProv (mapVals evalVal (rawOptions u p c)) := by
  rw [evalOptions_eq]
  split
  · rfl
  · rw [recProv, lookup_dset, if_neg (by decide)]; rfl

theorem wf_evalOptions (u : Bool) (p : Option JobInfo) (c : Call) (h : WF c.reg.base) : WF (evalOptions u p c) := by
  rw [evalOptions_eq]
  have := wf_mapVals evalVal _ (wf_rawOptions u p c h)
  split
  · exact this
  · exact wf_dset _ _ _ this

/-- value of `k` in the right-most dict of the list that defines it -/
def rightmost (ls : List (Dict CVal)) (k : String) : Option CVal :=
  ls.foldl (fun acc l => (l.lookup k).or acc) none

/-- last scheduler-imposed layer: no caching at all for a job that records no provenance -/
def provOffLayer (u : Bool) (p : Option JobInfo) (c : Call) : Dict CVal :=
  if recProv (mapVals evalVal (rawOptions u p c)) then [] else [("cache_scope", scopeC "NONE")]

/-- lowest to highest: definition options (decorator, then the registered task's own overrides), options exported by
the ancestors, call-time options, scheduler-imposed options -/
def layers (u : Bool) (p : Option JobInfo) (c : Call) : List (Dict CVal) :=
  [mapVals evalVal c.reg.base, mapVals evalVal c.reg.over, inherited p, mapVals evalVal c.var.over, forced u p,
   provOffLayer u p c]

theorem jobInfo_cons (u : Bool) (c : Call) (anc : List Call) :
    jobInfo u (c :: anc) = some (jobStep u (jobInfo u anc) c) := rfl

theorem jobInfo_wf (u : Bool) (chain : List Call) (h : ∀ c ∈ chain, CallWF c) : InfoWF (jobInfo u chain) := by
  cases chain with
  | nil => trivial
  | cons c t =>
    simp only [jobInfo_cons, InfoWF, jobStep]
    exact wf_evalOptions _ _ _ (h c List.mem_cons_self).1

theorem parentExports_jobInfo (u : Bool) (chain : List Call) : parentExports (jobInfo u chain) = exportsOf chain := by
  induction chain with
  | nil => rfl
  | cons c t ih => rw [jobInfo_cons, exportsOf, ← ih]; rfl

theorem jobInfo_exports (u : Bool) (chain : List Call) (j : JobInfo) (h : jobInfo u chain = some j) :
    j.exports = exportsOf chain := by
  rw [← parentExports_jobInfo u chain, h]; rfl

theorem mem_exportsOf_iff (chain : List Call) (n : String) :
    n ∈ exportsOf chain ↔ ∃ c ∈ chain, n ∈ c.reg.exports ∨ n ∈ c.var.exports := by
  induction chain with
  | nil => simp [exportsOf]
  | cons c t ih => simp only [exportsOf, List.mem_append, ih, List.mem_cons, exists_eq_or_imp]

/-- A property of an ancestor's job that every call below it passes on holds of the descendant's job:
the induction over the part of a chain below an ancestor, once.  All jobs on the way have unique keys. -/
theorem jobInfo_below {P : JobInfo → Prop} (u : Bool) (below anc : List Call) {p : JobInfo}
    (hwf : ∀ c ∈ below ++ anc, CallWF c) (hp : jobInfo u anc = some p) (h0 : P p)
    (hstep : ∀ c ∈ below, CallWF c → ∀ j, WF j.evalOpts → P j → P (jobStep u (some j) c)) :
    ∃ j, jobInfo u (below ++ anc) = some j ∧ WF j.evalOpts ∧ P j := by
  induction below with
  | nil => exact ⟨p, hp, by have := jobInfo_wf u anc hwf; rwa [hp] at this, h0⟩
  | cons c t ih =>
    have hc := hwf c List.mem_cons_self
    obtain ⟨j, hj, hjw, hP⟩ := ih (fun x hx => hwf x (List.mem_cons_of_mem _ hx))
      fun x hx => hstep x (List.mem_cons_of_mem _ hx)
    refine ⟨jobStep u (some j) c, by rw [List.cons_append, jobInfo_cons, hj], ?_, hstep c List.mem_cons_self hc j hjw hP⟩
    -- the record is projected first: left to unification, this is slow
    dsimp only [jobStep]
    exact wf_evalOptions u (some j) c hc.1

/-- the evaluated value of option `k` of the job at the head of the chain -/
def effective (u : Bool) (chain : List Call) (k : String) : Option CVal :=
  (jobInfo u chain).bind fun j => j.evalOpts.lookup k

theorem effective_cons (u : Bool) (c : Call) (anc : List Call) (k : String) :
    effective u (c :: anc) k = (evalOptions u (jobInfo u anc) c).lookup k := by
  simp only [effective, jobInfo_cons, Option.bind_some, jobStep]

mutual
theorem walk_chains (u : Bool) (anc : List Call) : (t : JTree) →
    (walk u (jobInfo u anc) t).map (fun ij => (ij.1, some ij.2)) =
      (chainsOf anc t).map (fun ic => (ic.1, jobInfo u ic.2))
  | .node id c ch => by
    simp only [walk, chainsOf, List.map_cons, ← jobInfo_cons]
    rw [walkL_chains u (c :: anc) ch]
theorem walkL_chains (u : Bool) (anc : List Call) : (ts : List JTree) →
    (walkL u (jobInfo u anc) ts).map (fun ij => (ij.1, some ij.2)) =
      (chainsOfL anc ts).map (fun ic => (ic.1, jobInfo u ic.2))
  | [] => rfl
  | t :: ts => by
    simp only [walkL, chainsOfL, List.map_append, walk_chains u anc t, walkL_chains u anc ts]
end

mutual
theorem chains_parent (anc : List Call) : (t : JTree) → ∀ e ∈ chainsOf anc t,
    ∃ c rest, e.2 = c :: rest ∧ (rest = anc ∨ ∃ e' ∈ chainsOf anc t, e'.2 = rest)
  | .node id c ch => by
    intro e he
    rw [chainsOf] at he ⊢
    rcases List.mem_cons.1 he with rfl | he
    · exact ⟨c, anc, rfl, Or.inl rfl⟩
    · obtain ⟨c', rest, h1, h2⟩ := chainsL_parent (c :: anc) ch e he
      refine ⟨c', rest, h1, Or.inr ?_⟩
      rcases h2 with rfl | ⟨e', he', h3⟩
      · exact ⟨_, List.mem_cons_self, rfl⟩
      · exact ⟨e', List.mem_cons_of_mem _ he', h3⟩
theorem chainsL_parent (anc : List Call) : (ts : List JTree) → ∀ e ∈ chainsOfL anc ts,
    ∃ c rest, e.2 = c :: rest ∧ (rest = anc ∨ ∃ e' ∈ chainsOfL anc ts, e'.2 = rest)
  | [] => fun _ he => nomatch he
  | t :: ts => by
    intro e he
    rw [chainsOfL] at he ⊢
    rcases List.mem_append.1 he with he | he
    · obtain ⟨c', rest, h1, h2⟩ := chains_parent anc t e he
      exact ⟨c', rest, h1, h2.imp_right fun ⟨e', he', h3⟩ => ⟨e', List.mem_append_left _ he', h3⟩⟩
    · obtain ⟨c', rest, h1, h2⟩ := chainsL_parent anc ts e he
      exact ⟨c', rest, h1, h2.imp_right fun ⟨e', he', h3⟩ => ⟨e', List.mem_append_right _ he', h3⟩⟩
end

theorem bind_ok {ε α β : Type} {x : Except ε α} {f : α → Except ε β} {b : β} (h : x >>= f = .ok b) :
    ∃ a, x = .ok a ∧ f a = .ok b := by
  cases x with
  | error e => cases h
  | ok a => exact ⟨a, rfl, h⟩

theorem normCache_ok {d d' : Dict Val} (h : normCache d = .ok d') :
    (d.lookup "cache" = none ∧ d' = d) ∨ ∃ s, d' = dset "cache_scope" s (dpop "cache" d) := by
  unfold normCache at h
  split at h
  · split at h
    · cases h; exact Or.inr ⟨_, rfl⟩
    · cases h
  · cases h; exact Or.inl ⟨‹_›, rfl⟩

theorem normEnum_ok {key cls : String} {members : List String} {d d' : Dict Val}
    (h : normEnum key cls members d = .ok d') :
    (d.lookup key = none ∧ d' = d) ∨ ∃ v e, d.lookup key = some v ∧ coerceEnum cls members v = .ok e ∧ d' = dset key e d := by
  unfold normEnum at h
  split at h
  · split at h
    · cases h; exact Or.inr ⟨_, _, ‹_›, ‹_›, rfl⟩
    · cases h
  · cases h; exact Or.inl ⟨‹_›, rfl⟩

theorem normEnum_wf {key cls : String} {members : List String} {d d' : Dict Val} (h : WF d)
    (hn : normEnum key cls members d = .ok d') : WF d' := by
  rcases normEnum_ok hn with ⟨_, rfl⟩ | ⟨_, _, _, _, rfl⟩
  · exact h
  · exact wf_dset _ _ _ h

theorem normalize_wf {d d' : Dict Val} (h : WF d) (hn : normalize d = .ok d') : WF d' := by
  obtain ⟨d2, h2, h3⟩ := bind_ok hn
  obtain ⟨d1, h1, h2⟩ := bind_ok h2
  refine normEnum_wf (normEnum_wf ?_ h2) h3
  rcases normCache_ok h1 with ⟨_, rfl⟩ | ⟨_, rfl⟩
  · exact h
  · exact wf_dset _ _ _ (nodup_keys_filter _ h)

theorem validate_ok {t t' : TaskV} (h : validate t = .ok t') :
    normalize t.base = .ok t'.base ∧ normalize t.over = .ok t'.over ∧
      t'.exports = if hasKey "prov" t'.base || hasKey "prov" t'.over then t.exports ++ ["prov"] else t.exports := by
  obtain ⟨b, hb, h⟩ := bind_ok h
  obtain ⟨o, ho, h⟩ := bind_ok h
  cases h
  exact ⟨hb, ho, rfl⟩

theorem validate_wf {t t' : TaskV} (h : validate t = .ok t') (hb : WF t.base) (ho : WF t.over) :
    WF t'.base ∧ WF t'.over := by
  obtain ⟨h1, h2, _⟩ := validate_ok h
  exact ⟨normalize_wf hb h1, normalize_wf ho h2⟩

theorem validate_exports {t t' : TaskV} (h : validate t = .ok t') :
    (∀ n ∈ t.exports, n ∈ t'.exports) ∧ (∀ n ∈ t'.exports, n ∈ t.exports ∨ n = "prov") := by
  rw [(validate_ok h).2.2]
  split
  · exact ⟨fun n hn => List.mem_append_left _ hn, fun n hn => by simpa using hn⟩
  · exact ⟨fun n hn => hn, fun n hn => Or.inl hn⟩

theorem applyOp_wf {reg t t' : TaskV} {op : TaskOp} (hr : WF reg.base) (hb : WF t.base) (ho : WF t.over)
    (h : applyOp reg t op = .ok t') : WF t'.base ∧ WF t'.over := by
  cases op with
  | options u => exact validate_wf h hb (wf_dmerge _ _ ho)
  | exportOptions u => exact validate_wf h hb (wf_dmerge _ _ ho)
  | roundtrip => exact validate_wf h hr ho

theorem applyOps_wf {reg t t' : TaskV} {ops : List TaskOp} (hr : WF reg.base) (hb : WF t.base) (ho : WF t.over)
    (h : applyOps reg t ops = .ok t') : WF t'.base ∧ WF t'.over := by
  induction ops generalizing t with
  | nil => cases h; exact ⟨hb, ho⟩
  | cons op ops ih =>
    obtain ⟨t1, h1, h2⟩ := bind_ok h
    have := applyOp_wf hr hb ho h1
    exact ih this.1 this.2 h2

theorem mkTask_wf {opts defExport : Dict Val} {t : TaskV} (ho : WF opts) (h : mkTask opts defExport = .ok t) :
    WF t.base ∧ WF t.over := by
  unfold mkTask at h
  split at h
  · exact validate_wf h ho List.nodup_nil
  · exact validate_wf h (wf_dmerge _ _ ho) List.nodup_nil

theorem coerceEnum_idem {cls : String} {members : List String} {v e : Val} (h : coerceEnum cls members v = .ok e) :
    coerceEnum cls members e = .ok e := by
  cases v <;> simp only [coerceEnum] at h <;> try cases h
  · split at h
    · cases h; simp [coerceEnum]
    · cases h
  · split at h
    · rename_i hc; cases h; simp [coerceEnum, hc]
    · cases h

/-- the value under `key`, if any, is already a member of the enum class -/
def Normed (key cls : String) (members : List String) (d : Dict Val) : Prop :=
  ∀ v, d.lookup key = some v → coerceEnum cls members v = .ok v

theorem normEnum_of_normed {key cls : String} {members : List String} {d : Dict Val} (h : Normed key cls members d) :
    normEnum key cls members d = .ok d := by
  unfold normEnum
  cases hv : d.lookup key with
  | none => rfl
  | some v => simp only [h v hv, dset_same _ _ _ hv]

theorem normed_normEnum {key cls : String} {members : List String} {d d' : Dict Val}
    (h : normEnum key cls members d = .ok d') : Normed key cls members d' := by
  intro v hv
  rcases normEnum_ok h with ⟨hn, rfl⟩ | ⟨_, e, _, he, rfl⟩
  · rw [hn] at hv; cases hv
  · rw [lookup_dset, if_pos rfl] at hv; cases hv
    exact coerceEnum_idem he

theorem normEnum_idem {key cls : String} {members : List String} {d d' : Dict Val}
    (h : normEnum key cls members d = .ok d') : normEnum key cls members d' = .ok d' :=
  normEnum_of_normed (normed_normEnum h)

theorem lookup_normEnum_other {key cls k : String} {members : List String} {d d' : Dict Val} (hk : k ≠ key)
    (h : normEnum key cls members d = .ok d') : d'.lookup k = d.lookup k := by
  rcases normEnum_ok h with ⟨_, rfl⟩ | ⟨_, _, _, _, rfl⟩
  · rfl
  · rw [lookup_dset, if_neg hk]

/-- `Task._validate` is idempotent on an options dict: validating an already validated dict changes nothing
(so a pickle round trip, which re-validates, keeps the call-time options exactly). -/
theorem normalize_idem {d d' : Dict Val} (h : normalize d = .ok d') : normalize d' = .ok d' := by
  obtain ⟨d2, h2, h3⟩ := bind_ok h
  obtain ⟨d1, h1, h2⟩ := bind_ok h2
  have c1 : d1.lookup "cache" = none := by
    rcases normCache_ok h1 with ⟨hn, rfl⟩ | ⟨_, rfl⟩
    · exact hn
    · rw [lookup_dset, if_neg (by decide), lookup_dpop, if_pos rfl]
  have c' : d'.lookup "cache" = none := by
    rw [lookup_normEnum_other (by decide) h3, lookup_normEnum_other (by decide) h2]; exact c1
  have s' : Normed "cache_scope" "CacheScope" scopeMembers d' := by
    intro v hv
    rw [lookup_normEnum_other (by decide) h3] at hv
    exact normed_normEnum h2 v hv
  unfold normalize normCache
  rw [c']
  show (normEnum "cache_scope" "CacheScope" scopeMembers d' >>= _) = _
  rw [normEnum_of_normed s']
  exact normEnum_idem h3

end RedunModel.Options
