/-
Lemmas about the text that `script_task` finally executes (C29, theorem `second_prepare_keeps_command`):
lines of `strip`/`dedent` results, the full command `[cd] + stage + wrapper + unstage` as text, and the
here-document reader applied to `prepare_command(full_command)`.  Core Lean only.
-/
import RedunModel.Lemmas.Script
namespace RedunModel.Script

/-- a line that `dedent` would normalise: only spaces/tabs -/
def Blank (l : Str) : Prop := l.all isSpTab = true

instance (l : Str) : Decidable (Blank l) := inferInstanceAs (Decidable (l.all isSpTab = true))

/-- lines that `dedent`'s blank-line normalisation leaves as they are (`map_normBlank_of_noBlank`); what
`prepare_command` returns has only such lines (`prepare_lines`) -/
def NoBlankLines (ls : List Str) : Prop := ∀ l ∈ ls, Blank l → l = []

theorem NoBlankLines.nil : NoBlankLines [] := fun _ h => by simp at h

theorem NoBlankLines.cons {l : Str} {ls : List Str} (hl : ¬ Blank l) (h : NoBlankLines ls) : NoBlankLines (l :: ls) := by
  intro x hx hb
  rcases List.mem_cons.1 hx with e | e
  · exact absurd (e ▸ hb) hl
  · exact h x e hb

theorem NoBlankLines.append {a b : List Str} (ha : NoBlankLines a) (hb : NoBlankLines b) : NoBlankLines (a ++ b) :=
  fun l hl => (List.mem_append.1 hl).elim (ha l) (hb l)

theorem nl_isPySpace : isPySpace '\n' = true := by decide

theorem isSpTab_isPySpace {c : Char} (h : isSpTab c = true) : isPySpace c = true := by
  simp [isSpTab] at h
  rcases h with e | e <;> subst e <;> decide

theorem not_blank_of_head {c : Char} {l : Str} (hc : isPySpace c = false) : ¬ Blank (c :: l) := fun hb => by
  simpa [hc] using isSpTab_isPySpace (List.all_eq_true.1 hb c (List.mem_cons_self ..))

theorem joinNL_append (pre : List Str) {b : List Str} (hb : b ≠ []) : joinNL (pre ++ b) = unlines pre ++ joinNL b := by
  induction pre with
  | nil => rfl
  | cons p ps ih => rw [List.cons_append, joinNL_cons _ (by simp [hb]), ih, unlines]; simp

theorem joinNL_cons_tail (w : Str) (post : List Str) :
    ∃ z, joinNL (w :: post) = w ++ z ∧ AtLineEnd z := by
  cases post with
  | nil => exact ⟨[], by simp [joinNL], Or.inl rfl⟩
  | cons p ps => exact ⟨_, rfl, Or.inr ⟨_, rfl⟩⟩

theorem mem_splitNL_decomp {s l : Str} (h : l ∈ splitNL s) :
    ∃ a b, s = a ++ l ++ b ∧ (a = [] ∨ ∃ a', a = a' ++ ['\n']) ∧ AtLineEnd b := by
  obtain ⟨l1, l2, hl⟩ := List.append_of_mem h
  obtain ⟨z, hz, hzs⟩ := joinNL_cons_tail l l2
  refine ⟨unlines l1, z, ?_, ?_, hzs⟩
  · rw [← joinNL_splitNL s, hl, joinNL_append _ (by simp), hz, List.append_assoc]
  · cases l1 with
    | nil => exact Or.inl rfl
    | cons x xs => exact Or.inr ⟨_, unlines_eq_joinNL _ (by simp)⟩

theorem mem_splitNL_between (a b : Str) {l : Str} (hl : '\n' ∉ l) : l ∈ splitNL (a ++ '\n' :: (l ++ '\n' :: b)) := by
  simp [splitNL_append_nl, splitNL_no_nl hl]

theorem lstrip_head (s : Str) : lstrip s = [] ∨ ∃ c t, lstrip s = c :: t ∧ isPySpace c = false := by
  unfold lstrip
  cases h : s.dropWhile isPySpace with
  | nil => exact Or.inl rfl
  | cons c t =>
    have := List.head_dropWhile_not isPySpace (l := s) (by simp [h])
    exact Or.inr ⟨c, t, rfl, by simpa [h] using this⟩

theorem rstrip_append (y r : Str) : rstrip (y ++ r) = if rstrip r = [] then rstrip y else y ++ rstrip r := by
  unfold rstrip
  rw [List.reverse_append, List.dropWhile_append]
  cases hd : r.reverse.dropWhile isPySpace <;> simp

theorem rstrip_is_prefix (s : Str) : ∃ t, s = rstrip s ++ t := by
  unfold rstrip
  refine ⟨(s.reverse.takeWhile isPySpace).reverse, ?_⟩
  rw [← List.reverse_append, List.takeWhile_append_dropWhile, List.reverse_reverse]

theorem strip_infix (s : Str) : ∃ w1 w2, s = w1 ++ strip s ++ w2 := by
  obtain ⟨w2, h2⟩ := rstrip_is_prefix (lstrip s)
  refine ⟨s.takeWhile isPySpace, w2, ?_⟩
  rw [List.append_assoc]
  unfold strip
  rw [← h2]
  exact (List.takeWhile_append_dropWhile).symm

theorem rstrip_last {s : Str} {c : Char} (h : (rstrip s).getLast? = some c) : isPySpace c = false := by
  have := List.head?_dropWhile_not isPySpace s.reverse
  rw [rstrip, List.getLast?_reverse] at h
  rw [h] at this
  exact this

theorem strip_head {s : Str} {c : Char} (h : (strip s).head? = some c) : isPySpace c = false := by
  obtain ⟨w, hw⟩ := rstrip_is_prefix (lstrip s)
  have := List.head?_dropWhile_not isPySpace s
  rw [show s.dropWhile isPySpace = lstrip s from rfl, hw, List.head?_append, show rstrip (lstrip s) = strip s from rfl, h] at this
  exact this

theorem strip_lines (s : Str) (h : NoBlankLines (splitNL s)) : NoBlankLines (splitNL (strip s)) := by
  intro l hl hb
  obtain ⟨a, b, hs, ha, hb'⟩ := mem_splitNL_decomp hl
  cases l with
  | nil => rfl
  | cons x xs =>
    have hsp : ∀ c ∈ x :: xs, isPySpace c = true := fun c hc =>
      isSpTab_isPySpace (List.all_eq_true.1 hb c hc)
    -- a blank line is at neither end of the stripped text, so it is a line of `s`
    obtain ⟨a', rfl⟩ := ha.resolve_left fun e => by
      have := strip_head (s := s) (c := x) (by rw [hs, e]; rfl)
      rw [hsp x (by simp)] at this
      cases this
    obtain ⟨b', rfl⟩ := hb'.resolve_left fun e => by
      have := rstrip_last (s := lstrip s) (c := (x :: xs).getLast (by simp))
        (by rw [show rstrip (lstrip s) = strip s from rfl, hs, e]; simp [List.getLast?_eq_some_getLast])
      rw [hsp _ (List.getLast_mem _)] at this
      cases this
    obtain ⟨w1, w2, hw⟩ := strip_infix s
    have hmem : (x :: xs) ∈ splitNL s := by
      rw [hw, hs, show w1 ++ (a' ++ ['\n'] ++ (x :: xs) ++ '\n' :: b') ++ w2 =
        (w1 ++ a') ++ '\n' :: ((x :: xs) ++ '\n' :: (b' ++ w2)) by simp]
      exact mem_splitNL_between _ _ (mem_splitNL_no_nl _ hl)
    cases h _ hmem hb

theorem normBlank_blank (l : Str) (h : Blank (normBlank l)) : normBlank l = [] := by
  unfold normBlank at h ⊢
  split
  · rfl
  · rename_i hn
    rw [if_neg hn] at h
    exact absurd h hn

theorem lcp_all (a b : Str) (h : a.all isSpTab = true) : (lcp a b).all isSpTab = true := by
  induction a generalizing b with
  | nil => rfl
  | cons x xs ih =>
    cases b with
    | nil => rfl
    | cons y ys =>
      simp only [List.all_cons, Bool.and_eq_true] at h
      unfold lcp
      split
      · simp only [List.all_cons, Bool.and_eq_true]; exact ⟨h.1, ih ys h.2⟩
      · rfl

theorem marginStep_all (m : Option Str) (l : Str) (h : ∀ mg, m = some mg → mg.all isSpTab = true) :
    ∀ mg, marginStep m l = some mg → mg.all isSpTab = true := by
  intro mg hm
  unfold marginStep at hm
  split at hm
  · exact h mg hm
  · split at hm
    · cases hm; exact List.all_takeWhile
    · cases hm; exact lcp_all _ _ (h _ rfl)

theorem foldl_margin_all (ls : List Str) (m : Option Str) (hm : ∀ mg, m = some mg → mg.all isSpTab = true) :
    ∀ mg, ls.foldl marginStep m = some mg → mg.all isSpTab = true := by
  induction ls generalizing m with
  | nil => exact hm
  | cons l ls ih => exact ih _ (marginStep_all m l hm)

theorem stripMargin_blank (mg x : Str) (hmg : mg.all isSpTab = true) (h : Blank (stripMargin mg x)) : Blank x := by
  unfold stripMargin at h
  split at h
  · rename_i hp
    obtain ⟨r, rfl⟩ := List.isPrefixOf_iff_prefix.1 hp
    rw [List.drop_left] at h
    simp only [Blank, List.all_append, Bool.and_eq_true]
    exact ⟨hmg, h⟩
  · exact h

theorem stripMargin_nil (mg : Str) : stripMargin mg [] = [] := by
  unfold stripMargin; split <;> simp

theorem not_mem_normBlank {c : Char} {l : Str} (h : c ∉ l) : c ∉ normBlank l := by
  unfold normBlank; split
  · simp
  · exact h

theorem not_mem_stripMargin {c : Char} {mg l : Str} (h : c ∉ l) : c ∉ stripMargin mg l := by
  unfold stripMargin; split
  · exact fun hm => h (List.mem_of_mem_drop hm)
  · exact h

theorem dedentLines_eq (ls : List Str) :
    ∃ mg, mg.all isSpTab = true ∧ dedentLines ls = (ls.map normBlank).map (stripMargin mg) := by
  have h0 : ∀ l : List Str, l = l.map (stripMargin []) := fun l =>
    (List.map_id'' (fun x => by simp [stripMargin]) l).symm
  unfold dedentLines
  simp only
  split
  · split
    · exact ⟨[], rfl, h0 _⟩
    · exact ⟨_, foldl_margin_all _ none (by simp) _ ‹_›, rfl⟩
  · exact ⟨[], rfl, h0 _⟩

theorem dedent_lines (s : Str) : NoBlankLines (splitNL (dedent s)) := by
  obtain ⟨mg, hmg, e⟩ := dedentLines_eq (splitNL s)
  rw [dedent, e, List.map_map, splitNL_joinNL _ (by simpa using splitNL_ne_nil s)]
  · intro l hl hb
    obtain ⟨l0, _, rfl⟩ := List.mem_map.1 hl
    simp only [Function.comp] at hb ⊢
    rw [normBlank_blank l0 (stripMargin_blank mg _ hmg hb), stripMargin_nil]
  · intro l hl
    obtain ⟨l0, h0, rfl⟩ := List.mem_map.1 hl
    exact not_mem_stripMargin (not_mem_normBlank (mem_splitNL_no_nl l0 h0))

theorem Harmless.noblank {p : Str} (hp : Harmless p) : Blank p → p = [] := by
  intro hb
  rcases lstrip_head p with e | ⟨c, t, e, hc⟩
  · exact hp.2.1 ▸ e
  · rw [hp.2.1] at e
    exact absurd (e ▸ hb) (not_blank_of_head hc)

theorem defaultShell_harmless : ∀ l ∈ splitNL defaultShell, Harmless l := by
  unfold defaultShell
  rw [toList_lit rfl]
  decide +kernel

theorem prepare_eq (x : Str) : ∃ sh, (∀ l ∈ sh, Harmless l) ∧ prepare x = unlines sh ++ strip (dedent x) := by
  unfold prepare
  simp only
  split
  -- not `rfl`: `strip (dedent x) = unlines [] ++ strip (dedent x)` is slow to check by unfolding
  · exact ⟨[], nofun, (List.nil_append _).symm⟩
  · exact ⟨splitNL defaultShell, defaultShell_harmless, by rw [unlines_splitNL, List.append_assoc, List.singleton_append]⟩

theorem prepare_lines (c : Str) : NoBlankLines (splitNL (prepare c)) := by
  obtain ⟨sh, h1, h2⟩ := prepare_eq c
  rw [h2, splitNL_unlines_append _ _ fun l hl => (h1 l hl).1]
  exact .append (fun l hl => (h1 l hl).noblank) (strip_lines _ (dedent_lines c))

theorem lcp_nil_right (a : Str) : lcp a [] = [] := by cases a <;> rfl
theorem lcp_nil_left (b : Str) : lcp [] b = [] := rfl

theorem foldl_margin_nil (ls : List Str) : ls.foldl marginStep (some []) = some [] := by
  induction ls with
  | nil => rfl
  | cons l ls ih =>
    rw [List.foldl_cons, show marginStep (some []) l = some [] by unfold marginStep; split <;> rfl, ih]

theorem foldl_margin_of_unindented (ls : List Str) (m : Option Str)
    (h : ∃ l ∈ ls, ¬ Blank l ∧ l.takeWhile isSpTab = []) : ls.foldl marginStep m = some [] := by
  induction ls generalizing m with
  | nil => simp at h
  | cons l0 ls ih =>
    obtain ⟨l, hl, hnb, htw⟩ := h
    rw [List.foldl_cons]
    rcases List.mem_cons.1 hl with rfl | e
    · rw [show marginStep m l = some [] by cases m <;> simp [marginStep, show ¬ l.all isSpTab = true from hnb, htw, lcp_nil_right],
        foldl_margin_nil]
    · exact ih _ ⟨l, e, hnb, htw⟩

theorem map_normBlank_of_noBlank {ls : List Str} (h : NoBlankLines ls) : ls.map normBlank = ls := by
  refine (List.map_congr_left fun l hl => ?_).trans (List.map_id ls)
  unfold normBlank
  split
  · exact (h l hl ‹_›).symm
  · rfl

theorem dedent_front (x t : Str) (h1 : NoBlankLines (splitNL x))
    (h2 : ∃ l ∈ splitNL x, ¬ Blank l ∧ l.takeWhile isSpTab = []) : ∃ t', dedent (x ++ '\n' :: t) = x ++ '\n' :: t' := by
  refine ⟨joinNL ((splitNL t).map normBlank), ?_⟩
  have hm : margin (splitNL x ++ (splitNL t).map normBlank) = some [] := by
    obtain ⟨l, hl, h⟩ := h2
    exact foldl_margin_of_unindented _ none ⟨l, List.mem_append_left _ hl, h⟩
  unfold dedent dedentLines
  simp only [splitNL_append_nl, List.map_append, map_normBlank_of_noBlank h1, hm, if_true]
  rw [joinNL_append _ (by simpa using splitNL_ne_nil t), unlines_splitNL]
  simp

def Word (e : Str) : Prop := e ≠ [] ∧ ∀ ch ∈ e, isPySpace ch = false

theorem Word.no_nl {e : Str} (h : Word e) : '\n' ∉ e := fun hm => by
  simpa [nl_isPySpace] using h.2 _ hm

theorem Word.not_blank {e : Str} (h : Word e) : ¬ Blank e := by
  obtain ⟨hne, hsp⟩ := h
  cases e with
  | nil => exact absurd rfl hne
  | cons ch t => exact not_blank_of_head (hsp ch (by simp))

theorem Word.rstrip {e : Str} (h : Word e) : rstrip e = e := by
  have : e.reverse.dropWhile isPySpace = e.reverse := by
    cases hr : e.reverse with
    | nil => rfl
    | cons a l => simp [List.dropWhile, h.2 a (by rw [← List.mem_reverse, hr]; simp)]
  unfold Script.rstrip
  rw [this, List.reverse_reverse]

theorem lstrip_append (a x : Str) : lstrip (a ++ x) = if lstrip a = [] then lstrip x else lstrip a ++ x := by
  unfold lstrip
  rw [List.dropWhile_append]
  cases a.dropWhile isPySpace <;> simp

theorem lstrip_cons {c : Char} (t : Str) (h : isPySpace c = false) : lstrip (c :: t) = c :: t := by
  simp [lstrip, h]

theorem strip_around (a b : Str) {m : Str} (hne : m ≠ []) (hl : lstrip m = m) (hr : rstrip m = m) :
    strip (a ++ m ++ b) = lstrip a ++ m ++ rstrip b := by
  have h1 : lstrip (a ++ m ++ b) = lstrip a ++ m ++ b := by
    rw [List.append_assoc, lstrip_append, lstrip_append m, hl, if_neg hne]
    split <;> simp [*]
  have h2 : rstrip (lstrip a ++ m) = lstrip a ++ m := by
    rw [rstrip_append, hr, if_neg hne]
  rw [strip, h1, rstrip_append, h2]
  split <;> simp [*]

theorem rstrip_nl_tail (t : Str) : AtLineEnd (rstrip ('\n' :: t)) :=
  (List.prefix_cons_iff.1 ((rstrip_is_prefix _).imp fun _ => Eq.symm)).imp_right fun ⟨r, h, _⟩ => ⟨r, h⟩

/-- `lstrip` of lines that do not start with white space: leading empty lines go -/
theorem lstrip_unlines (pre : List Str) (hpre : ∀ p ∈ pre, lstrip p = p) :
    ∃ pre', (∀ p ∈ pre', p ∈ pre) ∧ lstrip (unlines pre) = unlines pre' := by
  induction pre with
  | nil => exact ⟨[], nofun, rfl⟩
  | cons p ps ih =>
    obtain ⟨pre', h1, h2⟩ := ih fun q hq => hpre q (List.mem_cons_of_mem _ hq)
    rw [unlines, lstrip_append, hpre p (by simp)]
    split
    · exact ⟨pre', fun q hq => List.mem_cons_of_mem _ (h1 q hq), by rw [← h2]; simp [lstrip, nl_isPySpace]⟩
    · exact ⟨p :: ps, fun q hq => hq, rfl⟩

theorem unlines_append (a b : List Str) : unlines (a ++ b) = unlines a ++ unlines b := by
  induction a with
  | nil => rfl
  | cons x xs ih => simp [unlines, ih]

theorem catLine_head (eof : Str) : ∃ t, catLine eof = 'c' :: t := by
  unfold catLine catPrefix
  rw [toList_lit rfl]
  exact ⟨_, rfl⟩

/-- The second `prepare_command` (`get_task_command` applies it to `full_command`) does not reach into the
here-document: the script that is executed still writes `c` and a newline to the temp file, for **any** text `t`
after the terminator line. `pre` stands for the `cd` line, the stage commands and the head of the wrapper. A blank
line inside `c` the second `dedent` would empty, hence `hc`; `prepare_command(cmd)` has none (`prepare_lines`). -/
theorem prepare_keeps_heredoc (c eof : Str) (pre : List Str) (t : Str) (hc : NoBlankLines (splitNL c))
    (he : eof ∉ splitNL c) (hw : Word eof) (hpre : ∀ p ∈ pre, Harmless p) :
    tempFileOf (prepare (unlines pre ++ (docText c eof ++ '\n' :: t))) = some (c ++ ['\n']) := by
  obtain ⟨u, hu⟩ := catLine_head eof
  have hcat : ¬ Blank (catLine eof) := hu ▸ not_blank_of_head (by decide)
  -- `dedent` changes at most what follows the terminator line: the redirection line is not indented
  have hlines : splitNL (unlines pre ++ docText c eof) = pre ++ catLine eof :: (splitNL c ++ [eof]) := by
    rw [splitNL_unlines_append _ _ fun p hp => (hpre p hp).1, splitNL_docText c hw.no_nl]
  obtain ⟨t', hded⟩ := dedent_front (unlines pre ++ docText c eof) t
    (by
      rw [hlines]
      exact .append (fun l hl => (hpre l hl).noblank) (.cons hcat (.append hc (.cons hw.not_blank .nil))))
    ⟨_, by rw [hlines]; simp, hcat, by rw [hu]; rfl⟩
  -- `strip` removes empty lines at the front and stops at the terminator
  obtain ⟨pre', hsub, hstrip⟩ := lstrip_unlines pre fun p hp => (hpre p hp).2.1
  -- the reader skips the interpreter lines and what is left of the harmless lines
  obtain ⟨sh, hsh, hp⟩ := prepare_eq (unlines pre ++ (docText c eof ++ '\n' :: t))
  rw [hp, ← List.append_assoc, hded,
    strip_around _ _ (by simp [docText]) (by rw [docText, hu]; exact lstrip_cons _ (by decide))
      (by rw [docText, List.append_cons _ '\n', rstrip_append, hw.rstrip, if_neg hw.1]),
    hstrip, List.append_assoc, ← List.append_assoc, ← unlines_append]
  exact tempFileOf_docText _ c eof _ (fun l hl => (List.mem_append.1 hl).elim (hsh l) fun h => hpre l (hsub l h)) he hw.no_nl
    (rstrip_nl_tail t')

/-- `prepare_keeps_heredoc` for the `full_command` of `script()`: `pre` is the `cd` line and the stage commands,
`post` whatever is unstaged after the wrapper. -/
theorem fullCommand_keeps_heredoc (c eof : Str) (pre post : List Str) (hc : NoBlankLines (splitNL c)) (he : eof ∉ splitNL c)
    (hw : Word eof) (hpre : ∀ p ∈ pre, Harmless p) :
    tempFileOf (prepare (joinNL (pre ++ wrapWith c eof :: post))) = some (c ++ ['\n']) := by
  obtain ⟨z, hz, _⟩ := joinNL_cons_tail (wrapWith c eof) post
  -- re-bracketed step by step: one `simp` equation for the same costs the kernel fifty times as much here
  rw [joinNL_append _ (by simp), hz, wrapWith_eq, List.append_assoc, List.append_assoc, ← List.append_assoc,
    ← unlines_append, List.cons_append]
  exact prepare_keeps_heredoc c eof _ _ hc he hw fun p hp => (List.mem_append.1 hp).elim (hpre p) (wrapHead_harmless p)

theorem not_prefix_cp (rest : Str) : catPrefix.isPrefixOf ('c' :: 'p' :: rest) = false := by
  unfold catPrefix
  rw [toList_lit rfl]
  rfl
theorem not_prefix_cd (rest : Str) : catPrefix.isPrefixOf ('c' :: 'd' :: rest) = false := by
  unfold catPrefix
  rw [toList_lit rfl]
  rfl

theorem quoteBody_no_nl {s : Str} (h : '\n' ∉ s) : '\n' ∉ quoteBody s := by
  induction s with
  | nil => exact h
  | cons c cs ih =>
    simp only [List.mem_cons, not_or] at h
    unfold quoteBody
    split
    · exact fun hm => (List.mem_append.1 hm).elim (by decide) (ih h.2)
    · simp [h.1, ih h.2]

theorem shQuote_no_nl {s : Str} (h : '\n' ∉ s) : '\n' ∉ shQuote s := by
  unfold shQuote
  split
  · decide
  · split
    · exact h
    · simp [quoteBody_no_nl h]

theorem harmless_nil : Harmless [] := by
  refine ⟨by simp, rfl, ?_⟩
  unfold parseDelim catPrefix
  rw [toList_lit rfl]
  rfl

theorem harmless_cons {ch : Char} {t : Str} (hch : isPySpace ch = false) (hp : catPrefix.isPrefixOf (ch :: t) = false)
    (hnl : '\n' ∉ t) : Harmless (ch :: t) :=
  ⟨fun hm => (List.mem_cons.1 hm).elim (fun e => by rw [← e, nl_isPySpace] at hch; cases hch) hnl,
    lstrip_cons t hch, by simp [parseDelim, hp]⟩

theorem shellCopy_harmless (d : Bool) (src dst : Str) (h1 : '\n' ∉ src) (h2 : '\n' ∉ dst) :
    Harmless (shellCopy d src dst) := by
  obtain ⟨f, hf, e⟩ : ∃ f, '\n' ∉ f ∧ shellCopy d src dst = 'c' :: 'p' :: (f ++ shQuote src ++ ' ' :: shQuote dst) := by
    cases d
    · exact ⟨" ".toList, by decide, by simp [shellCopy]⟩
    · exact ⟨" -r ".toList, by decide, by simp [shellCopy]⟩
  rw [e]
  exact harmless_cons (by decide) (not_prefix_cp _) (by simp [hf, shQuote_no_nl h1, shQuote_no_nl h2])

theorem cdPart_harmless (t : Option Str) (ht : ∀ d, t = some d → '\n' ∉ d) : ∀ p ∈ cdPart t, Harmless p := by
  intro p hp
  cases t with
  | none => simp [cdPart] at hp
  | some d =>
    have e : shJoin ["cd".toList, d] = 'c' :: 'd' :: ' ' :: shQuote d := by
      have : shQuote ['c', 'd'] = ['c', 'd'] := by decide
      simp [shJoin, joinSp, this]
    rw [List.mem_singleton.1 hp, e]
    exact harmless_cons (by decide) (not_prefix_cd _) (by simp [shQuote_no_nl (ht d rfl)])

/-- path hygiene assumed of staging leaves: no newline inside a path -/
def leafOk : Leaf → Prop
  | .staging _ _ l r => '\n' ∉ l.path ∧ '\n' ∉ r.path
  | _ => True

theorem renderStage_ok {l : Leaf} {s : Str} (h : renderStage l = .ok s) :
    ∃ fam d loc rem, l = .staging fam d loc rem ∧ s = if loc.path = rem.path then [] else shellCopy d rem.path loc.path := by
  cases l with
  | staging fam d loc rem => exact ⟨fam, d, loc, rem, rfl, (Except.ok.inj h).symm⟩
  | _ => cases h

theorem renderStage_harmless (l : Leaf) (hl : leafOk l) (s : Str) (h : renderStage l = .ok s) : Harmless s := by
  obtain ⟨fam, d, loc, rem, rfl, rfl⟩ := renderStage_ok h
  split
  · exact harmless_nil
  · exact shellCopy_harmless d _ _ hl.2 hl.1

theorem isDigit_not_space {c : Char} (h : c.isDigit = true) : isPySpace c = false := by
  -- a digit has code 48 to 57, white space has none of these
  simp only [Char.isDigit, Bool.and_eq_true, decide_eq_true_eq] at h
  have h1 : 48 ≤ c.toNat := h.1
  have h2 : c.toNat ≤ 57 := h.2
  simp [isPySpace]
  omega

theorem eofCand_word {pfx : Str} (h : Word pfx) (k : Nat) : Word (eofCand pfx k) := by
  refine ⟨?_, fun ch hm => (mem_eofCand hm).elim (h.2 ch) isDigit_not_space⟩
  unfold eofCand
  split
  · exact h.1
  · simp [h.1]

end RedunModel.Script
