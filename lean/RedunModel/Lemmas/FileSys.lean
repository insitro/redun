/-
Helper lemmas for the filesystem / file-class models (C04, C30): which paths are members of a collection, when two
filesystem states give a Dir the same hash (`dir_hash_eq_iff`), what the close-hook test of `File.open` reads off
the mode string (`hookInstalled_eq`), and the freshness of the destination after `File.copy_to` / `Dir.copy_to`.
-/
import RedunModel.Model.FileOps
namespace RedunModel.FileSys

theorem mem_members {U : List Path} {fs : FS} {s : Path → Bool} {p : Path} :
    p ∈ members U fs s ↔ p ∈ U ∧ s p = true ∧ (fs p).isSome = true := by
  simp [members]

theorem members_congr {U : List Path} {fs fs' : FS} {s : Path → Bool}
    (h : ∀ p ∈ U, s p = true → (fs p).isSome = (fs' p).isSome) : members U fs s = members U fs' s :=
  List.filter_congr fun p hp => by cases hs : s p <;> simp [h p hp, hs]

/-- Lists of entries that each carry their own key (a member hash contains its path) are equal iff the key lists are
and the entries agree key by key. -/
theorem map_eq_map_iff_key {α β : Type} (key : β → α) {h h' : α → β} (hk : ∀ a, key (h a) = a)
    (hk' : ∀ a, key (h' a) = a) {l l' : List α} : l.map h = l'.map h' ↔ l = l' ∧ ∀ a ∈ l, h a = h' a := by
  constructor
  · intro e
    have := congrArg (List.map key) e
    simp only [List.map_map, Function.comp_def, hk, hk', List.map_id'] at this
    subst this
    exact ⟨rfl, List.map_inj_left.mp e⟩
  · rintro ⟨rfl, e⟩
    exact List.map_congr_left e

/-- the path a member hash speaks of -/
def HF.path : HF → Path
  | .stat p _ _ => p
  | .content p _ => p

theorem path_statH (fs : FS) (p : Path) : (statH fs p).path = p := by
  unfold statH; split <;> rfl

/-- A Dir / ContentDir hash lists one stat entry per member file: two states hash alike iff they have the same
member files with the same stat entries. -/
theorem dir_hash_eq_iff (U : List Path) (fs fs' : FS) {fam : Fam} (hf : fam ≠ .imm) (d : Path) :
    calcHash U fs (.dir fam d) = calcHash U fs' (.dir fam d) ↔
      members U fs (under d) = members U fs' (under d) ∧ ∀ p ∈ members U fs (under d), statH fs p = statH fs' p := by
  cases fam
  case imm => exact absurd rfl hf
  all_goals
    simp only [calcHash, H.coll.injEq, true_and, map_eq_map_iff_key HF.path (path_statH fs) (path_statH fs')]

/-- The hook test and the parser read the same letters: the hook is installed iff the mode string names a base other
than `r`, or holds a `+`. -/
theorem hookInstalled_eq (mode : List Char) :
    hookInstalled mode = ((mode.filterMap fun c =>
      if c == 'r' then some Base.r else if c == 'w' then some Base.w else if c == 'a' then some Base.a
      else if c == 'x' then some Base.x else none).any (· != Base.r) || mode.contains '+') := by
  induction mode with
  | nil => rfl
  | cons c t ih =>
    rw [hookInstalled, List.any_cons, ← hookInstalled, ih, List.contains_cons, List.filterMap_cons, BEq.comm (a := '+')]
    -- a letter that is one of the five settles both sides; any other is skipped by both
    cases hr : c == 'r'
    case true => cases beq_iff_eq.mp hr; rfl
    cases hw : c == 'w'
    case true => cases beq_iff_eq.mp hw; rfl
    cases ha : c == 'a'
    case true => cases beq_iff_eq.mp ha; rfl
    cases hx : c == 'x'
    case true => cases beq_iff_eq.mp hx; rfl
    cases hp : c == '+'
    case true => cases beq_iff_eq.mp hp; simp
    rfl

end RedunModel.FileSys

namespace RedunModel.FileOps
open RedunModel.FileSys

theorem getElem?_set_of_some {α} (l : List α) (i : Nat) (a b : α) (h : l[i]? = some a) :
    (l.set i b)[i]? = some b := by
  rw [List.getElem?_set_self (List.getElem?_eq_some_iff.mp h).1]

theorem fresh_set {U : List Path} {fs : FS} {objs : List Obj} {i : Nat} {o : Obj} (hi : objs[i]? = some o)
    (o' : Obj) (hc : o'.cached = some (calcHash U fs o'.val)) : Fresh U ⟨fs, objs.set i o'⟩ i :=
  ⟨o', getElem?_set_of_some _ _ _ _ hi, hc⟩

theorem copyFile_fresh (U : List Path) (s : St) (i j : Nat) (skip : Bool) (t : Int)
    (h : (copyFile U s i j skip t).2 = .ok) : Fresh U (copyFile U s i j skip t).1 j := by
  revert h
  unfold copyFile
  split
  · split
    · nofun
    · nofun
    · exact fun _ => fresh_set (by assumption) _ rfl
  · nofun

theorem copyDir_fresh (U : List Path) (s : St) (i j : Nat) (skip : Bool) (t : Int)
    (h : (copyDir U s i j skip t).2 = .ok) : Fresh U (copyDir U s i j skip t).1 j := by
  revert h
  unfold copyDir
  split
  · split
    · nofun
    · split
      · nofun
      · exact fun _ => fresh_set (by assumption) _ rfl
  · nofun

end RedunModel.FileOps
