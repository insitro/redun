/-
Job accounting for `RedunModel.Model.Monitor` (property C10), for every variant and every interleaving.
Frames first: what one line of each kind of thread can write.  Then the accounting invariant `InvJ`, kept by every
event (`invJ_step`): conservation (every job of the input stream is in exactly one place) and fault accounting (a job
that a failing status-processing step has removed from the pending map is covered by a scheduler-level error, one
already raised — `crashes`, i.e. `reject_job(None, error)` — or one a monitor thread on its `except` path is about to
raise).
-/
import RedunModel.Model.Monitor
import RedunModel.Lemmas.ListAux
namespace RedunModel.Monitor

/-- the job a Glue submission thread holds between `popleft()` and `running_glue_jobs[job_id] = job` -/
def handOf (u : Sub) : List Job :=
  match u.ph with
  | .mid _ | .promote => [u.cur]
  | _ => []

def inHandL (subs : List Sub) : List Job := (subs.map handOf).flatten
def inHand (s : State) : List Job := inHandL s.subs

def rest (s : State) : List Job := if s.sph = .ins then s.cur :: s.todo else s.todo

def excOf (m : Mon) : Nat :=
  match m.ph with
  | .exc _ => 1
  | _ => 0

def excCountL (l : List Mon) : Nat := (l.map excOf).sum
def excCount (s : State) : Nat := excCountL s.old + excCountL s.mon.toList

/-- the arrayer's poll and the events of the environment, as opposed to a line of one of the executor's threads -/
def Ev.isEnv : Ev → Bool
  | .A | .F | .L _ | .O _ _ => true
  | _ => false

variable {V : Variant} {s s' : State}

theorem stepM_cases {k : Nat} (hs : stepM V s k = some s') :
    (∃ m s'' m', s.old[k]? = some m ∧ stepMon V s false m = some (s'', m') ∧ s' = { s'' with old := s''.old.set k m' }) ∨
    (∃ m s'' m', s.mon = some m ∧ stepMon V s true m = some (s'', m') ∧ s' = { s'' with mon := some m' }) := by
  unfold stepM at hs
  (repeat' split at hs) <;> cases hs
  · exact .inl ⟨_, _, _, by assumption, by assumption, rfl⟩
  · exact .inr ⟨_, _, _, by assumption, by assumption, rfl⟩

theorem stepU_cases {k : Nat} (hs : stepU V s k = some s') :
    (∃ u s'' u', s.oldSubs[k]? = some u ∧ stepSub V s u = some (s'', u') ∧
      s' = { s'' with oldSubs := s''.oldSubs.set k u' }) ∨
    (∃ u s'' u', s.sub = some u ∧ stepSub V s u = some (s'', u') ∧ s' = { s'' with sub := some u' }) := by
  unfold stepU at hs
  (repeat' split at hs) <;> cases hs
  · exact .inl ⟨_, _, _, by assumption, by assumption, rfl⟩
  · exact .inr ⟨_, _, _, by assumption, by assumption, rfl⟩

theorem excOf_mNops_exc (r : List Lbl) (next : MPh) (h : r ≠ []) : excOf { ph := mNops r .exc next } = 1 := by
  cases r with
  | nil => exact absurd rfl h
  | cons x r => rfl

theorem sNops_ind {P : SPh → Prop} (r : List Lbl) {k : List Lbl → SPh} {next : SPh} (hk : ∀ r, P (k r)) (hn : P next) :
    P (sNops r k next) := by
  cases r
  · exact hn
  · exact hk _

theorem finishS_ind {P : State → Prop} (s : State)
    (h : ∀ sp' c' t', sp' = .done ∨ sp' = .ins → P { s with sph := sp', cur := c', todo := t' }) : P (finishS s) := by
  unfold finishS
  split
  · exact h .done _ _ (.inl rfl)
  · exact h .ins _ _ (.inr rfl)

theorem rest_of_ne (h : s.sph ≠ .ins) : rest s = s.todo := if_neg h

theorem inHandL_append (a b : List Sub) : inHandL (a ++ b) = inHandL a ++ inHandL b := by
  simp [inHandL]

theorem excCountL_append (a b : List Mon) : excCountL (a ++ b) = excCountL a + excCountL b := by
  simp [excCountL]

theorem handOf_start (V : Variant) (u : Sub) :
    handOf (if u.ph = .unstarted then { u with ph := uNops V.uPre .pre .outer } else u) = handOf u := by
  split
  · rename_i h; simp only [handOf, h, uNops]; cases V.uPre <;> rfl
  · rfl

theorem excOf_start (V : Variant) (m : Mon) :
    excOf (if m.ph = .unstarted then { m with ph := mNops V.mPre .pre .loop } else m) = excOf m := by
  split
  · rename_i h; simp only [excOf, h, mNops]; cases V.mPre <;> rfl
  · rfl

theorem inHandL_toList_map (o : Option Sub) (f : Sub → Sub) (hf : ∀ u, handOf (f u) = handOf u) :
    inHandL (o.map f).toList = inHandL o.toList := by
  cases o <;> simp [inHandL, hf]

theorem excCountL_toList_map (o : Option Mon) (f : Mon → Mon) (hf : ∀ m, excOf (f m) = excOf m) :
    excCountL (o.map f).toList = excCountL o.toList := by
  cases o <;> simp [excCountL, hf]

/-- One line of the scheduler thread as the job accounting sees it.  `line`: the insert line records the current job
(in the pending map or in the queue); every other line moves no job. -/
structure SFrame (V : Variant) (s s' : State) : Prop where
  reported : s'.reported = s.reported
  crashes : s'.crashes = s.crashes
  faulted : s'.faulted = s.faulted
  dropped : s'.dropped = s.dropped
  hand : inHand s' = inHand s
  exc : excCount s' = excCount s
  line : (s.sph = .ins ∧ s'.submitted = s.submitted ++ [s.cur] ∧ rest s = s.cur :: rest s' ∧
      s'.hit = (s.hit || s.mons.any (exiting V)) ∧
      (s'.pending = s.pending ++ [s.cur] ∧ s'.queue = s.queue ∨ s'.pending = s.pending ∧ s'.queue = s.queue ++ [s.cur])) ∨
    (s.sph ≠ .ins ∧ s'.submitted = s.submitted ∧ rest s' = rest s ∧ s'.hit = s.hit ∧ s'.pending = s.pending ∧
      s'.queue = s.queue)

/-- a line that writes at most the flag, the scheduler's phase and the thread tables -/
theorem SFrame.ctl {t : State} (h0 : s.sph ≠ .ins) (h1 : t.sph ≠ .ins)
    (hh : inHand t = inHand s := by rfl) (hx : excCount t = excCount s := by rfl)
    (e : t = { s with flag := t.flag, sph := t.sph, old := t.old, mon := t.mon, oldSubs := t.oldSubs, sub := t.sub } := by rfl) :
    SFrame V s t :=
  ⟨(congrArg State.reported e :), (congrArg State.crashes e :), (congrArg State.faulted e :),
    (congrArg State.dropped e :), hh, hx, .inr ⟨h0, (congrArg State.submitted e :),
      (rest_of_ne h1).trans ((congrArg State.todo e :).trans (rest_of_ne h0).symm),
      (congrArg State.hit e :), (congrArg State.pending e :), (congrArg State.queue e :)⟩⟩

theorem SFrame.finish {t : State} (h : SFrame V s t) (h1 : t.sph ≠ .ins) : SFrame V s (finishS t) := by
  have hr : rest (finishS t) = rest t := by
    rw [rest_of_ne h1]
    unfold finishS
    split
    · rfl
    · rename_i ht; exact ht.symm
  revert hr
  unfold finishS
  split <;> intro hr <;>
    exact ⟨h.reported, h.crashes, h.faulted, h.dropped, h.hand, h.exc, h.line.imp
      (fun ⟨a, b, c, d⟩ => ⟨a, b, c.trans (congrArg _ hr.symm), d⟩) (fun ⟨a, b, c, d⟩ => ⟨a, b, hr.trans c, d⟩)⟩

theorem stepS_frame (hs : stepS V s = some s') : SFrame V s s' := by
  obtain ⟨sp, hsph⟩ : ∃ sp, s.sph = sp := ⟨_, rfl⟩
  have hne (h : sp ≠ .ins) : s.sph ≠ .ins := hsph ▸ h
  have nops {r k next} (hk : ∀ r, k r ≠ .ins) (hn) := @sNops_ind (· ≠ SPh.ins) r k next hk hn
  cases sp <;> simp only [stepS, hsph] at hs
  case ins =>
    have hr : rest s = s.cur :: s.todo := if_pos hsph
    -- the job goes to the pending map (reunited, or no arrayer and no Glue queue) or to the queue
    (repeat' split at hs) <;> cases hs <;> refine ⟨rfl, rfl, rfl, rfl, rfl, rfl, .inl ⟨hsph, rfl, hr, rfl, ?_⟩⟩
    · exact .inl ⟨rfl, rfl⟩
    · exact .inr ⟨rfl, rfl⟩
    · exact .inr ⟨rfl, rfl⟩
    · exact .inl ⟨rfl, rfl⟩
  case call | pre r | setPre r | newPre r =>
    cases hs
    exact .ctl (hne nofun) (nops (fun _ => nofun) nofun)
  case test =>
    generalize (if V.testThread then !lastMonAlive s else !s.flag) = guard at hs
    (repeat' split at hs) <;> cases hs
    · exact .ctl (hne nofun) (nops (fun _ => nofun) nofun)
    · exact .ctl (hne nofun) nofun
    · exact .ctl (hne nofun) nofun
    · exact .finish (.ctl (hne nofun) (hne nofun)) (hne nofun)
  case ret =>
    cases hs
    exact .finish (.ctl (hne nofun) (hne nofun)) (hne nofun)
  case set =>
    split at hs <;> cases hs
    · exact .ctl (hne nofun) nofun
    · exact .ctl (hne nofun) (nops (fun _ => nofun) nofun)
  case testMon =>
    split at hs <;> cases hs <;> exact .ctl (hne nofun) nofun
  case new =>
    cases hs
    -- the new thread is `unstarted`: `excCount` of the new state evaluates to `excCountL (s.old ++ s.mon.toList) + 0`
    exact .ctl (hne nofun) nofun (hx := congrArg (· + 0) (excCountL_append _ _))
  case start =>
    have hx := congrArg (excCountL s.old + ·) (excCountL_toList_map s.mon _ (excOf_start V))
    split at hs <;> cases hs
    · exact .ctl (hne nofun) nofun (hx := hx)
    · exact .finish (.ctl (hne nofun) nofun (hx := hx)) nofun
  case testSub =>
    split at hs <;> cases hs
    · exact .finish (.ctl (hne nofun) (hne nofun)) (hne nofun)
    · exact .ctl (hne nofun) nofun
  case newSub =>
    cases hs
    exact .ctl (hne nofun) nofun (hh := (inHandL_append _ _).trans (List.append_nil _))
  case startSub =>
    cases hs
    refine .finish (.ctl (hne nofun) nofun (hh := ?_)) nofun
    show inHandL (s.oldSubs ++ _) = inHandL (s.oldSubs ++ _)
    rw [inHandL_append, inHandL_append, inHandL_toList_map _ _ (handOf_start V)]
  case done => cases hs

/-- The fields one line of a monitor thread writes, and two balances across the line.  Jobs leave the pending map
only for the reports or for `dropped`.  The last conjunct is the step of `InvJ.q`: a job newly dropped is paid for by
this thread entering its `except` path, and the thread leaves that path only through `reject_job(None, error)`.
With `mExc = []` the failing line goes straight to the exit path and nothing pays, hence the hypothesis. -/
theorem stepMon_frame {b : Bool} {m m' : Mon} (hs : stepMon V s b m = some (s', m')) :
    s' = { s with flag := s'.flag, pending := s'.pending, arrAlive := s'.arrAlive, reported := s'.reported,
                  crashes := s'.crashes, armed := s'.armed, dropped := s'.dropped } ∧
    (∀ j, s'.pending.count j + s'.reported.count j + s'.dropped.count j =
      s.pending.count j + s.reported.count j + s.dropped.count j) ∧
    (V.mExc ≠ [] → s'.dropped.length + s.crashes + excOf m ≤ s.dropped.length + s'.crashes + excOf m') := by
  obtain ⟨ph, it, c, i⟩ := m
  cases ph with
  | post r =>
    cases r with
    | nil => cases hs
    | cons x r =>
      obtain ⟨lb, op⟩ := x
      cases op <;> simp only [stepMon] at hs <;> (try split at hs) <;> cases hs <;>
        exact ⟨rfl, fun _ => rfl, fun _ => Nat.le_add_right _ _⟩
  | proc =>
    have hx (hE : V.mExc ≠ []) : excOf ⟨mNops V.mExc .exc (mPost V.post), it, c, i⟩ = 1 := excOf_mNops_exc _ _ hE
    simp only [stepMon] at hs
    split at hs
    · split at hs <;> cases hs
      · rename_i hc
        refine ⟨rfl, fun j => ?_, fun hE => ?_⟩
        · have := count_erase_add_count_snoc s.pending s.dropped c j (Bool.and_eq_true_iff.1 hc).2
          show (s.pending.erase c).count j + s.reported.count j + (s.dropped ++ [c]).count j = _
          omega
        · show (s.dropped ++ [c]).length + s.crashes + 0 ≤ s.dropped.length + s.crashes + excOf ⟨_, it, c, i⟩
          rw [hx hE, List.length_append, List.length_singleton]
          omega
      · exact ⟨rfl, fun _ => rfl, fun _ => Nat.le_add_right _ _⟩
    · split at hs <;> cases hs
      · rename_i hc
        refine ⟨rfl, fun j => ?_, fun _ => Nat.le_add_right _ _⟩
        have := count_erase_add_count_snoc s.pending s.reported c j hc
        show (s.pending.erase c).count j + (s.reported ++ [c]).count j + s.dropped.count j = _
        omega
      · exact ⟨rfl, fun _ => rfl, fun _ => Nat.le_add_right _ _⟩
  | exc r =>
    simp only [stepMon] at hs
    split at hs <;> cases hs
    · exact ⟨rfl, fun _ => rfl, fun _ => Nat.le_add_right _ _⟩
    · exact ⟨rfl, fun _ => rfl, fun _ => Nat.le_refl _⟩
  | _ => simp only [stepMon] at hs <;> (repeat' split at hs) <;> cases hs <;>
      exact ⟨rfl, fun _ => rfl, fun _ => Nat.le_add_right _ _⟩

theorem handOf_uNops {r : List Lbl} {k : List Lbl → UPh} {next : UPh} {c : Job} {l : List Job}
    (hk : ∀ r, handOf ⟨k r, c⟩ = l) (hn : handOf ⟨next, c⟩ = l) : handOf ⟨uNops r k next, c⟩ = l := by
  cases r
  · exact hn
  · exact hk _

theorem stepSub_frame {u u' : Sub} (hs : stepSub V s u = some (s', u')) :
    s' = { s with pending := s'.pending, queue := s'.queue } ∧
    ∀ j, s'.queue.count j + s'.pending.count j + (handOf u').count j =
      s.queue.count j + s.pending.count j + (handOf u).count j := by
  obtain ⟨ph, c⟩ := u
  cases ph with
  | pop =>
    simp only [stepSub] at hs
    split at hs <;> cases hs
    rename_i j r hq
    refine ⟨rfl, fun x => ?_⟩
    show r.count x + s.pending.count x + (handOf ⟨uNops V.uMid .mid .promote, j⟩).count x =
      s.queue.count x + s.pending.count x + 0
    rw [hq, handOf_uNops (l := [j]) (fun _ => rfl) rfl, List.count_cons, List.count_cons, List.count_nil]
    omega
  | promote =>
    cases hs
    refine ⟨rfl, fun x => ?_⟩
    show s.queue.count x + (s.pending ++ [c]).count x + (handOf ⟨uNops V.uPost .post .inner, c⟩).count x =
      s.queue.count x + s.pending.count x + [c].count x
    rw [handOf_uNops (l := []) (fun _ => rfl) rfl, List.count_append, List.count_nil]
    omega
  | mid r =>
    cases hs
    exact ⟨rfl, fun x => by rw [handOf_uNops (l := [c]) (fun _ => rfl) rfl]; rfl⟩
  | pre r | post r | sleep r =>
    cases hs
    exact ⟨rfl, fun x => by rw [handOf_uNops (l := []) (fun _ => rfl) rfl]; rfl⟩
  | unstarted | dead => cases hs
  | fc => cases hs; exact ⟨rfl, fun _ => rfl⟩
  | outer =>
    simp only [stepSub] at hs
    split at hs <;> cases hs <;> exact ⟨rfl, fun _ => rfl⟩
  | inner =>
    simp only [stepSub] at hs
    split at hs <;> cases hs
    · exact ⟨rfl, fun _ => rfl⟩
    · exact ⟨rfl, fun x => by rw [handOf_uNops (l := []) (fun _ => rfl) rfl]; rfl⟩

theorem step_env {e : Ev} (he : e.isEnv = true) (hs : step V s e = some s') :
    s' = { s with pending := s'.pending, queue := s'.queue, pre := s'.pre, gone := s'.gone,
                  armed := e == .F || s.armed, faulted := e == .F || s.faulted } ∧
    s'.pending ++ s'.queue = s.pending ++ s.queue := by
  cases e with
  | S | M k | U k => cases he
  | A =>
    simp only [step, stepA] at hs
    split at hs <;> cases hs
    exact ⟨rfl, by rw [List.append_assoc, List.take_append_drop]⟩
  | F | L j =>
    simp only [step] at hs
    split at hs <;> cases hs
    exact ⟨rfl, rfl⟩
  | O j g => cases hs; exact ⟨rfl, rfl⟩

theorem step_ghost {e : Ev} (hs : step V s e = some s') :
    (s'.hit = s.hit ∨ s'.hit = (s.hit || s.mons.any (exiting V))) ∧ s'.faulted = (e == .F || s.faulted) := by
  cases e with
  | S =>
    have F := stepS_frame hs
    exact ⟨F.line.elim (fun h => .inr h.2.2.2.1) (fun h => .inl h.2.2.2.1), F.faulted⟩
  | M k =>
    rcases stepM_cases hs with ⟨m, s'', m', _, hm, rfl⟩ | ⟨m, s'', m', _, hm, rfl⟩ <;>
      exact ⟨.inl (congrArg State.hit (stepMon_frame hm).1 :), (congrArg State.faulted (stepMon_frame hm).1 :)⟩
  | U k =>
    rcases stepU_cases hs with ⟨u, s'', u', _, hu, rfl⟩ | ⟨u, s'', u', _, hu, rfl⟩ <;>
      exact ⟨.inl (congrArg State.hit (stepSub_frame hu).1 :), (congrArg State.faulted (stepSub_frame hu).1 :)⟩
  | A | F | L _ | O _ _ =>
    have F := (step_env rfl hs).1
    exact ⟨.inl (congrArg State.hit F :), (congrArg State.faulted F :)⟩

theorem sum_map_set {α : Type} (f : α → Nat) {l : List α} {k : Nat} {a : α} (h : l[k]? = some a) (a' : α) :
    ((l.set k a').map f).sum + f a = (l.map f).sum + f a' := by
  induction l generalizing k with
  | nil => cases h
  | cons x r ih =>
    cases k with
    | zero => cases h; simp only [List.set_cons_zero, List.map_cons, List.sum_cons]; omega
    | succ k =>
      have := ih (k := k) h
      simp only [List.set_cons_succ, List.map_cons, List.sum_cons]
      omega

theorem count_inHandL (l : List Sub) (j : Job) : (inHandL l).count j = (l.map fun u => (handOf u).count j).sum := by
  rw [inHandL, List.count_flatten, List.map_map]; rfl

theorem inHandL_singleton (u : Sub) : inHandL [u] = handOf u := by
  simp [inHandL]

structure InvJ (V : Variant) (jobs : List Job) (s : State) : Prop where
  cons : ∀ j, s.submitted.count j = s.queue.count j + s.pending.count j + (inHand s).count j + s.reported.count j
    + s.dropped.count j
  prog : jobs = s.submitted ++ rest s
  q : V.mExc ≠ [] → s.dropped.length ≤ s.crashes + excCount s

variable {jobs : List Job}

theorem invJ_init (V : Variant) (jobs : List Job) : InvJ V jobs (init jobs) := by
  unfold init; split <;> constructor <;> simp [rest, inHand, inHandL, State.subs, excCount, excCountL]

/-- a step that records no job: the containers' total and the fault balance are kept -/
theorem InvJ.congr {t : State} (h : InvJ V jobs s)
    (hc : ∀ j, t.queue.count j + t.pending.count j + (inHand t).count j + t.reported.count j + t.dropped.count j =
      s.queue.count j + s.pending.count j + (inHand s).count j + s.reported.count j + s.dropped.count j)
    (h1 : t.submitted = s.submitted) (h2 : rest t = rest s)
    (hq : V.mExc ≠ [] → t.dropped.length + s.crashes + excCount s ≤ s.dropped.length + t.crashes + excCount t) :
    InvJ V jobs t :=
  ⟨fun j => by rw [h1, hc]; exact h.cons j, by rw [h1, h2]; exact h.prog,
    fun hE => by have := h.q hE; have := hq hE; omega⟩

theorem fault_keep {t : State} (e1 : t.dropped = s.dropped) (e2 : t.crashes = s.crashes) (e3 : excCount t = excCount s) :
    t.dropped.length + s.crashes + excCount s ≤ s.dropped.length + t.crashes + excCount t := by
  rw [e1, e2, e3]; exact Nat.le_refl _

theorem invJ_step {e : Ev} (h : InvJ V jobs s) (hs : step V s e = some s') : InvJ V jobs s' := by
  cases e with
  | S =>
    have F := stepS_frame hs
    have hq (_ : V.mExc ≠ []) := fault_keep F.dropped F.crashes F.exc
    rcases F.line with ⟨_, e1, e2, _, e3⟩ | ⟨_, e1, e2, _, e3, e4⟩
    · refine ⟨fun j => ?_, by rw [e1, List.append_assoc]; exact h.prog.trans (congrArg (s.submitted ++ ·) e2),
        fun hE => by have := h.q hE; have := hq hE; omega⟩
      have := h.cons j
      rw [e1, F.hand, F.reported, F.dropped, List.count_append]
      rcases e3 with ⟨a, b⟩ | ⟨a, b⟩ <;> rw [a, b, List.count_append] <;> omega
    · exact h.congr (fun j => by rw [e3, e4, F.hand, F.reported, F.dropped]) e1 e2 hq
  | M k =>
    rcases stepM_cases hs with ⟨m, s'', m', hk, hm, rfl⟩ | ⟨m, s'', m', hmon, hm, rfl⟩ <;>
      obtain ⟨F, hc, h1⟩ := stepMon_frame hm <;>
      have e1 : s''.queue = s.queue := (congrArg State.queue F :) <;>
      have e2 : inHand s'' = inHand s := (congrArg inHand F :) <;>
      have e3 : s''.old = s.old := (congrArg State.old F :) <;>
      refine h.congr (fun j => ?_) (congrArg State.submitted F :) (congrArg rest F :) fun hE => ?_
    · show s''.queue.count j + s''.pending.count j + (inHand s'').count j + s''.reported.count j + s''.dropped.count j = _
      rw [e1, e2]; have := hc j; omega
    · have e4 : s''.mon = s.mon := (congrArg State.mon F :)
      have h2 : excCountL (s.old.set k m') + _ = excCountL s.old + _ := sum_map_set excOf hk m'
      have := h1 hE
      simp only [excCount] at ⊢
      rw [e3, e4]; omega
    · show s''.queue.count j + s''.pending.count j + (inHand s'').count j + s''.reported.count j + s''.dropped.count j = _
      rw [e1, e2]; have := hc j; omega
    · have := h1 hE
      simp only [excCount, hmon, Option.toList, excCountL, List.map_cons, List.map_nil, List.sum_cons, List.sum_nil] at this ⊢
      rw [e3]; omega
  | U k =>
    rcases stepU_cases hs with ⟨u, s'', u', hk, hu, rfl⟩ | ⟨u, s'', u', hk, hu, rfl⟩ <;>
      obtain ⟨F, hc⟩ := stepSub_frame hu <;>
      have e1 : s''.oldSubs = s.oldSubs := (congrArg State.oldSubs F :) <;>
      have e2 : s''.sub = s.sub := (congrArg State.sub F :) <;>
      have e3 : s''.reported = s.reported := (congrArg State.reported F :) <;>
      have e4 : s''.dropped = s.dropped := (congrArg State.dropped F :) <;>
      refine h.congr (fun j => ?_) (congrArg State.submitted F :) (congrArg rest F :)
        (fun _ => fault_keep (congrArg State.dropped F :) (congrArg State.crashes F :) (congrArg excCount F :)) <;>
      have := hc j
    · have := sum_map_set (fun u => (handOf u).count j) hk u'
      rw [← count_inHandL, ← count_inHandL] at this
      show s''.queue.count j + s''.pending.count j + (inHandL (s''.oldSubs.set k u' ++ s''.sub.toList)).count j +
        s''.reported.count j + s''.dropped.count j = s.queue.count j + s.pending.count j +
        (inHandL (s.oldSubs ++ s.sub.toList)).count j + s.reported.count j + s.dropped.count j
      rw [e1, e2, e3, e4, inHandL_append, inHandL_append, List.count_append, List.count_append]
      omega
    · show s''.queue.count j + s''.pending.count j + (inHandL (s''.oldSubs ++ [u'])).count j +
        s''.reported.count j + s''.dropped.count j = s.queue.count j + s.pending.count j +
        (inHandL (s.oldSubs ++ s.sub.toList)).count j + s.reported.count j + s.dropped.count j
      rw [e1, e3, e4, hk, Option.toList, inHandL_append, inHandL_append, inHandL_singleton, inHandL_singleton,
        List.count_append, List.count_append]
      omega
  | A | F | L _ | O _ _ =>
    obtain ⟨F, hpq⟩ := step_env rfl hs
    refine h.congr (fun j => ?_) (congrArg State.submitted F :) (congrArg rest F :)
      (fun _ => fault_keep (congrArg State.dropped F :) (congrArg State.crashes F :) (congrArg excCount F :))
    have := congrArg (List.count j) hpq
    rw [List.count_append, List.count_append] at this
    have e1 : inHand s' = inHand s := (congrArg inHand F :)
    have e2 : s'.reported = s.reported := (congrArg State.reported F :)
    have e3 : s'.dropped = s.dropped := (congrArg State.dropped F :)
    rw [e1, e2, e3]
    omega

theorem reachable_invJ (h : Reachable V jobs s) : InvJ V jobs s := by
  induction h with
  | init => exact invJ_init V jobs
  | step e _ hs ih => exact invJ_step ih hs

end RedunModel.Monitor
