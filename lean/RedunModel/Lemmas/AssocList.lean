/-
Insertion-ordered dictionaries as association lists `List (κ × ν)`, read through core's `List.lookup`: the one theory
behind every Python `dict` of the models (task options, contexts, the task registry, configuration sections, recorder
tables, database rows).  `l.map Prod.fst` is the key list; a Python dict has it `Nodup`.  Keys only need a lawful `==`,
so `String`, `Nat` and `List Char` keys are all covered; `[DecidableEq κ]` is asked for where a statement says `if k = k'`.
-/
namespace RedunModel.Assoc
variable {κ ν μ : Type}

section lookup
variable [BEq κ] [LawfulBEq κ]

theorem lookup_cons [DecidableEq κ] (k k0 : κ) (v0 : ν) (t : List (κ × ν)) :
    ((k0, v0) :: t).lookup k = if k = k0 then some v0 else t.lookup k := by
  rw [List.lookup_cons]
  by_cases h : k = k0
  · rw [if_pos h, beq_iff_eq.2 h]
  · rw [if_neg h, beq_false_of_ne h]

/-- a lookup function written out by recursion, testing `k' = k` entry by entry, is core's `List.lookup` -/
theorem lookup_eq_of_rec [DecidableEq κ] {f : κ → List (κ × ν) → Option ν} (h0 : ∀ k, f k [] = none)
    (hc : ∀ k k' v t, f k ((k', v) :: t) = if k' = k then some v else f k t) (k : κ) (l : List (κ × ν)) :
    f k l = l.lookup k := by
  induction l with
  | nil => exact h0 k
  | cons p t ih => rw [hc, lookup_cons, ih]; simp only [eq_comm]

theorem find?_eq_lookup (k : κ) (l : List (κ × ν)) : (l.find? fun e => e.1 == k).map (·.2) = l.lookup k := by
  induction l with
  | nil => rfl
  | cons p t ih =>
    rw [List.find?_cons, List.lookup_cons, ← ih, BEq.comm]
    cases k == p.1 <;> rfl

/-- `any(key == k for key in d)` -/
theorem any_key_eq [DecidableEq κ] (l : List (κ × ν)) (k : κ) : (l.any fun q => q.1 == k) = decide (k ∈ l.map Prod.fst) := by
  rw [Bool.eq_iff_iff]
  simp only [List.any_eq_true, beq_iff_eq, decide_eq_true_eq, List.mem_map]

theorem lookup_eq_none_iff {k : κ} {l : List (κ × ν)} : l.lookup k = none ↔ k ∉ l.map Prod.fst := by
  rw [List.lookup_eq_none_iff, List.mem_map]
  exact ⟨fun h ⟨p, hp, e⟩ => bne_iff_ne.1 (h p hp) e.symm, fun h p hp => bne_iff_ne.2 fun e => h ⟨p, hp, e.symm⟩⟩

theorem mem_of_lookup {k : κ} {v : ν} {l : List (κ × ν)} (h : l.lookup k = some v) : (k, v) ∈ l := by
  obtain ⟨l₁, l₂, rfl, -⟩ := List.lookup_eq_some_iff.1 h
  exact List.mem_append_right _ List.mem_cons_self

theorem lookup_of_mem {k : κ} {v : ν} {l : List (κ × ν)} (nd : (l.map Prod.fst).Nodup) (h : (k, v) ∈ l) :
    l.lookup k = some v := by
  obtain ⟨l₁, l₂, rfl⟩ := List.append_of_mem h
  rw [List.map_append, List.map_cons, List.nodup_append] at nd
  exact List.lookup_eq_some_iff.2 ⟨l₁, l₂, rfl, fun q hq =>
    bne_iff_ne.2 fun e => nd.2.2 _ (List.mem_map_of_mem hq) _ List.mem_cons_self e.symm⟩

theorem lookup_map (f : κ → ν → μ) (k : κ) (l : List (κ × ν)) :
    (l.map fun p => (p.1, f p.1 p.2)).lookup k = (l.lookup k).map (f k) := by
  induction l with
  | nil => rfl
  | cons p t ih =>
    rw [List.map_cons, List.lookup_cons, List.lookup_cons, ih]
    cases h : k == p.1
    · rfl
    · rw [beq_iff_eq.1 h]; rfl

theorem lookup_filter (P : κ → Bool) (k : κ) (l : List (κ × ν)) :
    (l.filter fun p => P p.1).lookup k = if P k then l.lookup k else none := by
  induction l with
  | nil => simp
  | cons p t ih =>
    obtain ⟨k0, v0⟩ := p
    by_cases hk : k = k0
    · subst hk
      cases hp : P k <;> simp [hp, ih]
    · cases hp : P k0 <;> simp [hp, List.lookup_cons, beq_false_of_ne hk, ih]

/-- `del d[k]` -/
theorem lookup_erase [DecidableEq κ] (k k' : κ) (l : List (κ × ν)) :
    (l.filter fun p => p.1 != k).lookup k' = if k' = k then none else l.lookup k' := by
  rw [lookup_filter (· != k)]
  by_cases h : k' = k <;> simp [h]

theorem erase_of_not_mem {k : κ} {l : List (κ × ν)} (h : k ∉ l.map Prod.fst) : (l.filter fun p => p.1 != k) = l :=
  List.filter_eq_self.2 fun p hp => bne_iff_ne.2 fun e => h (List.mem_map.2 ⟨p, hp, e⟩)

section set
variable [DecidableEq κ] {set : κ → ν → List (κ × ν) → List (κ × ν)} (h0 : ∀ k v, set k v [] = [(k, v)])
  (hc : ∀ k v k' v' t, set k v ((k', v') :: t) = if k' = k then (k', v) :: t else (k', v') :: set k v t)
include h0 hc

/-- `d[k] = v` written out by recursion (in place when the key is there, at the end otherwise), read back -/
theorem lookup_set_of_rec (k k' : κ) (v : ν) (l : List (κ × ν)) :
    (set k v l).lookup k' = if k' = k then some v else l.lookup k' := by
  induction l with
  | nil => rw [h0, lookup_cons, List.lookup_nil]
  | cons p t ih =>
    rw [hc, lookup_cons]
    by_cases h : p.1 = k
    · rw [if_pos h, lookup_cons, h]
      split <;> rfl
    · rw [if_neg h, lookup_cons, ih]
      by_cases e : k' = p.1
      · rw [if_pos e, if_neg (e ▸ h), if_pos e]
      · rw [if_neg e, if_neg e]

/-- … and its keys: a new key goes to the end, an old one keeps its place -/
theorem keys_set_of_rec (k : κ) (v : ν) (l : List (κ × ν)) :
    (set k v l).map Prod.fst = if k ∈ l.map Prod.fst then l.map Prod.fst else l.map Prod.fst ++ [k] := by
  induction l with
  | nil => rw [h0]; rfl
  | cons p t ih =>
    rw [hc, List.map_cons]
    by_cases h : p.1 = k
    · rw [if_pos h, if_pos (h ▸ List.mem_cons_self)]; rfl
    · rw [if_neg h, List.map_cons, ih]
      by_cases hm : k ∈ t.map Prod.fst
      · rw [if_pos hm, if_pos (List.mem_cons_of_mem _ hm)]
      · rw [if_neg hm, if_neg fun o => (List.mem_cons.1 o).elim (h ·.symm) hm]; rfl

end set

theorem lookup_perm {l l' : List (κ × ν)} (hn : (l.map Prod.fst).Nodup) (hp : l.Perm l') (k : κ) :
    l.lookup k = l'.lookup k := by
  cases h : l.lookup k with
  | some v => exact (lookup_of_mem ((hp.map _).nodup_iff.1 hn) (hp.mem_iff.1 (mem_of_lookup h))).symm
  | none => exact (lookup_eq_none_iff.2 fun hm => lookup_eq_none_iff.1 h ((hp.map _).mem_iff.2 hm)).symm

end lookup

theorem nodup_keys_filter (p : κ × ν → Bool) {l : List (κ × ν)} (h : (l.map Prod.fst).Nodup) :
    ((l.filter p).map Prod.fst).Nodup :=
  h.sublist (List.filter_sublist.map _)

end RedunModel.Assoc
