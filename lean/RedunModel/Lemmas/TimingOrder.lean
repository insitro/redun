/-
A concrete total order on the call-hash pre-images of the timing model (C07), so that the hypothesis
`TotalOrder le` of the theorems is inhabited (`C07.structuralOrder`), and the order the driver sorts with.
The real code sorts by hex digest; the theorems hold for every total order.
-/
import RedunModel.Model.Timing
import RedunModel.Lemmas.LawfulCmp
namespace RedunModel.Timing

theorem encInt_inj {a b : Int} (h : encInt a = encInt b) : a = b := by
  unfold encInt at h
  split at h <;> split at h <;> omega

theorem frames_ne_nil (v : HV) : frames v ≠ [] := by cases v <;> simp [frames]

/-- the first component of a frame is the constructor's tag, so only frames of the same constructor can be equal -/
theorem frames_inj (a b : HV) (h : frames a = frames b) : a = b := by
  induction a generalizing b with
  | int z =>
    cases b <;> simp [frames] at h
    rw [encInt_inj h]
  | hinit n k =>
    cases b <;> simp [frames] at h
    rw [h.1, h.2]
  | hfork n k p ih =>
    cases b <;> simp [frames] at h
    rw [h.1.1, h.1.2, ih _ h.2]
  | happly n t x z ih =>
    cases b <;> simp [frames] at h
    rw [h.1.1, h.1.2.1, encInt_inj h.1.2.2, ih _ h.2]

theorem lawful_cmpFrame : LawfulCmp cmpFrame :=
  lawful_cmpProd lawful_nat (lawful_cmpProd lawful_nat (lawful_cmpProd lawful_nat lawful_nat))

theorem lawful_cmpHV : LawfulCmp cmpHV := lawful_of_inj (lawful_cmpList lawful_cmpFrame) frames frames_inj

theorem lawful_cmpAtom : LawfulCmp cmpAtom :=
  lawful_cmpProd lawful_nat (lawful_cmpProd (lawful_cmpList lawful_cmpHV) lawful_cmpHV)

theorem H.cmpL_eq_cmpList : H.cmpL = cmpList H.cmp := by
  funext a b
  fun_induction cmpList H.cmp a b with
  | case4 x xs y ys ih => rw [H.cmpL, ih]
  | _ => rfl

theorem lawful_cmpH : LawfulCmp H.cmp :=
  lawful_nested lawful_cmpAtom (fun | .call t a r k => ((t, a, r), k)) (fun | .call .., .call .., h => by cases h; rfl)
    (fun | .call .., .call .. => by rw [H.cmp, H.cmpL_eq_cmpList])
    fun P h => H.rec (motive_2 := fun l => ∀ x ∈ l, P x) (fun t a r k => h (.call t a r k)) nofun
      fun _ _ hx hxs => List.forall_mem_cons.2 ⟨hx, hxs⟩

theorem lawful_cmpL : LawfulCmp H.cmpL := H.cmpL_eq_cmpList ▸ lawful_cmpList lawful_cmpH

theorem H.cmpL_eq : ∀ (a b : List H), H.cmpL a b = .eq → a = b := lawful_cmpL.eq

theorem H.cmpL_swap : ∀ (a b : List H), (H.cmpL a b).swap = H.cmpL b a := lawful_cmpL.swap

theorem H.cmpL_lt_trans : ∀ (a b c : List H), H.cmpL a b = .lt → H.cmpL b c = .lt → H.cmpL a c = .lt :=
  lawful_cmpL.lt_trans

theorem totalOrder_of_lawful {cmp : H → H → Ordering} (h : LawfulCmp cmp) : TotalOrder (fun a b => cmp a b != .gt) :=
  ⟨h.le_total, h.le_antisymm, h.le_trans⟩

end RedunModel.Timing
