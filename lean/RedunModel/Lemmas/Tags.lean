/-
Lemmas for `RedunModel.Model.Tags`: the invariant of the tag tables, what the tail of `record_tags`
(`commit`), the walk down the edit graph and the three commands do to it, and the refinement of the
key-value reference.  Property theorems are in `RedunModel.Props.C24`.
-/
import RedunModel.Model.Tags
namespace RedunModel.Tags

theorem mem_insertSorted (a x : Nat) (l : List Nat) : x ∈ insertSorted a l ↔ x = a ∨ x ∈ l := by
  induction l with
  | nil => simp [insertSorted]
  | cons b l ih =>
    simp only [insertSorted]
    split <;> simp [ih, or_left_comm]

theorem mem_sortIds (x : Nat) (l : List Nat) : x ∈ sortIds l ↔ x ∈ l := by
  induction l with
  | nil => simp [sortIds]
  | cons b l ih => simp [sortIds, mem_insertSorted, ih]

theorem sortIds_nil : sortIds [] = [] := rfl
theorem sortIds_single (i : Nat) : sortIds [i] = [i] := rfl

theorem sortIds_eq_nil {l : List Nat} : sortIds l = [] ↔ l = [] := by
  simp only [List.eq_nil_iff_forall_not_mem, mem_sortIds]

theorem mem_dedup (x : Pre) (l : List Pre) : x ∈ dedup l ↔ x ∈ l := by
  induction l with
  | nil => simp [dedup]
  | cons a l ih =>
    simp only [dedup, List.mem_cons, List.mem_filter, ih, decide_eq_true_eq]
    by_cases h : x = a <;> simp [h]

theorem lookup_eq_some {st : St} {p : Pre} {i : Nat} (h : st.lookup p = some i) :
    ∃ r ∈ st.rows, r.pre = p ∧ r.id = i := by
  simp only [St.lookup, Option.map_eq_some_iff] at h
  obtain ⟨r, hf, hi⟩ := h
  exact ⟨r, List.mem_of_find?_eq_some hf, by simpa using List.find?_some hf, hi⟩

theorem lookup_eq_none {st : St} {p : Pre} : st.lookup p = none ↔ ∀ r ∈ st.rows, r.pre ≠ p := by
  simp [St.lookup]

theorem hasChild_iff {st : St} {i : Nat} : st.hasChild i = true ↔ ∃ c, (i, c) ∈ st.edges := by
  simp [St.hasChild]

theorem hasChild_mono {st st' : St} (h : ∀ e ∈ st.edges, e ∈ st'.edges) {i : Nat}
    (hc : st.hasChild i = true) : st'.hasChild i = true :=
  let ⟨c, hc⟩ := hasChild_iff.1 hc
  hasChild_iff.2 ⟨c, h _ hc⟩

theorem mem_addEdge {st : St} {e x : Nat × Nat} : x ∈ (st.addEdge e).edges ↔ x ∈ st.edges ∨ x = e := by
  unfold St.addEdge
  split
  · exact ⟨Or.inl, fun h => h.elim id (· ▸ ‹_›)⟩
  · simp

theorem mem_addEdges {st : St} {es : List (Nat × Nat)} {x : Nat × Nat} :
    x ∈ (st.addEdges es).edges ↔ x ∈ st.edges ∨ x ∈ es := by
  induction es generalizing st with
  | nil => simp [St.addEdges]
  | cons e es ih => simp only [St.addEdges, ih, mem_addEdge, List.mem_cons, or_assoc]

theorem addEdge_rows (st : St) (e : Nat × Nat) : (st.addEdge e).rows = st.rows ∧ (st.addEdge e).next = st.next := by
  unfold St.addEdge; split <;> exact ⟨rfl, rfl⟩

theorem addEdges_rows (st : St) (es : List (Nat × Nat)) :
    (st.addEdges es).rows = st.rows ∧ (st.addEdges es).next = st.next := by
  induction es generalizing st with
  | nil => exact ⟨rfl, rfl⟩
  | cons e es ih => simp only [St.addEdges, ih, addEdge_rows, and_self]

theorem mem_candEdges {st : St} {pres : List Pre} {parents : List Nat} {a c : Nat} :
    (a, c) ∈ st.candEdges pres parents ↔ a ∈ parents ∧ ∃ p ∈ pres, st.lookup p = some c := by
  simp only [St.candEdges, List.mem_flatMap]
  constructor
  · rintro ⟨p, hp, h⟩
    cases hl : st.lookup p <;> simp [hl] at h
    obtain ⟨_, ha, rfl, rfl⟩ := h
    exact ⟨ha, p, hp, hl⟩
  · rintro ⟨ha, p, hp, hl⟩
    exact ⟨p, hp, by simp [hl, ha]⟩

theorem insertTag_edges (st : St) (p : Pre) : (st.insertTag p).edges = st.edges := by
  unfold St.insertTag; split <;> rfl

theorem insertAll_edges (st : St) (ps : List Pre) : (st.insertAll ps).edges = st.edges := by
  induction ps generalizing st with
  | nil => rfl
  | cons p ps ih => rw [St.insertAll, ih, insertTag_edges]

structure Struct (st : St) : Prop where
  idLt : ∀ r ∈ st.rows, r.id < st.next
  idInj : ∀ r ∈ st.rows, ∀ r' ∈ st.rows, r.id = r'.id → r = r'
  preInj : ∀ r ∈ st.rows, ∀ r' ∈ st.rows, r.pre = r'.pre → r = r'

theorem lookup_of_mem {st : St} (hs : Struct st) {r : Row} (hr : r ∈ st.rows) : st.lookup r.pre = some r.id := by
  cases h : st.lookup r.pre with
  | none => exact absurd rfl (lookup_eq_none.1 h r hr)
  | some i =>
    obtain ⟨r', hr', hp, hi⟩ := lookup_eq_some h
    rw [← hi, hs.preInj r' hr' r hr hp]

theorem Struct.not_mem_of_le {st : St} (hs : Struct st) {ps : List Nat}
    (hps : ∀ par ∈ ps, ∃ q ∈ st.rows, q.id = par) {i : Nat} (hge : st.next ≤ i) : i ∉ ps := fun h =>
  let ⟨q, hq, hid⟩ := hps i h
  Nat.lt_irrefl _ (Nat.lt_of_lt_of_le (hid ▸ hs.idLt q hq) hge)

structure Ext (P : Row → Prop) (st st' : St) : Prop where
  old : ∀ r ∈ st.rows, r ∈ st'.rows
  new : ∀ x ∈ st'.rows, x ∈ st.rows ∨ (x.cur = true ∧ st.next ≤ x.id ∧ P x)
  edges : ∀ e ∈ st.edges, e ∈ st'.edges
  next : st.next ≤ st'.next

theorem Ext.refl (P : Row → Prop) (st : St) : Ext P st st :=
  ⟨fun _ h => h, fun _ h => .inl h, fun _ h => h, Nat.le_refl _⟩

theorem Ext.mono {P Q : Row → Prop} {a b : St} (h : Ext P a b) (hpq : ∀ x, P x → Q x) : Ext Q a b :=
  ⟨h.old, fun x hx => (h.new x hx).imp_right fun ⟨h1, h2, h3⟩ => ⟨h1, h2, hpq x h3⟩, h.edges, h.next⟩

theorem Ext.trans {P : Row → Prop} {a b c : St} (h1 : Ext P a b) (h2 : Ext P b c) : Ext P a c := by
  refine ⟨fun r hr => h2.old r (h1.old r hr), fun x hx => ?_, fun e he => h2.edges e (h1.edges e he),
    Nat.le_trans h1.next h2.next⟩
  rcases h2.new x hx with h | ⟨hc, hn, hp⟩
  · exact h1.new x h
  · exact .inr ⟨hc, Nat.le_trans h1.next hn, hp⟩

theorem inj_snoc {α β : Type} {f : α → β} {l : List α} {x : α} (h : ∀ a ∈ l, ∀ b ∈ l, f a = f b → a = b)
    (hx : ∀ a ∈ l, f a ≠ f x) : ∀ a ∈ l ++ [x], ∀ b ∈ l ++ [x], f a = f b → a = b := by
  simp only [List.mem_append, List.mem_singleton]
  rintro a (ha | rfl) b (hb | rfl) hab
  · exact h a ha b hb hab
  · exact absurd hab (hx a ha)
  · exact absurd hab.symm (hx b hb)
  · rfl

theorem exists_mem_map {α β : Type} {f : α → β} {l : List α} {P : β → Prop} :
    (∃ b ∈ l.map f, P b) ↔ ∃ a ∈ l, P (f a) :=
  ⟨fun ⟨_, hb, h⟩ => let ⟨a, ha, e⟩ := List.mem_map.1 hb; ⟨a, ha, e ▸ h⟩,
    fun ⟨_, ha, h⟩ => ⟨_, List.mem_map_of_mem ha, h⟩⟩

theorem insertTag_spec (st : St) (p : Pre) (hs : Struct st) :
    Struct (st.insertTag p) ∧ Ext (·.pre = p) st (st.insertTag p) ∧ ∃ r ∈ (st.insertTag p).rows, r.pre = p := by
  unfold St.insertTag
  cases hl : st.lookup p with
  | some i =>
    obtain ⟨r, hr, hp, _⟩ := lookup_eq_some hl
    exact ⟨hs, Ext.refl _ _, r, hr, hp⟩
  | none =>
    have hmem : ∀ r, r ∈ st.rows ++ [⟨st.next, p, true⟩] ↔ r ∈ st.rows ∨ r = ⟨st.next, p, true⟩ := by simp
    refine ⟨⟨fun r hr => ?_, inj_snoc hs.idInj fun a ha => Nat.ne_of_lt (hs.idLt a ha),
        inj_snoc hs.preInj (lookup_eq_none.1 hl)⟩,
      ⟨fun r hr => (hmem r).2 (.inl hr), fun x hx => ?_, fun _ h => h, Nat.le_succ _⟩,
      _, (hmem _).2 (.inr rfl), rfl⟩
    · rcases (hmem r).1 hr with hr | rfl
      · exact Nat.lt_succ_of_lt (hs.idLt r hr)
      · exact Nat.lt_succ_self _
    · exact ((hmem x).1 hx).imp_right (by rintro rfl; exact ⟨rfl, Nat.le_refl _, rfl⟩)

theorem insertAll_spec (st : St) (ps : List Pre) (hs : Struct st) :
    Struct (st.insertAll ps) ∧ Ext (·.pre ∈ ps) st (st.insertAll ps) ∧
      ∀ p ∈ ps, ∃ r ∈ (st.insertAll ps).rows, r.pre = p := by
  induction ps generalizing st with
  | nil => exact ⟨hs, Ext.refl _ _, by simp⟩
  | cons p ps ih =>
    obtain ⟨hs1, he1, r1, hr1, hp1⟩ := insertTag_spec st p hs
    obtain ⟨hs2, he2, hall⟩ := ih (st.insertTag p) hs1
    refine ⟨hs2, (he1.mono fun x hx => ?_).trans (he2.mono fun x hx => List.mem_cons_of_mem _ hx), ?_⟩
    · exact hx ▸ List.mem_cons_self
    · intro q hq
      rcases List.mem_cons.1 hq with rfl | hq
      · exact ⟨r1, he2.old r1 hr1, hp1⟩
      · exact hall q hq

/-- The table invariant of C24: `curIff` and `edgeIff` are I1 and I2 of DESIGN.md §4; `parLt` (ids grow along edits) is
what makes the edit graph acyclic and the walk down it end. -/
structure Inv (st : St) : Prop extends Struct st where
  parLt : ∀ r ∈ st.rows, ∀ p ∈ r.pre.parents, p < r.id
  parEx : ∀ r ∈ st.rows, ∀ p ∈ r.pre.parents, ∃ q ∈ st.rows, q.id = p
  edgeIff : ∀ p c, (p, c) ∈ st.edges ↔ ∃ r ∈ st.rows, r.id = c ∧ p ∈ r.pre.parents
  curIff : ∀ r ∈ st.rows, (r.cur = true ↔ st.hasChild r.id = false)

def inval (ps : List Nat) (r : Row) : Row := if r.id ∈ ps then { r with cur := false } else r

theorem inval_id (ps : List Nat) (r : Row) : (inval ps r).id = r.id := by unfold inval; split <;> rfl
theorem inval_pre (ps : List Nat) (r : Row) : (inval ps r).pre = r.pre := by unfold inval; split <;> rfl
theorem inval_cur (ps : List Nat) (r : Row) : (inval ps r).cur = (r.cur && decide (r.id ∉ ps)) := by
  unfold inval; split <;> simp [*]

theorem inval_eq_self {ps : List Nat} {r : Row} (h : r.id ∈ ps → r.cur = false) : inval ps r = r := by
  unfold inval
  split
  · next hm => cases r; simp_all
  · rfl

theorem invalidate_rows (st : St) (ps : List Nat) : (st.invalidate ps).rows = st.rows.map (inval ps) := rfl

theorem mem_map_inval_cur {l : List Row} {ps : List Nat} {r : Row} :
    r ∈ l.map (inval ps) ∧ r.cur = true ↔ r ∈ l ∧ r.cur = true ∧ r.id ∉ ps := by
  rw [List.mem_map]
  constructor
  · rintro ⟨⟨r0, hr0, rfl⟩, hc⟩
    simp only [inval_cur, Bool.and_eq_true, decide_eq_true_eq] at hc
    rw [inval_eq_self fun h => absurd h hc.2]
    exact ⟨hr0, hc⟩
  · rintro ⟨hr, hc, hn⟩
    exact ⟨⟨r, hr, inval_eq_self fun h => absurd h hn⟩, hc⟩

theorem edge_lt_next {st : St} (hi : Inv st) {a c : Nat} (h : (a, c) ∈ st.edges) : a < c ∧ c < st.next := by
  obtain ⟨r, hr, rfl, hp⟩ := (hi.edgeIff a c).1 h
  exact ⟨hi.parLt r hr a hp, hi.idLt r hr⟩

theorem Inv.row_of_hasChild {st : St} (hi : Inv st) {i : Nat} (h : st.hasChild i = true) : ∃ q ∈ st.rows, q.id = i :=
  let ⟨c, hc⟩ := hasChild_iff.1 h
  let ⟨r, hr, _, hp⟩ := (hi.edgeIff i c).1 hc
  hi.parEx r hr i hp

theorem commit_rows (st : St) (pres : List Pre) (parents : List Nat) :
    (st.commit pres parents).rows = (st.insertAll pres).rows.map (inval parents) := by
  simp only [St.commit, invalidate_rows, addEdges_rows]

theorem mem_commit_cur {st : St} {pres : List Pre} {parents : List Nat} {r : Row} :
    r ∈ (st.commit pres parents).rows ∧ r.cur = true ↔
      r ∈ (st.insertAll pres).rows ∧ r.cur = true ∧ r.id ∉ parents := by
  rw [commit_rows]
  exact mem_map_inval_cur

theorem commit_next (st : St) (pres : List Pre) (parents : List Nat) :
    (st.commit pres parents).next = (st.insertAll pres).next := (addEdges_rows _ _).2

theorem mem_commit_edges {st : St} {pres : List Pre} {parents : List Nat} {a c : Nat} :
    (a, c) ∈ (st.commit pres parents).edges ↔
      (a, c) ∈ st.edges ∨ (a ∈ parents ∧ ∃ p ∈ pres, (st.insertAll pres).lookup p = some c) := by
  simp only [St.commit, St.invalidate, mem_addEdges, mem_candEdges, insertAll_edges]

/-- The tail of `record_tags` keeps the invariant when the proposed tags list exactly the (existing) parents,
and parents that are invalidated without a tag to supersede them had been superseded before. -/
theorem commit_inv {st : St} {pres : List Pre} {parents : List Nat} (hi : Inv st)
    (hP1 : ∀ par ∈ parents, ∃ q ∈ st.rows, q.id = par)
    (hP2 : ∀ p ∈ pres, p.parents = parents)
    (hP3 : ∀ par ∈ parents, st.hasChild par = true ∨ pres ≠ []) : Inv (st.commit pres parents) := by
  obtain ⟨hs1, he, hhas⟩ := insertAll_spec st pres hi.toStruct
  have hpar : ∀ r ∈ (st.insertAll pres).rows, ∀ p ∈ r.pre.parents, p < r.id ∧ ∃ q ∈ st.rows, q.id = p := by
    intro r hr p hp
    rcases he.new r hr with h | ⟨_, hge, hpre⟩
    · exact ⟨hi.parLt r h p hp, hi.parEx r h p hp⟩
    · rw [hP2 _ hpre] at hp
      exact ⟨Nat.lt_of_not_le fun h => hi.not_mem_of_le hP1 (Nat.le_trans hge h) hp, hP1 p hp⟩
  have hedges : ∀ a c, (a, c) ∈ (st.commit pres parents).edges ↔
      ∃ r ∈ (st.insertAll pres).rows, r.id = c ∧ a ∈ r.pre.parents := by
    intro a c
    rw [mem_commit_edges, hi.edgeIff]
    constructor
    · rintro (⟨r, hr, h⟩ | ⟨ha, p, hp, hl⟩)
      · exact ⟨r, he.old r hr, h⟩
      · obtain ⟨r, hr, rfl, hid⟩ := lookup_eq_some hl
        exact ⟨r, hr, hid, by rwa [hP2 _ hp]⟩
    · rintro ⟨r, hr, hid, ha⟩
      rcases he.new r hr with h | ⟨_, _, hpre⟩
      · exact .inl ⟨r, h, hid, ha⟩
      · exact .inr ⟨hP2 _ hpre ▸ ha, r.pre, hpre, hid ▸ lookup_of_mem hs1 hr⟩
  have hchild : ∀ i, (st.commit pres parents).hasChild i = true ↔
      st.hasChild i = true ∨ (i ∈ parents ∧ pres ≠ []) := by
    intro i
    simp only [hasChild_iff, mem_commit_edges, exists_or]
    refine or_congr_right ⟨fun ⟨_, hm, p, hp, _⟩ => ⟨hm, List.ne_nil_of_mem hp⟩, fun ⟨hm, hne⟩ => ?_⟩
    obtain ⟨p, hp⟩ := List.exists_mem_of_ne_nil _ hne
    obtain ⟨q, hq, hqp⟩ := hhas p hp
    exact ⟨q.id, hm, p, hp, hqp ▸ lookup_of_mem hs1 hq⟩
  refine ⟨⟨?_, ?_, ?_⟩, ?_, ?_, ?_, ?_⟩
  all_goals simp only [commit_rows, commit_next, List.forall_mem_map, exists_mem_map, inval_id, inval_pre]
  · exact hs1.idLt
  · exact fun r hr r' hr' h => congrArg _ (hs1.idInj r hr r' hr' h)
  · exact fun r hr r' hr' h => congrArg _ (hs1.preInj r hr r' hr' h)
  · exact fun r hr p hp => (hpar r hr p hp).1
  · exact fun r hr p hp => let ⟨q, hq, hqid⟩ := (hpar r hr p hp).2; ⟨q, he.old q hq, hqid⟩
  · exact hedges
  · intro r hr
    rw [inval_cur, Bool.and_eq_true, decide_eq_true_eq, ← Bool.not_eq_true, hchild]
    rcases he.new r hr with h | ⟨hc, hge, _⟩
    · rw [hi.curIff r h, ← Bool.not_eq_true]
      by_cases hp : r.id ∈ parents
      · simp only [hp, not_true_eq_false, and_false, true_and, false_iff, Classical.not_not]
        exact hP3 _ hp
      · simp only [hp, not_false_eq_true, and_true, false_and, or_false]
    · have hnp : r.id ∉ parents := hi.not_mem_of_le hP1 hge
      have hnc : ¬ st.hasChild r.id = true := fun h =>
        let ⟨c, hc⟩ := hasChild_iff.1 h
        Nat.lt_irrefl _ (Nat.lt_trans (Nat.lt_of_le_of_lt hge (edge_lt_next hi hc).1) (edge_lt_next hi hc).2)
      simp [hc, hnp, hnc]

/-- Committing with parents that were superseded before changes no existing row. -/
theorem commit_superseded {st : St} {pres : List Pre} {parents : List Nat} (hi : Inv st)
    (hP2 : ∀ p ∈ pres, p.parents = parents)
    (hP3 : ∀ par ∈ parents, st.hasChild par = true) :
    Inv (st.commit pres parents) ∧ Ext (·.pre ∈ pres) st (st.commit pres parents) ∧
      ∀ p ∈ pres, ∃ r ∈ (st.commit pres parents).rows, r.pre = p := by
  obtain ⟨_, he, hhas⟩ := insertAll_spec st pres hi.toStruct
  have hP1 := fun par h => hi.row_of_hasChild (hP3 par h)
  have hrows : (st.commit pres parents).rows = (st.insertAll pres).rows := by
    rw [commit_rows, List.map_congr_left, List.map_id']
    intro r hr
    refine inval_eq_self fun hpar => ?_
    rcases he.new r hr with h | ⟨_, hge, _⟩
    · have := hP3 _ hpar
      cases hc : r.cur with
      | false => rfl
      | true => rw [(hi.curIff r h).1 hc] at this; cases this
    · exact absurd hpar (hi.not_mem_of_le hP1 hge)
  refine ⟨commit_inv hi hP1 hP2 fun _ h => .inl (hP3 _ h), ⟨?_, ?_, fun (a, c) h => mem_commit_edges.2 (.inl h), ?_⟩, ?_⟩
  · rw [hrows]; exact he.old
  · rw [hrows]; exact he.new
  · rw [commit_next]; exact he.next
  · rw [hrows]; exact hhas

theorem Ext.cur_of_not_superseded {P : Row → Prop} {st st' : St} (hi : Inv st) (h : Ext P st st') {r : Row}
    (hr : r ∈ st'.rows) (hs : st.superseded r.pre = false) : r.cur = true := by
  rcases h.new r hr with h | h
  · rw [St.superseded, lookup_of_mem hi.toStruct h] at hs
    exact (hi.curIff r h).2 hs
  · exact h.1

def Pre.trip (p : Pre) : String × String × String := (p.ent, p.key, p.val)

def St.Cur (st : St) (t : String × String × String) : Prop := ∃ r ∈ st.rows, r.cur = true ∧ r.pre.trip = t

theorem mem_current {st : St} {e k v : String} : (k, v) ∈ st.current e ↔ st.Cur (e, k, v) := by
  simp only [St.current, St.Cur, Pre.trip, List.mem_map, List.mem_filter, Bool.and_eq_true, decide_eq_true_eq,
    Prod.mk.injEq, and_assoc]

theorem Ext.cur {P : Row → Prop} {st st' : St} (h : Ext P st st') {t : String × String × String}
    (hc : st.Cur t) : st'.Cur t :=
  let ⟨r, hr, h'⟩ := hc
  ⟨r, h.old r hr, h'⟩

/-- The walk down the edit graph from a superseded tag `i` ends (the fuel covers the ids above `i`) and leaves
a current tag with the proposed pair. -/
theorem walk_spec (f : Nat) (st : St) (e k v : String) (i : Nat) (hi : Inv st)
    (hch : st.hasChild i = true) (hf : st.next ≤ f + i) :
    ∃ st', walk f st e k v i = .ok st' ∧ Inv st' ∧ Ext (·.pre.trip = (e, k, v)) st st' ∧ st'.Cur (e, k, v) := by
  induction f generalizing i with
  | zero =>
    obtain ⟨q, hq, rfl⟩ := hi.row_of_hasChild hch
    exact absurd (hi.idLt q hq) (by omega)
  | succ f ih =>
    have hP3 : ∀ par ∈ [i], st.hasChild par = true := fun par h => List.mem_singleton.1 h ▸ hch
    -- the proposed tag is new or a leaf: the tail runs for it
    have hfin : st.superseded ⟨e, k, v, [i]⟩ = false →
        ∃ st', Except.ok (st.commit [⟨e, k, v, [i]⟩] [i]) = Except.ok (ε := Err) st' ∧ Inv st' ∧
          Ext (·.pre.trip = (e, k, v)) st st' ∧ st'.Cur (e, k, v) := by
      intro hns
      obtain ⟨hinv, hext, hhas⟩ := commit_superseded (pres := [⟨e, k, v, [i]⟩]) hi (by simp) hP3
      obtain ⟨r, hr, hrp⟩ := hhas _ List.mem_cons_self
      exact ⟨_, rfl, hinv, hext.mono fun x hx => by rw [List.mem_singleton.1 hx]; rfl,
        r, hr, hext.cur_of_not_superseded hi hr (hrp ▸ hns), by rw [hrp]; rfl⟩
    simp only [walk, sortIds_single]
    cases hl : st.lookup ⟨e, k, v, [i]⟩ with
    | none => exact hfin (by rw [St.superseded, hl])
    | some j =>
      cases hcj : st.hasChild j with
      | false =>
        simp only [hcj, Bool.false_eq_true, if_false]
        exact hfin (by rw [St.superseded, hl]; exact hcj)
      | true =>
        obtain ⟨rj, hrj, hrjp, hrjid⟩ := lookup_eq_some hl
        have hij : i < j := hrjid ▸ hi.parLt rj hrj i (by rw [hrjp]; exact List.mem_cons_self)
        obtain ⟨st', hw, hinv', hext', hcur⟩ := ih j hcj (by omega)
        obtain ⟨hinv2, hext2, _⟩ := commit_superseded (pres := []) (parents := [i]) hinv'
          (by simp) (fun par hpar => hasChild_mono hext'.edges (hP3 par hpar))
        simp only [hw, hcj, if_true]
        exact ⟨_, rfl, hinv2, hext'.trans (hext2.mono (by simp)), hext2.cur hcur⟩

theorem superseded_iff {st : St} {p : Pre} :
    st.superseded p = true ↔ ∃ i, st.lookup p = some i ∧ st.hasChild i = true := by
  unfold St.superseded
  cases st.lookup p <;> simp

theorem walkAll_spec (st0 : St) (ent : String) (st : St) (sup : List Pre) (hi : Inv st)
    (hedge : ∀ e ∈ st0.edges, e ∈ st.edges)
    (hsup : ∀ p ∈ sup, st0.superseded p = true ∧ p.ent = ent) :
    ∃ st', walkAll st0 ent st sup = .ok st' ∧ Inv st' ∧
      Ext (fun x => ∃ p ∈ sup, x.pre.trip = p.trip) st st' ∧ ∀ p ∈ sup, st'.Cur p.trip := by
  induction sup generalizing st with
  | nil => exact ⟨st, rfl, hi, Ext.refl _ _, by simp⟩
  | cons p ps ih =>
    obtain ⟨hp, rfl⟩ := hsup p List.mem_cons_self
    obtain ⟨i, hl, hc⟩ := superseded_iff.1 hp
    obtain ⟨st1, hw, hinv1, hext1, hcur1⟩ :=
      walk_spec (st.next + 1) st p.ent p.key p.val i hi (hasChild_mono hedge hc) (by omega)
    obtain ⟨st2, hw2, hinv2, hext2, hcov2⟩ := ih st1 hinv1
      (fun e he => hext1.edges e (hedge e he)) (fun q hq => hsup q (List.mem_cons_of_mem _ hq))
    refine ⟨st2, by simp only [walkAll, hl, hw, hw2], hinv2, ?_, ?_⟩
    · exact (hext1.mono fun x hx => ⟨p, List.mem_cons_self, hx⟩).trans
        (hext2.mono fun x ⟨q, hq, hx⟩ => ⟨q, List.mem_cons_of_mem _ hq, hx⟩)
    · intro q hq
      rcases List.mem_cons.1 hq with rfl | hq
      · exact hext2.cur hcur1
      · exact hcov2 q hq

theorem lookup_none_of_current_parents {st : St} (hi : Inv st) {p : Pre} (hne : p.parents ≠ [])
    (hcur : ∀ par ∈ p.parents, ∃ r ∈ st.rows, r.id = par ∧ r.cur = true) : st.lookup p = none := by
  rw [lookup_eq_none]
  rintro r hr rfl
  obtain ⟨par, hmem⟩ := List.exists_mem_of_ne_nil _ hne
  obtain ⟨q, hq, rfl, hqc⟩ := hcur par hmem
  have := hasChild_iff.2 ⟨r.id, (hi.edgeIff q.id r.id).2 ⟨r, hr, rfl, hmem⟩⟩
  rw [(hi.curIff q hq).1 hqc] at this
  cases this

theorem commit_cur {st : St} {pres : List Pre} {parents : List Nat} (hs : Struct st)
    (hpar : ∀ par ∈ parents, ∃ q ∈ st.rows, q.id = par) :
    (∀ t, (st.commit pres parents).Cur t →
      (∃ r ∈ st.rows, r.cur = true ∧ r.id ∉ parents ∧ r.pre.trip = t) ∨ ∃ p ∈ pres, p.trip = t) ∧
    (∀ r ∈ st.rows, r.cur = true → r.id ∉ parents → (st.commit pres parents).Cur r.pre.trip) ∧
    (∀ p ∈ pres, st.lookup p = none → (st.commit pres parents).Cur p.trip) := by
  obtain ⟨_, he, hhas⟩ := insertAll_spec st pres hs
  refine ⟨?_, fun r hr hc hn => ⟨r, (mem_commit_cur.2 ⟨he.old r hr, hc, hn⟩).1, hc, rfl⟩, fun p hp hl => ?_⟩
  · rintro t ⟨r, hr, hc, ht⟩
    obtain ⟨hr1, _, hn⟩ := mem_commit_cur.1 ⟨hr, hc⟩
    exact (he.new r hr1).imp (fun h => ⟨r, h, hc, hn, ht⟩) fun h => ⟨r.pre, h.2.2, ht⟩
  · obtain ⟨r, hr, rfl⟩ := hhas p hp
    rcases he.new r hr with h | ⟨hc, hge, _⟩
    · exact absurd rfl (lookup_eq_none.1 hl r h)
    · exact ⟨r, (mem_commit_cur.2 ⟨hr, hc, hs.not_mem_of_le hpar hge⟩).1, hc, rfl⟩

/-- `record_tags` called with parents `ps` that are all current: afterwards the current pairs are those of the
rows outside `ps` and the recorded ones.  (Without `new`/`update` and without parents a recorded pair that
exists superseded stays so.) -/
theorem record_spec (st : St) (ent : String) (kvs : List (String × String)) (parents0 : List Nat) (upd new : Bool)
    (hi : Inv st) (hne : kvs ≠ []) {ps : List Nat}
    (hps : ps = if upd = true then parents0 ++ st.currentWithKeys ent (kvs.map (·.1)) else parents0)
    (hcur : ∀ par ∈ ps, ∃ r ∈ st.rows, r.id = par ∧ r.cur = true) :
    ∃ st', st.record ent kvs parents0 upd new = .ok st' ∧ Inv st' ∧
      (∀ t, st'.Cur t → (∃ r ∈ st.rows, r.cur = true ∧ r.id ∉ ps ∧ r.pre.trip = t) ∨
        t ∈ kvs.map fun kv => (ent, kv.1, kv.2)) ∧
      (∀ r ∈ st.rows, r.cur = true → r.id ∉ ps → st'.Cur r.pre.trip) ∧
      ((new || upd) = true ∨ ps ≠ [] → ∀ t ∈ kvs.map (fun kv => (ent, kv.1, kv.2)), st'.Cur t) := by
  obtain ⟨pres, hpres⟩ : ∃ pres, pres = dedup (kvs.map fun kv => (⟨ent, kv.1, kv.2, sortIds ps⟩ : Pre)) := ⟨_, rfl⟩
  have hpm : ∀ p, p ∈ pres ↔ ∃ kv ∈ kvs, ⟨ent, kv.1, kv.2, sortIds ps⟩ = p := fun p => by
    rw [hpres, mem_dedup, List.mem_map]
  have htrip : ∀ t, (∃ p ∈ pres, p.trip = t) ↔ t ∈ kvs.map fun kv => (ent, kv.1, kv.2) := by
    intro t
    simp only [hpm, List.mem_map]
    exact ⟨fun ⟨_, ⟨kv, hkv, hp⟩, ht⟩ => ⟨kv, hkv, by subst hp; exact ht⟩, fun ⟨kv, hkv, ht⟩ => ⟨_, ⟨kv, hkv, rfl⟩, ht⟩⟩
  have hpar : ∀ p ∈ pres, p.parents = sortIds ps ∧ p.ent = ent := fun p hp =>
    let ⟨kv, _, h⟩ := (hpm p).1 hp
    h ▸ ⟨rfl, rfl⟩
  have hemp : kvs.isEmpty = false := List.isEmpty_eq_false_iff.2 hne
  have hcur' : ∀ par ∈ sortIds ps, ∃ r ∈ st.rows, r.id = par ∧ r.cur = true := fun par h =>
    hcur par ((mem_sortIds _ _).1 h)
  simp only [St.record, hemp, Bool.false_eq_true, if_false, ← hps, ← hpres]
  by_cases hreg : (new || upd) = true ∧ ps = []
  · -- no parents: the superseded tags are walked down, the others go through the tail
    obtain ⟨hn, rfl⟩ := hreg
    obtain ⟨st1, hw, hinv1, hext1, hcov1⟩ := walkAll_spec st ent st (pres.filter fun p => st.superseded p) hi
      (fun _ h => h)
      (fun p hp => ⟨(List.mem_filter.1 hp).2, (hpar p (List.mem_filter.1 hp).1).2⟩)
    obtain ⟨hinv2, hext2, hhas2⟩ := commit_superseded (pres := pres.filter fun p => !st.superseded p)
      (parents := []) hinv1 (fun p hp => (hpar p (List.mem_filter.1 hp).1).1) (by simp)
    have hext : Ext (fun x => ∃ p ∈ pres, x.pre.trip = p.trip) st _ :=
      (hext1.mono fun x ⟨p, hp, h⟩ => ⟨p, (List.mem_filter.1 hp).1, h⟩).trans
        (hext2.mono fun x hx => ⟨_, (List.mem_filter.1 hx).1, rfl⟩)
    simp only [hn, if_true, sortIds_nil, hw]
    refine ⟨_, rfl, hinv2, ?_, fun r hr hc _ => hext.cur ⟨r, hr, hc, rfl⟩, fun _ t ht => ?_⟩
    · rintro t ⟨r, hr, hc, ht⟩
      exact (hext.new r hr).imp (fun h => ⟨r, h, hc, List.not_mem_nil, ht⟩)
        fun ⟨_, _, p, hp, hx⟩ => (htrip t).1 ⟨p, hp, hx.symm.trans ht⟩
    · obtain ⟨p, hp, rfl⟩ := (htrip t).2 ht
      cases hs : st.superseded p with
      | true => exact hext2.cur (hcov1 p (List.mem_filter.2 ⟨hp, hs⟩))
      | false =>
        obtain ⟨r, hr, rfl⟩ := hhas2 p (List.mem_filter.2 ⟨hp, by simp [hs]⟩)
        exact ⟨r, hr, hext.cur_of_not_superseded hi hr hs, rfl⟩
  · -- current parents make every proposed tag new: the tail runs on all of them
    have hpresne : pres ≠ [] :=
      let ⟨kv, hkv⟩ := List.exists_mem_of_ne_nil _ hne
      List.ne_nil_of_mem ((hpm _).2 ⟨kv, hkv, rfl⟩)
    have hfresh : ps ≠ [] → ∀ p ∈ pres, st.lookup p = none := fun hp p hpp =>
      lookup_none_of_current_parents hi (by rw [(hpar p hpp).1]; exact mt sortIds_eq_nil.1 hp)
        (by rw [(hpar p hpp).1]; exact hcur')
    have hP1 : ∀ par ∈ sortIds ps, ∃ q ∈ st.rows, q.id = par := fun par h =>
      let ⟨r, hr, hid, _⟩ := hcur' par h
      ⟨r, hr, hid⟩
    obtain ⟨h1, h2, h3⟩ := commit_cur (pres := pres) hi.toStruct hP1
    refine ⟨st.commit pres (sortIds ps), ?_,
      commit_inv hi hP1 (fun p hp => (hpar p hp).1) (fun _ _ => .inr hpresne), ?_, ?_, ?_⟩
    · split
      · next hn =>
        have hf := hfresh fun hp => hreg ⟨hn, hp⟩
        rw [List.filter_eq_nil_iff.2 fun p hp => by simp [St.superseded, hf p hp],
          List.filter_eq_self.2 fun p hp => by simp [St.superseded, hf p hp]]
        rfl
      · rfl
    · intro t ht
      simpa only [mem_sortIds, htrip] using h1 t ht
    · exact fun r hr hc hn => h2 r hr hc (mt (mem_sortIds _ _).1 hn)
    · intro hh t ht
      obtain ⟨p, hp, rfl⟩ := (htrip t).2 ht
      exact h3 p hp (hfresh (fun hp => hh.elim (fun hn => hreg ⟨hn, hp⟩) fun h => h hp) p hp)

def Op.ent : Op → String
  | .add e _ => e
  | .update e _ => e
  | .rm e _ _ => e

/-- the entity of a command is a real record id (the empty id is reserved for delete markers) -/
def Op.WF (op : Op) : Prop := op.ent ≠ ""

/-- the current pairs of every real entity are those of the reference (as sets) -/
def Agree (st : St) (sp : Spec) : Prop := ∀ t, t.1 ≠ "" → (st.Cur t ↔ t ∈ sp)

/-- Ids of the current tags of `e` whose pair satisfies `g`: the shape of `currentWithKeys` and
`currentMatching`. -/
def St.selected (st : St) (e : String) (g : String → String → Bool) : List Nat :=
  (st.rows.filter fun r => r.cur && decide (r.pre.ent = e) && g r.pre.key r.pre.val).map (·.id)

theorem currentWithKeys_eq (st : St) (e : String) (keys : List String) :
    st.currentWithKeys e keys = st.selected e fun k _ => decide (k ∈ keys) := rfl

theorem currentMatching_eq (st : St) (e : String) (pairs : List (String × String)) (keys : List String) :
    st.currentMatching e pairs keys = st.selected e fun k v => decide ((k, v) ∈ pairs) || decide (k ∈ keys) := rfl

theorem mem_selected {st : St} {e : String} {g : String → String → Bool} {i : Nat} :
    i ∈ st.selected e g ↔ ∃ r ∈ st.rows, r.id = i ∧ r.cur = true ∧ r.pre.ent = e ∧ g r.pre.key r.pre.val = true := by
  simp only [St.selected, List.mem_map, List.mem_filter, Bool.and_eq_true, decide_eq_true_eq]
  exact ⟨fun ⟨r, ⟨hr, ⟨hc, he⟩, hg⟩, hid⟩ => ⟨r, hr, hid, hc, he, hg⟩,
    fun ⟨r, hr, hid, hc, he, hg⟩ => ⟨r, ⟨hr, ⟨hc, he⟩, hg⟩, hid⟩⟩

theorem selected_current {st : St} {e : String} {g : String → String → Bool} {i : Nat}
    (h : i ∈ st.selected e g) : ∃ r ∈ st.rows, r.id = i ∧ r.cur = true :=
  let ⟨r, hr, hid, hc, _⟩ := mem_selected.1 h
  ⟨r, hr, hid, hc⟩

theorem cur_not_selected {st : St} (hs : Struct st) (e : String) (g : String → String → Bool)
    (t : String × String × String) :
    (∃ r ∈ st.rows, r.cur = true ∧ r.id ∉ st.selected e g ∧ r.pre.trip = t) ↔
      st.Cur t ∧ (decide (t.1 = e) && g t.2.1 t.2.2) = false := by
  have key : ∀ r ∈ st.rows, r.cur = true →
      (r.id ∉ st.selected e g ↔ (decide (r.pre.ent = e) && g r.pre.key r.pre.val) = false) := by
    intro r hr hc
    rw [← Bool.not_eq_true, mem_selected, Bool.and_eq_true, decide_eq_true_eq]
    exact not_congr ⟨fun ⟨r', hr', hid, _, h⟩ => hs.idInj r' hr' r hr hid ▸ h, fun h => ⟨r, hr, rfl, hc, h⟩⟩
  constructor
  · rintro ⟨r, hr, hc, hn, rfl⟩
    exact ⟨⟨r, hr, hc, rfl⟩, (key r hr hc).1 hn⟩
  · rintro ⟨⟨r, hr, hc, rfl⟩, hn⟩
    exact ⟨r, hr, hc, (key r hr hc).2 hn, rfl⟩

theorem step_add (st : St) (sp : Spec) (e : String) (kvs : List (String × String)) (hi : Inv st)
    (ha : Agree st sp) :
    ∃ st', st.step (.add e kvs) = .ok st' ∧ Inv st' ∧ Agree st' (sp.step (.add e kvs)) ∧
      ∀ kv ∈ kvs, (kv.1, kv.2) ∈ st'.current e := by
  by_cases hne : kvs = []
  · subst hne
    exact ⟨st, rfl, hi, by simpa [Spec.step] using ha, by simp⟩
  · obtain ⟨st', hrec, hinv, h1, h2, h3⟩ := record_spec st e kvs [] false true hi hne (ps := []) rfl (by simp)
    refine ⟨st', hrec, hinv, fun t ht => ?_,
      fun kv hkv => mem_current.2 (h3 (.inl rfl) _ (List.mem_map.2 ⟨kv, hkv, rfl⟩))⟩
    simp only [Spec.step, List.mem_append, ← ha t ht]
    constructor
    · intro hc
      rcases h1 t hc with ⟨r, hr, hcur, _, rfl⟩ | h
      · exact .inl ⟨r, hr, hcur, rfl⟩
      · exact .inr h
    · rintro (⟨r, hr, hc, rfl⟩ | h)
      · exact h2 r hr hc List.not_mem_nil
      · exact h3 (.inl rfl) t h

theorem step_update (st : St) (sp : Spec) (e : String) (kvs : List (String × String)) (hi : Inv st)
    (ha : Agree st sp) :
    ∃ st', st.step (.update e kvs) = .ok st' ∧ Inv st' ∧ Agree st' (sp.step (.update e kvs)) := by
  by_cases hne : kvs = []
  · subst hne
    exact ⟨st, rfl, hi, fun t ht => by simpa [Spec.step] using ha t ht⟩
  · obtain ⟨st', hrec, hinv, h1, h2, h3⟩ := record_spec st e kvs [] true false hi hne
      (ps := st.selected e fun k _ => decide (k ∈ kvs.map (·.1)))
      (by rw [if_pos rfl, List.nil_append, currentWithKeys_eq]) (fun _ => selected_current)
    refine ⟨st', hrec, hinv, fun t ht => ?_⟩
    simp only [Spec.step, List.mem_append, List.mem_filter, ← ha t ht, Bool.not_eq_true']
    rw [← cur_not_selected hi.toStruct e fun k _ => decide (k ∈ kvs.map (·.1))]
    exact ⟨h1 t, fun h => h.elim (fun ⟨r, hr, hc, hn, ht⟩ => ht ▸ h2 r hr hc hn) (h3 (.inl rfl) t)⟩

theorem step_rm (st : St) (sp : Spec) (e : String) (pairs : List (String × String)) (keys : List String)
    (hi : Inv st) (ha : Agree st sp) :
    ∃ st', st.step (.rm e pairs keys) = .ok st' ∧ Inv st' ∧ Agree st' (sp.step (.rm e pairs keys)) := by
  obtain ⟨st', hrec, hinv, h1, h2, _⟩ := record_spec st "" [deleteKV] (st.currentMatching e pairs keys) false false
    hi (by simp) (ps := st.selected e fun k v => decide ((k, v) ∈ pairs) || decide (k ∈ keys))
    (currentMatching_eq st e pairs keys).symm
    (fun _ => selected_current)
  refine ⟨st', hrec, hinv, fun t ht => ?_⟩
  simp only [Spec.step, List.mem_filter, ← ha t ht, Bool.not_eq_true']
  rw [← cur_not_selected hi.toStruct e fun k v => decide ((k, v) ∈ pairs) || decide (k ∈ keys)]
  refine ⟨fun hc => (h1 t hc).resolve_right fun h => ?_, fun ⟨r, hr, hc, hn, h⟩ => h ▸ h2 r hr hc hn⟩
  -- the delete marker is filed under the empty entity
  rw [List.map_singleton, List.mem_singleton] at h
  exact ht (h ▸ rfl)

end RedunModel.Tags
