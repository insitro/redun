/-
Helper lemmas for the expression-hash model (C18): sorting the export-option set, `hashList`/`hashKw` as maps.
-/
import RedunModel.Model.ExprHash
import RedunModel.Lemmas.Pre
namespace RedunModel.ExprHash
open RedunModel.Pre List

theorem insertsBy_insertS : InsertsBy (fun a b : String => a ≤ b) insertS :=
  ⟨fun _ => rfl, fun _ _ _ => rfl⟩

theorem sortS_perm (l : List String) : (sortS l).Perm l := insertsBy_insertS.sort_perm l

theorem sortS_eq_of_perm {l₁ l₂ : List String} (hp : l₁.Perm l₂) : sortS l₁ = sortS l₂ :=
  insertsBy_insertS.sort_eq_of_perm (P := fun _ => True) (fun _ _ _ _ h => h)
    (fun a b _ _ h => (String.le_total a b).resolve_left h) (fun _ _ _ _ _ _ => String.le_trans) hp (fun _ _ => trivial)
    fun _ _ _ _ => String.le_antisymm

theorem exportHash_inj {a b : List String} (h : exportHash a = exportHash b) : a.Perm b := by
  simp only [exportHash, Pre.hash.injEq, Pre.list.injEq] at h
  have h2 : sortS a = sortS b := (map_inj_right fun _ _ => Pre.str.inj).mp h
  exact (sortS_perm a).symm.trans (h2 ▸ sortS_perm b)

theorem hashList_eq_map (l : List Node) : hashList l = l.map hashOf := by
  induction l with
  | nil => rfl
  | cons a t ih => simp [hashList, ih]

theorem hashKw_eq_map (l : List (String × Node)) : hashKw l = l.map (fun ka => (ka.1, hashOf ka.2)) := by
  induction l with
  | nil => rfl
  | cons a t ih => cases a; simp [hashKw, ih]

end RedunModel.ExprHash
