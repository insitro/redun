/-
Lemmas for `RedunModel.Model.Arrayer`: dictionary laws (`dget` is core's `List.lookup`, `derase` a filter: the laws
of lookup and deletion come from `Lemmas/AssocList`; `dset` updates in place and has its own); the two threads read
line by line (`SStep`, `MStep`: one constructor per line and outcome, saying which fields the line writes), from
which every invariant of the transition system is proved by cases on the line.  An invariant is a fact about the
shared state plus functions of the line; a proof first rewrites the line to the literal it is, so that on
every line outside the invariant's concern the old fact is the new one by evaluation of those functions.
Then the lock discipline `InvA` and deadlock freedom.
The invariants about the data are in `ArrayerInv`.
Core Lean only.
-/
import RedunModel.Model.Arrayer
import RedunModel.Lemmas.AssocList
namespace RedunModel.Arrayer
variable {α : Type}

@[simp] theorem dget_nil (k : Nat) : dget ([] : Dict α) k = none := rfl

theorem dget_eq_lookup (d : Dict α) (k : Nat) : dget d k = d.lookup k :=
  Assoc.lookup_eq_of_rec (f := fun k d => dget d k) (fun _ => rfl) (fun _ _ _ _ => rfl) k d

theorem derase_eq_filter (d : Dict α) (k : Nat) : derase d k = d.filter fun p => p.1 != k := by
  fun_induction derase d k <;> simp_all

theorem dget_dset (d : Dict α) (k k' : Nat) (v : α) :
    dget (dset d k v) k' = if k' = k then some v else dget d k' := by
  rw [dget_eq_lookup, dget_eq_lookup]
  exact Assoc.lookup_set_of_rec (set := fun k v d => dset d k v) (fun _ _ => rfl) (fun _ _ _ _ _ => rfl) k k' v d

theorem dget_derase (d : Dict α) (k k' : Nat) :
    dget (derase d k) k' = if k' = k then none else dget d k' := by
  rw [dget_eq_lookup, derase_eq_filter, Assoc.lookup_erase, dget_eq_lookup]

theorem dget_derase_some {d : Dict α} {k k' : Nat} {v : α} (h : dget (derase d k) k' = some v) :
    dget d k' = some v := by
  rw [dget_derase] at h; split at h
  · cases h
  · exact h

theorem isSome_dget_dset {d : Dict α} {k k' : Nat} {v : α} (h : (dget d k').isSome) :
    (dget (dset d k v) k').isSome := by
  rw [dget_dset]; split
  · rfl
  · exact h

theorem dget_isSome_iff_mem (d : Dict α) (k : Nat) : (dget d k).isSome ↔ k ∈ dkeys d := by
  rw [dget_eq_lookup, Option.isSome_iff_ne_none, ne_eq, Assoc.lookup_eq_none_iff, Decidable.not_not]; rfl

theorem dkeys_dset (d : Dict α) (k : Nat) (v : α) :
    dkeys (dset d k v) = if (dget d k).isSome then dkeys d else dkeys d ++ [k] := by
  simp only [dget_isSome_iff_mem]
  exact Assoc.keys_set_of_rec (set := fun k v d => dset d k v) (fun _ _ => rfl) (fun _ _ _ _ _ => rfl) k v d

theorem nodup_dkeys_dset (d : Dict α) (k : Nat) (v : α) (h : (dkeys d).Nodup) : (dkeys (dset d k v)).Nodup := by
  rw [dkeys_dset]; split
  · exact h
  · rename_i hn
    rw [dget_isSome_iff_mem] at hn
    rw [List.nodup_append]
    exact ⟨h, by simp, fun a ha b hb hab => hn (by rw [← List.mem_singleton.1 hb, ← hab]; exact ha)⟩

theorem dkeys_derase_sublist (d : Dict α) (k : Nat) : (dkeys (derase d k)).Sublist (dkeys d) :=
  derase_eq_filter d k ▸ List.filter_sublist.map _

theorem nodup_dkeys_derase (d : Dict α) (k : Nat) (h : (dkeys d).Nodup) : (dkeys (derase d k)).Nodup :=
  List.Nodup.sublist (dkeys_derase_sublist d k) h

theorem derase_of_not_mem (d : Dict α) (k : Nat) (h : k ∉ dkeys d) : derase d k = d :=
  (derase_eq_filter d k).trans (Assoc.erase_of_not_mem h)

theorem flat_cons (k : Nat) (v : List Job) (r : Dict (List Job)) : flat ((k, v) :: r) = v ++ flat r := rfl

/-- `pending[k] += extra` adds `extra` to the stored jobs -/
theorem flat_dset_append (d : Dict (List Job)) (k : Nat) (extra : List Job) :
    (flat (dset d k ((dget d k).getD [] ++ extra))).Perm (flat d ++ extra) := by
  induction d with
  | nil => exact .of_eq (List.append_nil _)
  | cons e r ih =>
    obtain ⟨k0, v0⟩ := e
    simp only [dset, dget]
    split
    · simp only [flat_cons, Option.getD_some, List.append_assoc]
      exact List.perm_append_comm.append_left v0
    · simp only [flat_cons, List.append_assoc]
      exact ih.append_left v0

/-- `pending.pop(k)` takes exactly the list stored under `k` out of the stored jobs -/
theorem flat_derase (d : Dict (List Job)) (k : Nat) (js : List Job)
    (hn : (dkeys d).Nodup) (hg : dget d k = some js) : (flat d).Perm (js ++ flat (derase d k)) := by
  induction d with
  | nil => cases hg
  | cons e r ih =>
    obtain ⟨k0, v0⟩ := e
    rw [dkeys, List.map_cons, List.nodup_cons] at hn
    simp only [dget] at hg
    simp only [derase]
    split at hg
    · cases hg
      rename_i hk; subst hk
      rw [if_pos rfl, derase_of_not_mem r k0 hn.1]; exact .refl _
    · rename_i hk
      rw [if_neg hk, flat_cons, flat_cons]
      exact ((ih hn.2 hg).append_left v0).trans (List.perm_append_comm_assoc _ _ _)

def State.ago (s : State) (pc : APc) : State := { s with ad := { s.ad with pc := pc } }

def State.mgo (s : State) (pc : MPc) : State := { s with mon := { s.mon with pc := pc } }

/-- a function of a thread's locals may be read with the line it is at put in -/
theorem Adder.at_pc {β : Type} (f : Adder → β) {a : Adder} {pc : APc} (hpc : a.pc = pc) :
    f a = f { a with pc := pc } := by
  subst hpc; rfl

theorem Mon.at_pc {β : Type} (f : Mon → β) {m : Mon} {pc : MPc} (hpc : m.pc = pc) :
    f m = f { m with pc := pc } := by
  subst hpc; rfl

/-- `stepS` read line by line: `SStep p s pc s'` lists every way line `pc` of `add_job`/`start` can run in
`s`, and the state it leaves. -/
inductive SStep (p : Params) (s : State) : APc → State → Prop
  | a158pass : (s.ad.cur.script || p.minSize == 0) = true → SStep p s .a158 (s.ago .a159)
  | a158 : ¬ (s.ad.cur.script || p.minSize == 0) = true → SStep p s .a158 (s.ago .a162)
  | a159 : SStep p s .a159 { s with submitted := s.submitted ++ [[s.ad.cur]], added := s.added ++ [s.ad.cur],
                                    ad := { s.ad with pc := .a160 } }
  | a160 : SStep p s .a160 { s with ad := nextCall s.ad }
  | a162 : SStep p s .a162 (s.ago .a163)
  | a163 : s.lock = none → SStep p s .a163 { s.ago .a164 with lock := some .S }
  | a164 : SStep p s .a164 { s with
      pending := dset s.pending s.ad.cur.descr ((dget s.pending s.ad.cur.descr).getD [] ++ [s.ad.cur]),
      added := s.added ++ [s.ad.cur], ad := { s.ad with pc := .a165 } }
  | a165 : SStep p s .a165 { s with stamps := dset s.stamps s.ad.cur.descr s.clock, ad := { s.ad with pc := .a166 } }
  | a166 : SStep p s .a166 { s with num := s.num + 1, ad := { s.ad with pc := .a163x } }
  | a163x : SStep p s .a163x { s.ago .a168 with lock := none }
  | a168 : SStep p s .a168 (s.ago .s136)
  | s136off : (p.minSize == 0) = true → SStep p s .s136 (s.ago .s137)
  | s136 : ¬ (p.minSize == 0) = true → SStep p s .s136 (s.ago .s139)
  | s137 : SStep p s .s137 { s with ad := nextCall s.ad }
  | s139alive : monAlive s.mon = true → SStep p s .s139 (s.ago .s140)
  | s139 : ¬ monAlive s.mon = true → SStep p s .s139 (s.ago .s144)
  | s140 : SStep p s .s140 { s with ad := nextCall s.ad }
  | s144 : SStep p s .s144 (s.ago .s145)
  | s145 : SStep p s .s145 (s.ago .s146)
  | s146 : SStep p s .s146 { s with mon := { pc := .m122 }, started := s.started + 1, ad := nextCall s.ad }

theorem stepS_spec {p : Params} {s s' : State} (h : stepS p s = some s') :
    ∃ pc, s.ad.pc = pc ∧ SStep p s pc s' := by
  refine ⟨_, rfl, ?_⟩
  -- the line picks the constructor; on a line with a test, the branch taken (its hypothesis) does
  cases hpc : s.ad.pc <;> simp only [stepS, hpc] at h
  case a158 | a163 | s136 | s139 => split at h <;> cases h <;> constructor <;> assumption
  case done => cases h
  all_goals cases h; constructor

/-- `stepM` read line by line: every way monitor line `pc` can run in `s`, and the state it leaves.
Lines whose successor depends on the configuration have one constructor per configuration
(suffix `L`: under the lock, `U`: without), so that the next line is always a literal. -/
inductive MStep (c : Cfg) (p : Params) (s : State) : MPc → State → Prop
  | m122 : MStep c p s .m122 (s.mgo .m123)
  | m123 : MStep c p s .m123 (s.mgo .m124)
  | m124 : MStep c p s .m124 (s.mgo .g172)
  | g172L : c.lockScan = true →
      MStep c p s .g172 { s with mon := { s.mon with currtime := s.clock, pc := .gLock } }
  | g172U : c.lockScan = false →
      MStep c p s .g172 { s with mon := { s.mon with currtime := s.clock, pc := .g175a } }
  | gLock : s.lock = none → MStep c p s .gLock { s.mgo .g175a with lock := some .M }
  | g175a : MStep c p s .g175a (s.mgo .g173a)
  | g173a (k : Nat) (r : List Nat) : dkeys s.pending = k :: r →
      MStep c p s .g173a { s with mon := { s.mon with iterUsed := s.pending.length, acc := [], descr := k, iterRest := r, pc := .g175b } }
  | g173aEndL : dkeys s.pending = [] → c.lockScan = true →
      MStep c p s .g173a { s with mon := { s.mon with iterUsed := s.pending.length, iterRest := [], acc := [], stales := [], pc := .gUnlock } }
  | g173aEndU : dkeys s.pending = [] → c.lockScan = false →
      MStep c p s .g173a { s with mon := { s.mon with iterUsed := s.pending.length, iterRest := [], acc := [], stales := [], pc := .g178 } }
  | g175b : MStep c p s .g175b (s.mgo .g176)
  | g176E : dget s.stamps s.mon.descr = none →
      MStep c p s .g176 { s with mon := { s.mon with err := .keyError, pc := .g173e } }
  | g176 (ts : Nat) : dget s.stamps s.mon.descr = some ts →
      MStep c p s .g176 { s with mon := { s.mon with isStale := isStaleAt p s.mon.currtime ts, pc := .g174 } }
  | g174 : MStep c p s .g174
      { s with mon := { s.mon with acc := if s.mon.isStale then s.mon.acc ++ [s.mon.descr] else s.mon.acc, pc := .g173b } }
  | g173bE : s.pending.length ≠ s.mon.iterUsed →
      MStep c p s .g173b { s with mon := { s.mon with err := .runtimeError, pc := .g173e } }
  | g173b (k : Nat) (r : List Nat) : s.pending.length = s.mon.iterUsed → s.mon.iterRest = k :: r →
      MStep c p s .g173b { s with mon := { s.mon with descr := k, iterRest := r, pc := .g175b } }
  | g173bEndL : s.pending.length = s.mon.iterUsed → s.mon.iterRest = [] → c.lockScan = true →
      MStep c p s .g173b { s with mon := { s.mon with stales := s.mon.acc, pc := .gUnlock } }
  | g173bEndU : s.pending.length = s.mon.iterUsed → s.mon.iterRest = [] → c.lockScan = false →
      MStep c p s .g173b { s with mon := { s.mon with stales := s.mon.acc, pc := .g178 } }
  | g173eL : c.lockScan = true → MStep c p s .g173e (s.mgo .gUnlockE)
  | g173eU : c.lockScan = false → MStep c p s .g173e (s.mgo .m128)
  | gUnlock : MStep c p s .gUnlock { s.mgo .g178 with lock := none }
  | gUnlockE : MStep c p s .gUnlockE { s.mgo .m128 with lock := none }
  | g178 : MStep c p s .g178 (s.mgo .m126)
  | m126nil : s.mon.stales = [] → MStep c p s .m126 (s.mgo .m123)
  | m126 (d : Nat) (r : List Nat) : s.mon.stales = d :: r →
      MStep c p s .m126 { s with mon := { s.mon with descr := d, stales := r, pc := .m127 } }
  | m127 : MStep c p s .m127 (s.mgo .p183)
  | p183 : s.lock = none → MStep c p s .p183 { s.mgo .p184 with lock := some .M }
  | p184E : dget s.pending s.mon.descr = none →
      MStep c p s .p184 { s with mon := { s.mon with err := .keyError, pc := .p183xE } }
  | p184 (js : List Job) : dget s.pending s.mon.descr = some js →
      MStep c p s .p184 { s with pending := derase s.pending s.mon.descr, mon := { s.mon with jobs := js, pc := .p185 } }
  | p185E : dget s.stamps s.mon.descr = none →
      MStep c p s .p185 { s with mon := { s.mon with err := .keyError, pc := .p183xE } }
  | p185 (t : Nat) : dget s.stamps s.mon.descr = some t →
      MStep c p s .p185 { s with stamps := derase s.stamps s.mon.descr, mon := { s.mon with timestamp := t, pc := .p183x } }
  | p183x : MStep c p s .p183x { s.mgo .p188 with lock := none }
  | p183xE : MStep c p s .p183xE { s.mgo .m128 with lock := none }
  | p188over : s.mon.jobs.length > p.maxSize → MStep c p s .p188 (s.mgo .p189)
  | p188 : ¬ s.mon.jobs.length > p.maxSize → MStep c p s .p188 (s.mgo .p197)
  | p189 : MStep c p s .p189 { s with mon := { s.mon with remainder := s.mon.jobs.drop p.maxSize, pc := .p190 } }
  | p190 : MStep c p s .p190 { s with mon := { s.mon with jobs := s.mon.jobs.take p.maxSize, pc := .p191 } }
  | p191 : MStep c p s .p191 { s with submitted := s.submitted ++ [s.mon.jobs], mon := { s.mon with pc := .p193 } }
  | p193 : s.lock = none → MStep c p s .p193 { s.mgo .p194 with lock := some .M }
  | p194 : MStep c p s .p194 { s with
      pending := dset s.pending s.mon.descr ((dget s.pending s.mon.descr).getD [] ++ s.mon.remainder),
      mon := { s.mon with pc := .p195 } }
  | p195 : MStep c p s .p195
      { s with stamps := dset s.stamps s.mon.descr s.mon.timestamp, mon := { s.mon with pc := .p193x } }
  | p193xL : c.lockDec = true → MStep c p s .p193x { s.mgo .pdLock with lock := none }
  | p193xU : c.lockDec = false → MStep c p s .p193x { s.mgo .p203 with lock := none }
  | p197under : s.mon.jobs.length < p.minSize →
      MStep c p s .p197 { s with mon := { s.mon with loopJobs := s.mon.jobs, pc := .p198 } }
  | p197 : ¬ s.mon.jobs.length < p.minSize → MStep c p s .p197 (s.mgo .p201)
  | p198nilL : s.mon.loopJobs = [] → c.lockDec = true → MStep c p s .p198 (s.mgo .pdLock)
  | p198nilU : s.mon.loopJobs = [] → c.lockDec = false → MStep c p s .p198 (s.mgo .p203)
  | p198 (j : Job) (r : List Job) : s.mon.loopJobs = j :: r →
      MStep c p s .p198 { s with mon := { s.mon with job := j, loopJobs := r, pc := .p199 } }
  | p199 : MStep c p s .p199 { s with submitted := s.submitted ++ [[s.mon.job]], mon := { s.mon with pc := .p198 } }
  | p201L : c.lockDec = true →
      MStep c p s .p201 { s with submitted := s.submitted ++ [s.mon.jobs], mon := { s.mon with pc := .pdLock } }
  | p201U : c.lockDec = false →
      MStep c p s .p201 { s with submitted := s.submitted ++ [s.mon.jobs], mon := { s.mon with pc := .p203 } }
  | pdLock : s.lock = none → MStep c p s .pdLock { s.mgo .p203 with lock := some .M }
  | p203L : c.lockDec = true →
      MStep c p s .p203 { s with num := s.num - s.mon.jobs.length, mon := { s.mon with pc := .pdUnlock } }
  | p203U : c.lockDec = false → MStep c p s .p203 { s with mon := { s.mon with decRead := s.num, pc := .p203w } }
  | p203w : MStep c p s .p203w { s with num := s.mon.decRead - s.mon.jobs.length, mon := { s.mon with pc := .m126 } }
  | pdUnlock : MStep c p s .pdUnlock { s.mgo .m126 with lock := none }
  | m128 : MStep c p s .m128 (s.mgo .m132)
  | m132 : MStep c p s .m132 { s with errors := s.errors ++ [s.mon.err], mon := { s.mon with pc := .mExit } }
  | mExit : MStep c p s .mExit (s.mgo .dead)

theorem stepM_spec {c : Cfg} {p : Params} {s s' : State} (h : stepM c p s = some s') :
    ∃ pc, s.mon.pc = pc ∧ MStep c p s pc s' := by
  refine ⟨_, rfl, ?_⟩
  cases hpc : s.mon.pc <;> simp only [stepM, hpc, iterNext, afterScan, afterScanErr, decEntry] at h
  case none | dead => cases h
  case g173a =>
    simp only [bne_self_eq_false, Bool.false_eq_true, if_false] at h
    cases hk : dkeys s.pending <;> simp only [hk] at h
    · cases hL : c.lockScan <;> simp only [hL] at h <;> cases h <;> constructor <;> assumption
    · cases h; constructor; assumption
  case g173b =>
    by_cases hn : s.pending.length = s.mon.iterUsed
    · simp only [hn, bne_self_eq_false, Bool.false_eq_true, if_false] at h
      split at h
      · cases h; constructor <;> assumption
      · cases hL : c.lockScan <;> simp only [hL] at h <;> cases h <;> constructor <;> assumption
    · simp only [bne_iff_ne, ne_eq, hn, not_false_eq_true, if_true] at h
      cases h; constructor; assumption
  case g172 | g173e =>
    cases hL : c.lockScan <;> simp only [hL] at h <;> cases h <;> constructor <;> assumption
  case p193x | p201 | p203 =>
    cases hL : c.lockDec <;> simp only [hL] at h <;> cases h <;> constructor <;> assumption
  case p198 =>
    split at h
    · cases hL : c.lockDec <;> simp only [hL] at h <;> cases h <;> constructor <;> assumption
    · cases h; constructor; assumption
  case gLock | g176 | m126 | p183 | p184 | p185 | p188 | p193 | p197 | pdLock =>
    split at h <;> cases h <;> constructor <;> assumption
  all_goals cases h; constructor

def holdsS : APc → Bool
  | .a164 | .a165 | .a166 | .a163x => true
  | _ => false

def holdsM (c : Cfg) : MPc → Bool
  | .g175a | .g173a | .g175b | .g176 | .g174 | .g173b | .g173e | .gUnlock | .gUnlockE => c.lockScan
  | .p184 | .p185 | .p183x | .p183xE | .p194 | .p195 | .p193x => true
  | .p203 | .pdUnlock => c.lockDec
  | _ => false

/-- lines that exist under one locking configuration only -/
def cfgAt (c : Cfg) : MPc → Prop
  | .gLock | .gUnlock | .gUnlockE => c.lockScan = true
  | .pdLock | .pdUnlock => c.lockDec = true
  | .p203w => c.lockDec = false
  | _ => True

/-- lines of `start()` past the `is_alive` test -/
def starting : APc → Bool
  | .s144 | .s145 | .s146 => true
  | _ => false

structure InvA (c : Cfg) (s : State) : Prop where
  lockS : s.lock = some .S ↔ holdsS s.ad.pc = true
  lockM : s.lock = some .M ↔ holdsM c s.mon.pc = true
  cfg : cfgAt c s.mon.pc
  startPc : starting s.ad.pc = true → monAlive s.mon = false

theorem nextCall_pc (a : Adder) : (nextCall a).pc = .a158 ∨ (nextCall a).pc = .done := by
  unfold nextCall; split <;> simp

theorem holdsS_nextCall (a : Adder) : holdsS (nextCall a).pc = false := by
  rcases nextCall_pc a with h | h <;> rw [h] <;> rfl

theorem starting_nextCall (a : Adder) : starting (nextCall a).pc = false := by
  rcases nextCall_pc a with h | h <;> rw [h] <;> rfl

theorem pc_of_not_alive {m : Mon} (h : monAlive m = false) : m.pc = .none ∨ m.pc = .dead := by
  by_cases hn : m.pc = .none
  · exact .inl hn
  · exact .inr (by simpa [monAlive, hn] using h)

/-- a function of the monitor's locals, when no monitor thread is running -/
theorem Mon.of_not_alive {β : Type} (f : Mon → β) {m : Mon} (h : monAlive m = false) {b : β}
    (h0 : f { m with pc := .none } = b) (h1 : f { m with pc := .dead } = b) : f m = b := by
  rcases pc_of_not_alive h with h | h <;> rw [Mon.at_pc f h] <;> assumption

theorem invA_init (c : Cfg) (jobs : List Job) : InvA c (init jobs) := by
  unfold init; split <;> exact ⟨⟨nofun, nofun⟩, ⟨nofun, nofun⟩, trivial, nofun⟩

section
variable {c : Cfg} {p : Params} {s s' : State}

theorem InvA.excl (h : InvA c s) (hS : holdsS s.ad.pc = true) (hM : holdsM c s.mon.pc = true) : False := by
  have h1 := h.lockS.2 hS
  rw [h.lockM.2 hM] at h1
  cases h1

theorem InvA.lock_free (h : InvA c s) (hS : holdsS s.ad.pc = false) (hM : holdsM c s.mon.pc = false) :
    s.lock = none := by
  cases hl : s.lock with
  | none => rfl
  | some t =>
    cases t with
    | S => have := h.lockS.1 hl; rw [hS] at this; cases this
    | M => have := h.lockM.1 hl; rw [hM] at this; cases this

theorem InvA.monAcquire {pc : MPc} (h : InvA c s) (hl0 : s.lock = none) (hh : holdsM c pc = true) (hc : cfgAt c pc)
    (hst : starting s.ad.pc = true → monAlive { s.mon with pc := pc } = false) :
    InvA c { s.mgo pc with lock := some .M } where
  lockS := by
    refine ⟨nofun, fun hS => ?_⟩
    have := h.lockS.2 hS
    rw [hl0] at this; cases this
  lockM := ⟨fun _ => hh, fun _ => rfl⟩
  cfg := hc
  startPc := hst

theorem InvA.monRelease {pc pc' : MPc} (h : InvA c s) (hpc : s.mon.pc = pc) (hm : holdsM c pc = true)
    (hh : holdsM c pc' = false) (hc : cfgAt c pc')
    (hst : starting s.ad.pc = true → monAlive { s.mon with pc := pc' } = false) :
    InvA c { s.mgo pc' with lock := none } where
  lockS := ⟨nofun, fun hS => (h.excl hS (hpc ▸ hm)).elim⟩
  lockM := ⟨nofun, fun hM => nomatch hh.symm.trans hM⟩
  cfg := hc
  startPc := hst

theorem invA_stepS {pc : APc} (h : InvA c s) (hpc : s.ad.pc = pc) (hs : SStep p s pc s') : InvA c s' := by
  have hS := h.lockS
  rw [hpc] at hS
  cases hs with
  | a160 | s137 | s140 =>
    exact ⟨by rw [holdsS_nextCall]; exact hS, h.lockM, h.cfg, by rw [starting_nextCall]; nofun⟩
  | a163 hl0 =>
    refine ⟨⟨fun _ => rfl, fun _ => rfl⟩, ⟨nofun, fun hM' => ?_⟩, h.cfg, nofun⟩
    have := h.lockM.2 hM'
    rw [hl0] at this; cases this
  | a163x => exact ⟨⟨nofun, nofun⟩, ⟨nofun, fun hM' => (h.excl (by rw [hpc]; rfl) hM').elim⟩, h.cfg, nofun⟩
  | s139 hal => exact ⟨hS, h.lockM, h.cfg, fun _ => Bool.eq_false_iff.2 hal⟩
  | s144 | s145 => exact ⟨hS, h.lockM, h.cfg, fun _ => h.startPc (by rw [hpc]; rfl)⟩
  | s146 =>
    -- no monitor is running, so the lock is free before and after
    have hl := h.lock_free (by rw [hpc]; rfl) (Mon.of_not_alive (holdsM c ·.pc) (h.startPc (by rw [hpc]; rfl)) rfl rfl)
    have free (t : Tid) (h1 : s.lock = some t) : False := by rw [hl] at h1; cases h1
    exact ⟨⟨fun h1 => (free _ h1).elim, fun h1 => by rw [holdsS_nextCall] at h1; cases h1⟩,
      ⟨fun h1 => (free _ h1).elim, nofun⟩, trivial, by rw [starting_nextCall]; nofun⟩
  | _ => exact ⟨hS, h.lockM, h.cfg, nofun⟩

theorem iff_true_congr {P : Prop} {b b' : Bool} (h : P ↔ b = true) (hb : b' = b) : P ↔ b' = true := hb ▸ h

theorem invA_stepM {pc : MPc} (h : InvA c s) (hpc : s.mon.pc = pc) (hs : MStep c p s pc s') : InvA c s' := by
  have hc := h.cfg
  have hM := h.lockM
  -- while the monitor runs, the adder is not in the part of `start()` that creates it
  have hst := h.startPc
  rw [monAlive] at hst
  rw [hpc] at hc hM hst
  cases hs with
  | gLock hl0 | pdLock hl0 => exact h.monAcquire hl0 hc trivial hst
  | p183 hl0 | p193 hl0 => exact h.monAcquire hl0 rfl trivial hst
  | gUnlock | gUnlockE | pdUnlock => exact h.monRelease hpc hc rfl trivial hst
  | p183x | p183xE => exact h.monRelease hpc rfl rfl trivial hst
  | p193xL hL => exact h.monRelease hpc rfl rfl hL hst
  | p193xU hU => exact h.monRelease hpc rfl hU trivial hst
  -- lines whose successor depends on the configuration: the hypothesis of the constructor is the fact
  -- `cfgAt` asks of the successor, or says that the successor holds the lock as little as the line itself
  | g172L hL | g173aEndL _ hL | g173bEndL _ _ hL | g173eL hL | p198nilL _ hL | p201L hL | p203L hL =>
    exact ⟨h.lockS, hM, hL, hst⟩
  | g172U hU | p198nilU _ hU | p201U hU => exact ⟨h.lockS, iff_true_congr hM hU, trivial, hst⟩
  | g173aEndU _ hU | g173bEndU _ _ hU | g173eU hU => exact ⟨h.lockS, iff_true_congr hM hU.symm, trivial, hst⟩
  | p203U hU => exact ⟨h.lockS, iff_true_congr hM hU.symm, hU, hst⟩
  | mExit => exact ⟨h.lockS, hM, trivial, fun _ => rfl⟩
  | _ => exact ⟨h.lockS, hM, trivial, hst⟩
end

theorem stepS_none (p : Params) (s : State) (h : stepS p s = none) :
    holdsS s.ad.pc = false ∧ (s.ad.pc = .done ∨ s.lock ≠ none) := by
  cases hpc : s.ad.pc <;> simp only [stepS, hpc, reduceCtorEq] at h
  case done => exact ⟨rfl, .inl rfl⟩
  case a163 =>
    split at h
    · cases h
    · rename_i hl; exact ⟨rfl, .inr (by rw [hl]; nofun)⟩
  all_goals (split at h <;> cases h)

theorem stepM_none (c : Cfg) (p : Params) (s : State) (h : stepM c p s = none) :
    holdsM c s.mon.pc = false ∧ (monAlive s.mon = false ∨ s.lock ≠ none) := by
  cases hpc : s.mon.pc <;> simp only [stepM, hpc, reduceCtorEq] at h
  case none | dead => exact ⟨rfl, .inl (by rw [monAlive, hpc]; rfl)⟩
  case gLock | p183 | p193 | pdLock =>
    split at h
    · cases h
    · rename_i hl; exact ⟨rfl, .inr (by rw [hl]; nofun)⟩
  all_goals (split at h <;> cases h)

theorem no_deadlock_of_invA (c : Cfg) (p : Params) (s : State) (hA : InvA c s) :
    stepS p s ≠ none ∨ stepM c p s ≠ none ∨ (s.ad.pc = .done ∧ monAlive s.mon = false) := by
  by_cases h1 : stepS p s = none
  · by_cases h2 : stepM c p s = none
    · obtain ⟨hS, ha⟩ := stepS_none p s h1
      obtain ⟨hM, hb⟩ := stepM_none c p s h2
      have hl := hA.lock_free hS hM
      exact .inr (.inr ⟨ha.resolve_right (absurd hl), hb.resolve_right (absurd hl)⟩)
    · exact .inr (.inl h2)
  · exact .inl h1
end RedunModel.Arrayer
