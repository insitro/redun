/-
Helper lemmas for the configuration model (C35), second part: `_parse_sections` builds a nested dict whose leaf
paths are exactly the (prefix-free) section names; `convert_to_dict` rebuilds the names from it.
-/
import RedunModel.Lemmas.Config
namespace RedunModel.Config

theorem splitOn_ne_nil (sep : Char) (s : Str) : splitOn sep s ≠ [] := by
  cases s with
  | nil => simp [splitOn]
  | cons c t =>
    simp only [splitOn]
    split
    · simp
    · split <;> simp

theorem joinWith_cons_cons (sep : Char) (p q : Str) (r : List Str) :
    joinWith sep (p :: q :: r) = p ++ sep :: joinWith sep (q :: r) := rfl

theorem joinWith_cons_head (sep c : Char) (h : Str) (r : List Str) :
    joinWith sep ((c :: h) :: r) = c :: joinWith sep (h :: r) := by
  cases r <;> rfl

theorem join_split (sep : Char) (s : Str) : joinWith sep (splitOn sep s) = s := by
  induction s with
  | nil => rfl
  | cons c t ih =>
    rw [splitOn]
    cases hs : splitOn sep t with
    | nil => exact absurd hs (splitOn_ne_nil _ _)
    | cons h r =>
      rw [hs] at ih
      split
      · next e => rw [joinWith_cons_cons, ih, e]; rfl
      · rw [joinWith_cons_head, ih]

mutual
def pathsNode : Node → List (List Str × Str)
  | .leaf f => [([], f)]
  | .node kids => pathsKids kids
def pathsKids : List (Str × Node) → List (List Str × Str)
  | [] => []
  | (k, n) :: t => (pathsNode n).map (fun pf => (k :: pf.1, pf.2)) ++ pathsKids t
end

/-- `".a.b"` for `["a", "b"]` -/
def dotted : List Str → Str
  | [] => []
  | a :: r => '.' :: a ++ dotted r

theorem joinWith_cons (k : Str) (r : List Str) : joinWith '.' (k :: r) = k ++ dotted r := by
  induction r generalizing k with
  | nil => simp [joinWith, dotted]
  | cons a r ih => rw [joinWith_cons_cons, ih a]; simp [dotted]

mutual
theorem flattenNode_paths (path : Str) (n : Node) :
    flattenNode path n = (pathsNode n).map fun pf => (path ++ dotted pf.1, pf.2) := by
  cases n with
  | leaf f => simp [flattenNode, pathsNode, dotted]
  | node kids => simp only [flattenNode, pathsNode]; exact flattenKids_some_paths path kids
theorem flattenKids_some_paths (path : Str) (kids : List (Str × Node)) :
    flattenKids (some path) kids = (pathsKids kids).map fun pf => (path ++ dotted pf.1, pf.2) := by
  cases kids with
  | nil => simp [flattenKids, pathsKids]
  | cons kn t =>
    obtain ⟨k, n⟩ := kn
    simp [flattenKids, pathsKids, flattenNode_paths (path ++ '.' :: k) n, flattenKids_some_paths path t, dotted]
end

theorem flattenKids_none_paths (kids : List (Str × Node)) :
    flattenKids none kids = (pathsKids kids).map fun pf => (joinWith '.' pf.1, pf.2) := by
  induction kids with
  | nil => simp [flattenKids, pathsKids]
  | cons kn t ih =>
    obtain ⟨k, n⟩ := kn
    simp [flattenKids, pathsKids, flattenNode_paths, ih, joinWith_cons]

def Compat (P : List (List Str × Str)) (parts : List Str) : Prop :=
  ∀ q ∈ P, ¬ q.1 <+: parts ∧ ¬ parts <+: q.1

/-- `kids[p] = x` replaces the block of paths below `p` (empty if `p` is new, then at the end) -/
theorem setKey_paths (kids : List (Str × Node)) (p : Str) (x : Node) :
    ∃ A B, pathsKids kids =
        A ++ ((kids.lookup p).elim [] fun n => (pathsNode n).map fun pf => (p :: pf.1, pf.2)) ++ B ∧
      pathsKids (setKey kids p x) = A ++ (pathsNode x).map (fun pf => (p :: pf.1, pf.2)) ++ B := by
  induction kids with
  | nil => exact ⟨[], [], rfl, by simp [setKey, pathsKids]⟩
  | cons q t ih =>
    obtain ⟨qk, qv⟩ := q
    by_cases e : p = qk
    · subst e
      exact ⟨[], pathsKids t, by simp [pathsKids], by simp [setKey, pathsKids]⟩
    · obtain ⟨A, B, h1, h2⟩ := ih
      exact ⟨(pathsNode qv).map (fun pf => (qk :: pf.1, pf.2)) ++ A, B,
        by simp [List.lookup, beq_false_of_ne e, pathsKids, h1], by simp [setKey, Ne.symm e, pathsKids, h2]⟩

theorem mem_pathsKids_of_lookup {kids : List (Str × Node)} {p : Str} {n : Node} (h : kids.lookup p = some n)
    {r : List Str × Str} (hr : r ∈ pathsNode n) : (p :: r.1, r.2) ∈ pathsKids kids := by
  obtain ⟨A, B, h1, _⟩ := setKey_paths kids p n
  rw [h1, h]
  exact List.mem_append_left _ (List.mem_append_right _ (List.mem_map_of_mem hr))

theorem insertPath_spec (full : Str) (parts : List Str) (hne : parts ≠ []) :
    ∀ kids : List (Str × Node), Compat (pathsKids kids) parts →
      ∃ kids', insertPath kids parts full = .ok kids' ∧
        (pathsKids kids').Perm ((parts, full) :: pathsKids kids) := by
  induction parts with
  | nil => exact absurd rfl hne
  | cons p rest ih =>
    intro kids hc
    -- whatever `x` becomes the entry of `p`: if its paths are the old ones below `p` and the new one, the same
    -- holds of the whole dict
    have key (x : Node) (hx : ((pathsNode x).map fun pf => (p :: pf.1, pf.2)).Perm ((p :: rest, full) ::
        (kids.lookup p).elim [] fun n => (pathsNode n).map fun pf => (p :: pf.1, pf.2))) :
        (pathsKids (setKey kids p x)).Perm ((p :: rest, full) :: pathsKids kids) := by
      obtain ⟨A, B, h1, h2⟩ := setKey_paths kids p x
      rw [h1, h2, List.append_assoc, List.append_assoc]
      exact ((hx.append_right B).append_left A).trans List.perm_middle
    cases rest with
    | nil =>
      refine ⟨_, rfl, key (.leaf full) ?_⟩
      cases hl : kids.lookup p with
      | none => exact .refl _
      | some n =>
        have : pathsNode n = [] := List.eq_nil_iff_forall_not_mem.mpr fun r hr =>
          (hc _ (mem_pathsKids_of_lookup hl hr)).2 (by simp [List.cons_prefix_cons])
        simp [this, pathsNode]
    | cons q ps =>
      have ih' := ih (by simp)
      cases hl : kids.lookup p with
      | none =>
        obtain ⟨sub, hs1, hs2⟩ := ih' [] (by intro x hx; simp [pathsKids] at hx)
        refine ⟨_, by simp [insertPath, hl, hs1], key (.node sub) ?_⟩
        simpa [hl, pathsNode, pathsKids] using hs2.map fun pf => (p :: pf.1, pf.2)
      | some n =>
        cases n with
        | leaf f =>
          exact absurd (by simp [List.cons_prefix_cons])
            (hc _ (mem_pathsKids_of_lookup hl (r := ([], f)) (by simp [pathsNode]))).1
        | node sub =>
          have hcs : Compat (pathsKids sub) (q :: ps) := fun r hr => by
            simpa [List.cons_prefix_cons] using hc _ (mem_pathsKids_of_lookup hl (n := .node sub) hr)
          obtain ⟨sub', hs1, hs2⟩ := ih' sub hcs
          refine ⟨_, by simp [insertPath, hl, hs1], key (.node sub') ?_⟩
          simpa [hl, pathsNode] using hs2.map fun pf => (p :: pf.1, pf.2)

/-- section names, as dotted paths, are pairwise not prefixes of each other (in particular distinct) -/
def PrefixFree (names : List Str) : Prop :=
  (names.map (splitOn '.')).Pairwise fun a b => ¬ a <+: b ∧ ¬ b <+: a

theorem parseSections_spec (names : List Str) :
    ∀ acc : List (Str × Node), PrefixFree names → (∀ n ∈ names, Compat (pathsKids acc) (splitOn '.' n)) →
      ∃ t, parseSections names acc = .ok t ∧
        (pathsKids t).Perm (pathsKids acc ++ names.map fun n => (splitOn '.' n, n)) := by
  induction names with
  | nil => intro acc _ _; exact ⟨acc, rfl, by simp⟩
  | cons n rest ih =>
    intro acc hpf hc
    obtain ⟨hn, hrest⟩ := List.pairwise_cons.mp hpf
    obtain ⟨acc', h1, h2⟩ := insertPath_spec n (splitOn '.' n) (splitOn_ne_nil _ _) acc (hc n List.mem_cons_self)
    have hc' : ∀ m ∈ rest, Compat (pathsKids acc') (splitOn '.' m) := by
      intro m hm q hq
      rcases List.mem_cons.mp (h2.mem_iff.mp hq) with rfl | hq'
      · exact hn _ (List.mem_map_of_mem hm)
      · exact hc m (List.mem_cons_of_mem _ hm) q hq'
    obtain ⟨t, ht1, ht2⟩ := ih acc' hrest hc'
    exact ⟨t, by simp [parseSections, h1, ht1], ht2.trans ((h2.append_right _).trans List.perm_middle.symm)⟩

theorem parseSections_nil (names : List Str) (hpf : PrefixFree names) :
    ∃ t, parseSections names [] = .ok t ∧ (pathsKids t).Perm (names.map fun n => (splitOn '.' n, n)) :=
  parseSections_spec names [] hpf fun _ _ _ hq => nomatch hq

theorem nodup_of_prefixFree (names : List Str) (h : PrefixFree names) : names.Nodup := by
  unfold PrefixFree at h
  rw [List.pairwise_map] at h
  exact h.imp (fun {a b} hab (e : a = b) => hab.1 (by rw [e]; exact List.prefix_refl _))

theorem prefixFree_perm {a b : List Str} (hp : a.Perm b) (h : PrefixFree b) : PrefixFree a := by
  unfold PrefixFree at *
  exact ((hp.map (splitOn '.')).pairwise_iff (fun {x y} hxy => ⟨hxy.2, hxy.1⟩)).mpr h

end RedunModel.Config
