/-
Lifecycle invariant of `SchedCore` (C09 liveness half): every pending job is queued for execution,
waiting for limits, in flight, has a completion event queued, is evaluating with a pending child, or is
collapsed onto a pending job with its cache key that is not collapsed itself.  Main results: `execJob_live`, `doneJob_live`,
`resolveJob_live`, `rejectJob_live`, `complete_live` (the steps of `Live`; `reachable_live` is in SchedTwin), and `idle_finished`:
under a rank on the cache keys (`Ranked`) an idle state has no pending job, by descent along pending children.  `cntPend` counts
the pending children of a job.  The effects `Settle` (a job settles; `Settle.cnt` says how `cntPend` moves) and `Collapsed`
(`Job.collapse`) are stated here; the token invariant (SchedTwin) reads both, the dry-run lemmas (SchedFrame, SchedDry) read `Settle`.
-/
import RedunModel.Lemmas.SchedLim
namespace RedunModel.SchedCore

def cntTo (f : Nat → Bool) : Nat → Nat
  | 0 => 0
  | n + 1 => cntTo f n + (if f n then 1 else 0)

theorem cntTo_eq (f : Nat → Bool) (n : Nat) : cntTo f n = (List.range n).countP f := by
  induction n with
  | zero => rfl
  | succ n ih => rw [cntTo, ih, List.range_succ, List.countP_append, List.countP_singleton]

theorem cntTo_congr {f g : Nat → Bool} {n : Nat} (h : ∀ i, i < n → f i = g i) : cntTo f n = cntTo g n := by
  rw [cntTo_eq, cntTo_eq]; exact List.countP_congr fun i hi => by rw [h i (List.mem_range.1 hi)]

theorem cntTo_pos_exists {f : Nat → Bool} {n : Nat} (h : 0 < cntTo f n) : ∃ i, i < n ∧ f i = true := by
  rw [cntTo_eq, List.countP_pos_iff] at h
  exact h.imp fun i hi => ⟨List.mem_range.1 hi.1, hi.2⟩

theorem cntTo_flip {f g : Nat → Bool} {n : Nat} (j : Nat) (hj : j < n) (h : ∀ i, i ≠ j → f i = g i)
    (hf : f j = true) (hg : g j = false) : cntTo g n + 1 = cntTo f n := by
  rw [cntTo_eq, cntTo_eq]
  exact (countP_flip List.nodup_range (List.mem_range.2 hj) (fun i _ hi => h i hi) hg hf).symm

theorem cntTo_eq_zero {f : Nat → Bool} {n : Nat} : cntTo f n = 0 ↔ ∀ i, i < n → f i = false := by
  rw [cntTo_eq, List.countP_eq_zero]
  exact ⟨fun h i hi => Bool.eq_false_iff.2 (h i (List.mem_range.2 hi)),
    fun h i hi => Bool.eq_false_iff.1 (h i (List.mem_range.1 hi))⟩

def kidPend (s : S) (i c : JobId) : Bool :=
  decide ((s.jobs c).parent = some i) && decide ((s.jobs c).status = Status.pending)
def cntPend (s : S) (i : JobId) : Nat := cntTo (kidPend s i) s.next

theorem cntPend_eq_zero {s : S} {i : JobId} :
    cntPend s i = 0 ↔ ∀ c, c < s.next → (s.jobs c).parent = some i → ¬ pend s c := by
  unfold cntPend kidPend pend
  rw [cntTo_eq_zero]
  simp only [Bool.and_eq_false_imp, decide_eq_true_eq, decide_eq_false_iff_not]

theorem cntPend_pos {s : S} {i : JobId} (h : 0 < cntPend s i) :
    ∃ c, c < s.next ∧ (s.jobs c).parent = some i ∧ pend s c := by
  obtain ⟨c, hlt, hk⟩ := cntTo_pos_exists h
  unfold kidPend at hk
  simp only [Bool.and_eq_true, decide_eq_true_eq] at hk
  exact ⟨c, hlt, hk.1, hk.2⟩

theorem cntPend_zero_of_noKids {s : S} {j : JobId} (h : noKids s j) : cntPend s j = 0 :=
  cntPend_eq_zero.mpr fun c hc hp => absurd hp (h c hc)

theorem status_cases (st : Status) : st = Status.pending ∨ st = Status.resolved ∨ st = Status.rejected := by
  cases st <;> simp

/-- evaluating: waits for at least one child -/
def EvalPh (s : S) (j : JobId) : Prop := (s.jobs j).evalFailed = false ∧ 0 < (s.jobs j).waiting
/-- collapsed onto a pending (or currently handled) job with the same key that is itself not collapsed -/
def ColPh (p : Prog) (s : S) (x : Option JobId) (j : JobId) : Prop :=
  ∃ X, j ∈ (s.jobs X).twins ∧ (pend s X ∨ some X = x) ∧ X < s.next ∧ ¬ Tw s X ∧
    (spec p s X).key = (spec p s j).key
def Phase (p : Prog) (s : S) (x : Option JobId) (j : JobId) : Prop :=
  1 ≤ EW s j ∨ s.inflight j = true ∨ Q s j ∨ EvalPh s j ∨ ColPh p s x j

def FailedOk (s : S) (j : JobId) : Prop :=
  (s.jobs j).evalFailed = true → ¬ pend s j ∨ Ev.reject j ∈ s.queue

/-- The lifecycle invariant.  `x` is the job whose event is being handled: exempt from `ph` and `failed` from
`live_tl` until the handler has put it back (`live_fill`, `live_close`).  `y` is the job that is being settled,
between `live_open` and `live_close`: no longer pending, yet still accepted as the collapse target of its twins
until each of them has its own event.
`cnt` is what makes an evaluating job wait for a child that is really pending (`eval_has_pending_kid`); `kid` ties
that child to the parent's specification, where `Ranked` speaks. -/
structure Live (p : Prog) (s : S) (x y : Option JobId) : Prop where
  ph : ∀ j, j < s.next → pend s j → some j ≠ x → Phase p s y j
  failed : ∀ j, some j ≠ x → FailedOk s j
  reg : ∀ k t, (k, t) ∈ s.pendingJobs → keyOf p s t = k ∧ t < s.next ∧ ¬ Tw s t ∧ EW s t = 0 ∧
    lookupPending s k = some t ∧ (some t ≠ y → pend s t)
  a1 : ∀ j, 1 ≤ EW s j → pend s j ∧ (s.jobs j).twins = []
  twq : ∀ X t, t ∈ (s.jobs X).twins → EW s t = 0 ∧ t < s.next
  cnt : ∀ j, (s.jobs j).evalFailed = false → (s.jobs j).waiting ≤ cntPend s j
  kid : ∀ c par, c < s.next → (s.jobs c).parent = some par →
    par < s.next ∧ s.specOf c ∈ (p.specAt (s.specOf par)).children
  root : (s.jobs 0).parent = none ∧ 0 < s.next ∧ (pend s 0 ∨ s.finished = true)

/-- nothing the lifecycle invariant reads changes, except that non-exec events may be added -/
structure Fr (s s' : S) : Prop where
  next : s'.next = s.next
  specOf : s'.specOf = s.specOf
  infl : s'.inflight = s.inflight
  pj : s'.pendingJobs = s.pendingJobs
  fin : s'.finished = s.finished
  st : ∀ i, (s'.jobs i).status = (s.jobs i).status
  wt : ∀ i, (s'.jobs i).waiting = (s.jobs i).waiting
  ef : ∀ i, (s'.jobs i).evalFailed = (s.jobs i).evalFailed
  par : ∀ i, (s'.jobs i).parent = (s.jobs i).parent
  tw : ∀ i, (s'.jobs i).twins = (s.jobs i).twins
  ew : ∀ j, EW s' j = EW s j
  qm : ∀ e, (∀ j, e ≠ Ev.exec j) → e ∈ s.queue → e ∈ s'.queue

theorem Fr.refl (s : S) : Fr s s :=
  ⟨rfl, rfl, rfl, rfl, rfl, fun _ => rfl, fun _ => rfl, fun _ => rfl, fun _ => rfl, fun _ => rfl, fun _ => rfl,
    fun _ _ h => h⟩

theorem Fr.trans {a b c : S} (h1 : Fr a b) (h2 : Fr b c) : Fr a c :=
  ⟨h2.next.trans h1.next, h2.specOf.trans h1.specOf, h2.infl.trans h1.infl, h2.pj.trans h1.pj,
    h2.fin.trans h1.fin, fun i => (h2.st i).trans (h1.st i), fun i => (h2.wt i).trans (h1.wt i),
    fun i => (h2.ef i).trans (h1.ef i), fun i => (h2.par i).trans (h1.par i),
    fun i => (h2.tw i).trans (h1.tw i), fun j => (h2.ew j).trans (h1.ew j),
    fun e he hm => h2.qm e he (h1.qm e he hm)⟩

theorem cntPend_congr {s s' : S} (hn : s'.next = s.next) (hp : ∀ c, (s'.jobs c).parent = (s.jobs c).parent)
    (hs : ∀ c, (s'.jobs c).status = (s.jobs c).status) (i : JobId) : cntPend s' i = cntPend s i := by
  unfold cntPend
  rw [hn]
  apply cntTo_congr
  intro c _
  unfold kidPend
  rw [hp, hs]

theorem Fr.pendIff {s s' : S} (h : Fr s s') (j : JobId) : pend s' j ↔ pend s j := by
  unfold pend; rw [h.st]

theorem Phase.mono {p : Prog} {s s' : S} {y y' : Option JobId} {j : JobId} (h : Phase p s y j)
    (hew : EW s j ≤ EW s' j) (hi : s.inflight j = true → s'.inflight j = true) (hq : Q s j → Q s' j)
    (he : EvalPh s j → Q s' j ∨ EvalPh s' j) (hc : ColPh p s y j → ColPh p s' y' j) : Phase p s' y' j := by
  rcases h with a | a | a | a | a
  · exact Or.inl (Nat.le_trans a hew)
  · exact Or.inr (Or.inl (hi a))
  · exact Or.inr (Or.inr (Or.inl (hq a)))
  · exact Or.inr (Or.inr ((he a).imp id Or.inl))
  · exact Or.inr (Or.inr (Or.inr (Or.inr (hc a))))

theorem ColPh.mono {p : Prog} {s s' : S} {y y' : Option JobId} {j : JobId} (h : ColPh p s y j)
    (hn : s.next ≤ s'.next) (hspj : spec p s' j = spec p s j) (hsp : ∀ X, X < s.next → spec p s' X = spec p s X)
    (hX : ∀ X, X < s.next → j ∈ (s.jobs X).twins → ¬ Tw s X → (pend s X ∨ some X = y) →
      j ∈ (s'.jobs X).twins ∧ (pend s' X ∨ some X = y') ∧ ¬ Tw s' X) : ColPh p s' y' j := by
  obtain ⟨X, a1, a2, a3, a4, a5⟩ := h
  obtain ⟨b1, b2, b4⟩ := hX X a3 a1 a4 a2
  exact ⟨X, b1, b2, Nat.lt_of_lt_of_le a3 hn, b4, by rw [hsp X a3, hspj]; exact a5⟩

theorem Fr.failedOk {s s' : S} (h : Fr s s') {j : JobId} (hf : FailedOk s j) : FailedOk s' j := by
  intro he
  rw [h.ef] at he
  rcases hf he with a | a
  · exact Or.inl (fun b => a ((h.pendIff j).mp b))
  · exact Or.inr (h.qm _ (by intro k; simp) a)

theorem Fr.lookup {s s' : S} (h : Fr s s') (k : Nat × Nat) : lookupPending s' k = lookupPending s k := by
  unfold lookupPending; rw [h.pj]

/-- `Live` reads only what `Fr` keeps.  Two things may change besides: the `waiting` count of the handled job `x`
may be reset, as long as it stays below the number of its pending children; and a job `t` may be added to the
twins of some `X`, if `t` is not queued, not registered and has no twins itself, and `X` is not queued. -/
theorem live_frame {p : Prog} {s s' : S} {x y : Option JobId} (hl : Live p s x y)
    (hn : s'.next = s.next) (hsp : s'.specOf = s.specOf) (hinfl : s'.inflight = s.inflight)
    (hpj : s'.pendingJobs = s.pendingJobs) (hfin : s'.finished = s.finished)
    (hst : ∀ i, (s'.jobs i).status = (s.jobs i).status) (hef : ∀ i, (s'.jobs i).evalFailed = (s.jobs i).evalFailed)
    (hpar : ∀ i, (s'.jobs i).parent = (s.jobs i).parent)
    (hew : ∀ j, EW s' j = EW s j) (hqm : ∀ e, (∀ j, e ≠ Ev.exec j) → e ∈ s.queue → e ∈ s'.queue)
    (hwt : ∀ i, some i ≠ x → (s'.jobs i).waiting = (s.jobs i).waiting)
    (hcnt : ∀ i, some i = x → (s.jobs i).evalFailed = false → (s'.jobs i).waiting ≤ cntPend s i)
    (htw : ∀ X t, t ∈ (s.jobs X).twins → t ∈ (s'.jobs X).twins)
    (hnew : ∀ X t, t ∈ (s'.jobs X).twins → t ∈ (s.jobs X).twins ∨
      (EW s t = 0 ∧ t < s.next ∧ EW s X = 0 ∧ (s.jobs t).twins = [] ∧ ∀ k, (k, t) ∉ s.pendingJobs)) :
    Live p s' x y := by
  have hpend : ∀ i, pend s' i ↔ pend s i := fun i => by unfold pend; rw [hst]
  have hspec : ∀ i, spec p s' i = spec p s i := same_spec hsp
  have hTw : ∀ t, Tw s' t → Tw s t ∨ ((s.jobs t).twins = [] ∧ ∀ k, (k, t) ∉ s.pendingJobs) := fun t ⟨X, hX⟩ =>
    (hnew X t hX).imp (fun a => ⟨X, a⟩) fun a => ⟨a.2.2.2.1, a.2.2.2.2⟩
  refine ⟨?_, ?_, ?_, ?_, ?_, ?_, ?_, ?_⟩
  · intro j hj hp hx
    rw [hn] at hj
    refine (hl.ph j hj ((hpend j).mp hp) hx).mono (Nat.le_of_eq (hew j).symm) (fun a => by rw [hinfl]; exact a)
      (Q.mono hqm) (fun a => Or.inr (by unfold EvalPh; rw [hef, hwt j hx]; exact a)) fun c => ?_
    refine c.mono (Nat.le_of_eq hn.symm) (hspec j) (fun X _ => hspec X) fun X _ a1 a4 a2 =>
      ⟨htw X j a1, a2.imp_left (hpend X).mpr, fun h => ?_⟩
    rcases hTw X h with b | b
    · exact a4 b
    · rw [b.1] at a1; exact absurd a1 (by simp)
  · intro j hx he
    rw [hef] at he
    exact (hl.failed j hx he).imp (fun a b => a ((hpend j).mp b)) (hqm _ (fun _ => nofun))
  · intro k t hm
    rw [hpj] at hm
    obtain ⟨a, b, c, d, e, f⟩ := hl.reg k t hm
    refine ⟨?_, by rw [hn]; exact b, fun h => (hTw t h).elim c fun n => n.2 k hm, by rw [hew]; exact d, ?_,
      fun hx => (hpend t).mpr (f hx)⟩
    · unfold keyOf; rw [hspec]; exact a
    · unfold lookupPending; rw [hpj]; exact e
  · intro j hj
    rw [hew] at hj
    obtain ⟨a, b⟩ := hl.a1 j hj
    refine ⟨(hpend j).mpr a, List.eq_nil_iff_forall_not_mem.mpr fun t ht => ?_⟩
    rcases hnew j t ht with c | c
    · rw [b] at c; exact absurd c (by simp)
    · omega
  · intro X t ht
    rw [hew, hn]
    exact (hnew X t ht).elim (hl.twq X t) fun a => ⟨a.1, a.2.1⟩
  · intro j hj
    rw [hef] at hj
    rw [cntPend_congr hn hpar hst]
    by_cases hx : some j = x
    · exact hcnt j hx hj
    · rw [hwt j hx]; exact hl.cnt j hj
  · intro c par hc hp
    rw [hn] at hc; rw [hpar] at hp
    rw [hn, hsp]; exact hl.kid c par hc hp
  · obtain ⟨a, b, c⟩ := hl.root
    exact ⟨by rw [hpar]; exact a, by rw [hn]; exact b, c.imp (hpend 0).mpr fun c => by rw [hfin]; exact c⟩

theorem Fr.live {p : Prog} {s s' : S} {x y : Option JobId} (h : Fr s s') (hl : Live p s x y) : Live p s' x y :=
  live_frame hl h.next h.specOf h.infl h.pj h.fin h.st h.ef h.par h.ew h.qm (fun i _ => h.wt i)
    (fun i _ he => by rw [h.wt]; exact hl.cnt i he) (fun X t a => by rw [h.tw]; exact a)
    fun X t a => Or.inl (by rw [← h.tw]; exact a)

theorem fr_of_eq {s s' : S} (h1 : s'.next = s.next) (h2 : s'.specOf = s.specOf) (h3 : s'.inflight = s.inflight)
    (h4 : s'.pendingJobs = s.pendingJobs) (h5 : s'.finished = s.finished) (h6 : s'.jobs = s.jobs)
    (h7 : s'.queue = s.queue) (h8 : s'.pendingLimits = s.pendingLimits) : Fr s s' :=
  ⟨h1, h2, h3, h4, h5, fun _ => by rw [h6], fun _ => by rw [h6], fun _ => by rw [h6], fun _ => by rw [h6],
    fun _ => by rw [h6], fun _ => by unfold EW; rw [h7, h8], fun _ _ h => by rw [h7]; exact h⟩

theorem fr_setJob (s : S) (j : JobId) (f : JobSt → JobSt)
    (h : ∀ js, (f js).status = js.status ∧ (f js).waiting = js.waiting ∧ (f js).evalFailed = js.evalFailed ∧
      (f js).parent = js.parent ∧ (f js).twins = js.twins) : Fr s (setJob s j f) :=
  ⟨rfl, rfl, rfl, rfl, rfl, setJob_keep (·.status) s j f fun js => (h js).1,
    setJob_keep (·.waiting) s j f fun js => (h js).2.1, setJob_keep (·.evalFailed) s j f fun js => (h js).2.2.1,
    setJob_keep (·.parent) s j f fun js => (h js).2.2.2.1, setJob_keep (·.twins) s j f fun js => (h js).2.2.2.2,
    fun _ => rfl, fun _ _ h => h⟩

theorem fr_enqueue (s : S) (e : Ev) (he : ∀ j, e ≠ Ev.exec j) : Fr s (enqueue s e) :=
  ⟨rfl, rfl, rfl, rfl, rfl, fun _ => rfl, fun _ => rfl, fun _ => rfl, fun _ => rfl, fun _ => rfl, EW_enqueue s e he,
    fun _ _ hm => List.mem_append_left _ hm⟩

theorem fr_checkPending (p : Prog) (s : S) : Fr s (checkPending p s) :=
  ⟨rfl, rfl, rfl, rfl, rfl, fun _ => rfl, fun _ => rfl, fun _ => rfl, fun _ => rfl, fun _ => rfl,
    fun j => checkPending_EW p s j, fun _ _ hm => by rw [checkPending_queue]; exact List.mem_append_left _ hm⟩

theorem fr_consume (p : Prog) (s : S) (j : JobId) : Fr s (consume p s j) := fr_of_eq rfl rfl rfl rfl rfl rfl rfl rfl
theorem fr_release (p : Prog) (s : S) (j : JobId) : Fr s (release p s j) := fr_of_eq rfl rfl rfl rfl rfl rfl rfl rfl

theorem fr_releaseIf (p : Prog) (s : S) (j : JobId) : Fr s (releaseIf p s j) :=
  releaseIf_cases p s j (fun _ => (fr_release p s j).trans (fr_checkPending p _)) fun _ => Fr.refl s

theorem fr_record (p : Prog) (s : S) (j : JobId) (b : Bool) : Fr s (record p s j b) :=
  record_cases p s j b (fun _ => fr_of_eq rfl rfl rfl rfl rfl rfl rfl rfl) fun _ => Fr.refl s

theorem fr_setCache (p : Prog) (s : S) (j : JobId) : Fr s (setCache p s j) :=
  setCache_cases p s j (fun _ _ => fr_of_eq rfl rfl rfl rfl rfl rfl rfl rfl) (Fr.refl s)

theorem fr_cached (s : S) (j : JobId) : Fr s (setJob s j fun js => { js with wasCached := true }) :=
  fr_setJob s j _ (fun _ => ⟨rfl, rfl, rfl, rfl, rfl⟩)

def evJob : Ev → JobId
  | .exec j => j
  | .done j _ => j
  | .reject j => j
  | .resolve j => j

theorem evJob_tellEv (b : Bool) (par : JobId) : evJob (tellEv b par) = par := by cases b <;> rfl

theorem tl_mem_of_ne (s : S) (e : Ev) (rest : List Ev) (hq : s.queue = e :: rest) (e' : Ev) (hne : e' ≠ e)
    (hm : e' ∈ s.queue) : e' ∈ (tl s).queue := by
  show e' ∈ s.queue.tail
  rw [hq] at hm ⊢
  rcases List.mem_cons.mp hm with a | a
  · exact absurd a hne
  · exact a

theorem tl_Q_keep (s : S) (e : Ev) (rest : List Ev) (hq : s.queue = e :: rest) (j : JobId) (hj : evJob e ≠ j)
    (h : Q s j) : Q (tl s) j := by
  rcases h with (⟨f, a⟩ | a) | a
  · exact Or.inl (Or.inl ⟨f, tl_mem_of_ne s e rest hq _ (by intro h; subst h; exact hj rfl) a⟩)
  · exact Or.inl (Or.inr (tl_mem_of_ne s e rest hq _ (by intro h; subst h; exact hj rfl) a))
  · exact Or.inr (tl_mem_of_ne s e rest hq _ (by intro h; subst h; exact hj rfl) a)

theorem live_tl (p : Prog) (s : S) (e : Ev) (rest : List Ev) (hq : s.queue = e :: rest) (hl : Live p s none none) :
    Live p (tl s) (some (evJob e)) none := by
  refine ⟨?_, ?_, ?_, ?_, ?_, hl.cnt, hl.kid, hl.root⟩
  · intro j hj hp hx
    have hne : evJob e ≠ j := fun h => hx (by rw [h])
    refine (hl.ph j hj hp (by simp)).mono ?_ id (tl_Q_keep s e rest hq j hne) Or.inr id
    have := tl_EW_eq s e rest hq j
    rw [if_neg (fun h : e = Ev.exec j => hne (h ▸ rfl))] at this
    omega
  · intro j hx he
    have hne : evJob e ≠ j := fun h => hx (by rw [h])
    exact (hl.failed j (by simp) he).imp_right (tl_mem_of_ne s e rest hq _ (by intro h; subst h; exact hne rfl))
  · intro k t hm
    obtain ⟨a, b, c, d, e', f⟩ := hl.reg k t hm
    exact ⟨a, b, c, Nat.le_zero.mp (d ▸ tl_EW_le s t), e', fun _ => f (by simp)⟩
  · intro j hj
    exact hl.a1 j (Nat.le_trans hj (tl_EW_le s j))
  · intro X t ht
    obtain ⟨a, b⟩ := hl.twq X t ht
    exact ⟨Nat.le_zero.mp (a ▸ tl_EW_le s t), b⟩

theorem failedOk_tl (p : Prog) (s : S) (e : Ev) (rest : List Ev) (hq : s.queue = e :: rest) (hl : Live p s none none)
    (j : JobId) (hne : e ≠ Ev.reject j) : FailedOk (tl s) j :=
  fun he => (hl.failed j (by simp) he).imp_right (tl_mem_of_ne s e rest hq _ fun h => hne h.symm)

theorem live_weaken {p : Prog} {s : S} {y : Option JobId} (j : JobId) (hl : Live p s none y) : Live p s (some j) y :=
  { hl with ph := fun i hi hp _ => hl.ph i hi hp (by simp), failed := fun i _ => hl.failed i (by simp) }

theorem live_fill {p : Prog} {s : S} {j : JobId} (hl : Live p s (some j) none)
    (hph : pend s j → j < s.next → Phase p s none j) (hf : FailedOk s j) : Live p s none none := by
  refine ⟨?_, ?_, hl.reg, hl.a1, hl.twq, hl.cnt, hl.kid, hl.root⟩
  · intro i hi hp _
    by_cases hij : i = j
    · subst hij; exact hph hp hi
    · exact hl.ph i hi hp (fun h => hij (Option.some.inj h))
  · intro i _
    by_cases hij : i = j
    · subst hij; exact hf
    · exact hl.failed i (fun h => hij (Option.some.inj h))

theorem live_pendAppend {p : Prog} {s : S} {j : JobId} (hl : Live p s (some j) none) (hp : pend s j)
    (htw : (s.jobs j).twins = []) (hnt : ¬ Tw s j) (hnr : ∀ k, (k, j) ∉ s.pendingJobs) (hf : FailedOk s j) :
    Live p { s with pendingLimits := s.pendingLimits ++ [j] } none none := by
  have hEW := EW_pendAppend s j
  have hle : ∀ i, EW s i ≤ EW { s with pendingLimits := s.pendingLimits ++ [j] } i := by
    intro i; rw [hEW]; omega
  have hne : ∀ i, i ≠ j → EW { s with pendingLimits := s.pendingLimits ++ [j] } i = EW s i := by
    intro i hi; rw [hEW]; simp [hi]
  have h1 : Live p { s with pendingLimits := s.pendingLimits ++ [j] } (some j) none := by
    refine ⟨?_, hl.failed, ?_, ?_, ?_, hl.cnt, hl.kid, hl.root⟩
    · intro i hi hpi hx
      exact (hl.ph i hi hpi hx).mono (hle i) id id Or.inr id
    · intro k t hm
      obtain ⟨a, b, c, d, e, f⟩ := hl.reg k t hm
      have : t ≠ j := by intro h; subst h; exact hnr k hm
      exact ⟨a, b, c, by rw [hne t this]; exact d, e, f⟩
    · intro i hi
      by_cases hij : i = j
      · subst hij; exact ⟨hp, htw⟩
      · rw [hne i hij] at hi; exact hl.a1 i hi
    · intro X t ht
      obtain ⟨a, b⟩ := hl.twq X t ht
      have : t ≠ j := by intro h; subst h; exact hnt ⟨X, ht⟩
      exact ⟨by rw [hne t this]; exact a, b⟩
  refine live_fill h1 (fun _ _ => Or.inl ?_) hf
  rw [hEW]; simp

/-- effect of `Job.collapse`: `j` is appended to the twins of `t`, nothing else changes -/
structure Collapsed (s s' : S) (t j : JobId) : Prop where
  next : s'.next = s.next
  specOf : s'.specOf = s.specOf
  infl : s'.inflight = s.inflight
  pj : s'.pendingJobs = s.pendingJobs
  fin : s'.finished = s.finished
  queue : s'.queue = s.queue
  pl : s'.pendingLimits = s.pendingLimits
  st : ∀ i, (s'.jobs i).status = (s.jobs i).status
  wt : ∀ i, (s'.jobs i).waiting = (s.jobs i).waiting
  ef : ∀ i, (s'.jobs i).evalFailed = (s.jobs i).evalFailed
  par : ∀ i, (s'.jobs i).parent = (s.jobs i).parent
  tw : ∀ i, (s'.jobs i).twins = if i = t then (s.jobs i).twins ++ [j] else (s.jobs i).twins

theorem collapsed (s : S) (t j : JobId) : Collapsed s (setJob s t fun js => { js with twins := js.twins ++ [j] }) t j :=
  ⟨rfl, rfl, rfl, rfl, rfl, rfl, rfl, setJob_keep (·.status) s t _ fun _ => rfl, setJob_keep (·.waiting) s t _ fun _ => rfl,
    setJob_keep (·.evalFailed) s t _ fun _ => rfl, setJob_keep (·.parent) s t _ fun _ => rfl,
    setJob_at (·.twins) s t _⟩

section
variable {s s' : S} {t j : JobId}

theorem Collapsed.old (h : Collapsed s s' t j) {X u : JobId} (hu : u ∈ (s.jobs X).twins) : u ∈ (s'.jobs X).twins := by
  rw [h.tw]; split
  · exact List.mem_append_left _ hu
  · exact hu

theorem Collapsed.mem (h : Collapsed s s' t j) {X u : JobId} (hu : u ∈ (s'.jobs X).twins) :
    u ∈ (s.jobs X).twins ∨ (u = j ∧ X = t) := by
  rw [h.tw] at hu; split at hu
  · rename_i e
    exact (List.mem_append.mp hu).imp id fun a => ⟨List.mem_singleton.mp a, e⟩
  · exact Or.inl hu

theorem Collapsed.ew (h : Collapsed s s' t j) (i : JobId) : EW s' i = EW s i := by unfold EW; rw [h.queue, h.pl]

end

theorem live_addTwin {p : Prog} {s s' : S} {j t : JobId} (h : Collapsed s s' t j) (hl : Live p s (some j) none)
    (hreg : (keyOf p s j, t) ∈ s.pendingJobs) (htw : (s.jobs j).twins = [])
    (hew : EW s j = 0) (hlt : j < s.next) (hnr : ∀ k, (k, j) ∉ s.pendingJobs) (hf : FailedOk s j) :
    Live p s' none none := by
  obtain ⟨r1, r2, r3, r4, _, r6⟩ := hl.reg _ t hreg
  have h1 := live_frame hl h.next h.specOf h.infl h.pj h.fin h.st h.ef h.par h.ew (fun _ _ a => by rw [h.queue]; exact a)
    (fun i _ => h.wt i) (fun i _ he => by rw [h.wt]; exact hl.cnt i he) (fun _ _ => h.old)
    (fun X u a => (h.mem a).imp id fun ⟨e1, e2⟩ => by rw [e1, e2]; exact ⟨hew, hlt, r4, htw, hnr⟩)
  have hpend : ∀ i, pend s' i ↔ pend s i := fun i => by unfold pend; rw [h.st]
  refine live_fill h1 (fun _ _ => ?_) fun he => ?_
  · refine Or.inr (Or.inr (Or.inr (Or.inr ⟨t, ?_, Or.inl ((hpend t).mpr (r6 (by simp))), by rw [h.next]; exact r2, ?_, ?_⟩)))
    · rw [h.tw]; simp
    · rintro ⟨X, hX⟩
      rcases h.mem hX with c | c
      · exact r3 ⟨X, c⟩
      · exact hnr _ (c.1 ▸ hreg)
    · rw [same_spec h.specOf, same_spec h.specOf]; exact (Prod.mk.inj r1).1
  · rw [h.ef] at he
    exact (hf he).imp (fun a b => a ((hpend j).mp b)) (by rw [h.queue]; exact id)

/-- `_pending_jobs.setdefault(key, job)` for a job that is about to be submitted -/
theorem live_regAppend {p : Prog} {s : S} {j : JobId} (hl : Live p s (some j) none)
    (hnone : lookupPending s (keyOf p s j) = none) (hnt : ¬ Tw s j) (hew : EW s j = 0)
    (hlt : j < s.next) (hp : pend s j) :
    Live p { s with pendingJobs := s.pendingJobs ++ [(keyOf p s j, j)] } (some j) none := by
  refine ⟨hl.ph, hl.failed, ?_, hl.a1, hl.twq, hl.cnt, hl.kid, hl.root⟩
  intro k' t hm
  rcases List.mem_append.mp hm with a | a
  · obtain ⟨a1, a2, a3, a4, a5, a6⟩ := hl.reg k' t a
    exact ⟨a1, a2, a3, a4, lookupPending_append_old s _ k' j t a5, a6⟩
  · simp at a
    obtain ⟨e1, e2⟩ := a
    subst e1; subst e2
    exact ⟨rfl, hlt, hnt, hew, lookupPending_append_new s _ t hnone, fun _ => hp⟩

theorem live_setInfl {p : Prog} {s : S} {j : JobId} (b : Bool) (sub : List JobId) (hl : Live p s (some j) none) :
    Live p { s with inflight := fun i => if i = j then b else s.inflight i, submits := sub } (some j) none := by
  refine ⟨?_, hl.failed, hl.reg, hl.a1, hl.twq, hl.cnt, hl.kid, hl.root⟩
  intro i hi hp hx
  have hij : i ≠ j := fun h => hx (by rw [h])
  refine (hl.ph i hi hp hx).mono (Nat.le_refl _) (fun a => ?_) id Or.inr id
  show (if i = j then b else s.inflight i) = true
  rw [if_neg hij]; exact a

theorem live_QExit {p : Prog} {s s' : S} {j : JobId} (hl : Live p s (some j) none) (hfr : Fr s s') (hq : Q s' j)
    (hf : FailedOk s j) : Live p s' none none :=
  live_fill (hfr.live hl) (fun _ _ => Or.inr (Or.inr (Or.inl hq))) (hfr.failedOk hf)

theorem Q_of_mem_done {s : S} {j : JobId} {f : Bool} (h : Ev.done j f ∈ s.queue) : Q s j := Or.inl (Or.inl ⟨f, h⟩)
theorem Q_of_mem_reject {s : S} {j : JobId} (h : Ev.reject j ∈ s.queue) : Q s j := Or.inl (Or.inr h)
theorem Q_of_mem_resolve {s : S} {j : JobId} (h : Ev.resolve j ∈ s.queue) : Q s j := Or.inr h

theorem live_cachedExit {p : Prog} {s : S} {j : JobId} (ev : Ev) (hev : (∃ f, ev = Ev.done j f) ∨ ev = Ev.reject j)
    (hl : Live p s (some j) none) (hf : FailedOk s j) :
    Live p (enqueue (checkPending p (setJob s j fun js => { js with wasCached := true })) ev) none none := by
  have hne : ∀ k, ev ≠ Ev.exec k := by
    intro k; rcases hev with ⟨f, rfl⟩ | rfl <;> simp
  refine live_QExit hl (((fr_cached s j).trans (fr_checkPending p _)).trans (fr_enqueue _ ev hne)) ?_ hf
  rcases hev with ⟨f, rfl⟩ | rfl
  · exact Q_of_mem_done (mem_enqueue _ _)
  · exact Q_of_mem_reject (mem_enqueue _ _)

theorem execJob_live (p : Prog) (hd : p.dryrun = false) (s : S) (j : JobId) (hl : Live p s (some j) none)
    (x : ExecHd s j) (hf : FailedOk s j) : Live p (execJob p s j) none none := by
  have hd' : p.dryrun ≠ true := by simp [hd]
  -- `j` is not registered: a registered job is the one its key looks up
  have hnr : ∀ k, (k, j) ∉ s.pendingJobs := fun k hm => (x.reg k j (hl.reg k j hm).2.2.2.2.1).2.2.1 rfl
  refine execJob_cases p s j ?_ ?_ ?_ ?_ ?_ ?_
  · intro t _ hlk
    have hmem := mem_of_lookupPending hlk
    exact (fr_checkPending p _).live (live_addTwin (collapsed s t j) hl hmem x.tw0 x.ew x.lt hnr hf)
  · intro h _ _ _
    exact live_cachedExit _ (hitEv_completion j h) hl hf
  · intro _ _ _ _
    exact live_pendAppend hl x.pd x.tw0 x.nt hnr hf
  · intro _ _ h; exact absurd h hd'
  · intro _ _ _ _ _
    exact live_QExit hl ((fr_consume p s j).trans (fr_enqueue _ _ (fun _ => nofun)))
      (Q_of_mem_reject (mem_enqueue _ _)) hf
  · intro _ _ _ _ _
    have l1 : Live p (consume p s j) (some j) none := (fr_consume p s j).live hl
    unfold register
    split
    · exact live_fill (live_setInfl true _ l1) (fun _ _ => Or.inr (Or.inl (by simp [submit]))) hf
    · rename_i hc
      have hnone : lookupPending (consume p s j) (keyOf p s j) = none := by
        simp at hc; exact hc.2
      exact live_fill (live_setInfl true _ (live_regAppend l1 hnone x.nt x.ew x.lt x.pd))
        (fun _ _ => Or.inr (Or.inl (by simp [submit]))) hf

theorem spawnOne_cnt (s : S) (j : JobId) (c : SpecId) (i : JobId) :
    cntPend (spawnOne s j c) i = cntPend s i + (if i = j then 1 else 0) := by
  unfold cntPend
  show cntTo (kidPend (spawnOne s j c) i) (s.next + 1) = _
  simp only [cntTo]
  have h1 : cntTo (kidPend (spawnOne s j c) i) s.next = cntTo (kidPend s i) s.next := by
    apply cntTo_congr
    intro x hx
    unfold kidPend
    rw [spawnOne_jobs_ne s j c x (Nat.ne_of_lt hx)]
  rw [h1]
  congr 1
  unfold kidPend
  rw [spawnOne_jobs_new]
  by_cases h : i = j
  · subst h; simp
  · have : ¬ j = i := fun e => h e.symm
    simp [h, this]

theorem spawnFold_frame (j : JobId) (cs : List SpecId) (s : S) :
    (∀ i, i < s.next → (cs.foldl (fun s c => spawnOne s j c) s).jobs i = s.jobs i) ∧
    (∀ i, cntPend (cs.foldl (fun s c => spawnOne s j c) s) i = cntPend s i + if i = j then cs.length else 0) ∧
    (∀ e, e ∈ (cs.foldl (fun s c => spawnOne s j c) s).queue → e ∈ s.queue ∨ ∃ i, e = Ev.exec i) ∧
    (∀ e, e ∈ s.queue → e ∈ (cs.foldl (fun s c => spawnOne s j c) s).queue) := by
  induction cs generalizing s with
  | nil => exact ⟨fun _ _ => rfl, fun _ => by simp, fun _ h => Or.inl h, fun _ h => h⟩
  | cons c cs ih =>
    obtain ⟨b, d, e, g⟩ := ih (spawnOne s j c)
    refine ⟨fun i hi => ?_, fun i => ?_, fun e' h => ?_,
      fun e' h => g e' (List.mem_append_left _ h)⟩
    · rw [List.foldl_cons, b i (Nat.lt_succ_of_lt hi), spawnOne_jobs_ne s j c i (Nat.ne_of_lt hi)]
    · rw [List.foldl_cons, d, spawnOne_cnt, List.length_cons]; split <;> omega
    · exact (e e' h).elim (fun h1 => (spawnOne_mem.mp h1).imp_right fun h2 => ⟨s.next, h2⟩) Or.inr

theorem live_spawnOne {p : Prog} {s : S} {j : JobId} {c : SpecId} (hl : Live p s (some j) none) (hlt : j < s.next)
    (hc : c ∈ (spec p s j).children) : Live p (spawnOne s j c) (some j) none := by
  have hjn : j ≠ s.next := Nat.ne_of_lt hlt
  have hnext : (spawnOne s j c).next = s.next + 1 := rfl
  have hpend : ∀ i, i ≠ s.next → (pend (spawnOne s j c) i ↔ pend s i) := by
    intro i hi; unfold pend; rw [spawnOne_jobs_ne s j c i hi]
  have hEW := spawnOne_EW s j c
  have hEWne : ∀ i, i ≠ s.next → EW (spawnOne s j c) i = EW s i := by
    intro i hi; rw [hEW]; simp [hi]
  refine ⟨?_, ?_, ?_, ?_, ?_, ?_, ?_, ?_⟩
  · intro i hi hp hx
    by_cases hin : i = s.next
    · subst hin; left; rw [hEW]; simp
    · have hi' : i < s.next := by have : i < s.next + 1 := hi; omega
      refine (hl.ph i hi' ((hpend i hin).mp hp) hx).mono (Nat.le_of_eq (hEWne i hin).symm) id
        (spawnOne_Q s j c i).mpr (fun a => Or.inr (by unfold EvalPh; rw [spawnOne_jobs_ne s j c i hin]; exact a))
        fun cp => ?_
      refine cp.mono (Nat.le_succ _) (spawnOne_spec_ne p s j c i hin)
        (fun X hX => spawnOne_spec_ne p s j c X (Nat.ne_of_lt hX)) fun X hX a1 a4 a2 => ?_
      have hXn : X ≠ s.next := Nat.ne_of_lt hX
      exact ⟨by rw [spawnOne_jobs_ne s j c X hXn]; exact a1, a2.imp_left (hpend X hXn).mpr,
        fun h => a4 (spawnOne_Tw s j c X h)⟩
  · intro i hx he
    by_cases hin : i = s.next
    · subst hin; rw [spawnOne_jobs_new] at he; simp at he
    · rw [spawnOne_jobs_ne s j c i hin] at he
      rcases hl.failed i hx he with a | a
      · exact Or.inl (fun b => a ((hpend i hin).mp b))
      · exact Or.inr (List.mem_append_left _ a)
  · intro k t hm
    obtain ⟨a1, a2, a3, a4, a5, a6⟩ := hl.reg k t hm
    have htn : t ≠ s.next := Nat.ne_of_lt a2
    refine ⟨by unfold keyOf; rw [spawnOne_spec_ne p s j c t htn]; exact a1, Nat.lt_succ_of_lt a2,
      fun h => a3 (spawnOne_Tw s j c t h), by rw [hEWne t htn]; exact a4, a5, fun hx => (hpend t htn).mpr (a6 hx)⟩
  · intro i hi
    by_cases hin : i = s.next
    · subst hin; unfold pend; rw [spawnOne_jobs_new]; exact ⟨rfl, rfl⟩
    · rw [hEWne i hin] at hi
      rw [hpend i hin, spawnOne_jobs_ne s j c i hin]; exact hl.a1 i hi
  · intro X t ht
    obtain ⟨a, b⟩ := hl.twq X t (spawnOne_twin ht).2
    exact ⟨by rw [hEWne t (Nat.ne_of_lt b)]; exact a, Nat.lt_succ_of_lt b⟩
  · intro i hi
    rw [spawnOne_cnt]
    by_cases hin : i = s.next
    · subst hin; rw [spawnOne_jobs_new]; simp
    · rw [spawnOne_jobs_ne s j c i hin] at hi ⊢
      have := hl.cnt i hi; omega
  · intro c' par hc' hp
    rcases spawnOne_kid hc' hp with ⟨rfl, rfl⟩ | ⟨hc'', hp⟩
    · refine ⟨Nat.lt_succ_of_lt hlt, ?_⟩
      simp only [spawnOne, if_true, hjn, if_false]
      exact hc
    · obtain ⟨a, b⟩ := hl.kid c' par hc'' hp
      refine ⟨Nat.lt_succ_of_lt a, ?_⟩
      simp only [spawnOne, Nat.ne_of_lt hc'', Nat.ne_of_lt a, if_false]
      exact b
  · obtain ⟨a, b, d⟩ := hl.root
    have h0 : (0 : Nat) ≠ s.next := Nat.ne_of_lt b
    refine ⟨by rw [spawnOne_jobs_ne s j c 0 h0]; exact a, Nat.lt_succ_of_lt b, ?_⟩
    rcases d with d | d
    · exact Or.inl ((hpend 0 h0).mpr d)
    · exact Or.inr d

theorem spawnFold_live {p : Prog} {j : JobId} (cs : List SpecId) (s : S) (hl : Live p s (some j) none)
    (hlt : j < s.next) (hc : ∀ c, c ∈ cs → c ∈ (spec p s j).children) :
    Live p (cs.foldl (fun s c => spawnOne s j c) s) (some j) none :=
  (spawnFold_ind (I := fun s' => Live p s' (some j) none ∧ spec p s' j = spec p s j) j cs s hlt ⟨hl, rfl⟩
    fun s' c hcm hlt' ⟨a, e⟩ => ⟨live_spawnOne a hlt' (by rw [e]; exact hc c hcm),
      (spawnOne_spec_ne p s' j c j (Nat.ne_of_lt hlt')).trans e⟩).1

/-- `Promise.all` over the children: the parent records how many it waits for -/
theorem live_setWaiting {p : Prog} {s : S} {j : JobId} (n : Nat) (hl : Live p s (some j) none)
    (hn : (s.jobs j).evalFailed = false → n ≤ cntPend s j) :
    Live p (setJob s j fun js => { js with waiting := n }) (some j) none := by
  have htw := setJob_keep (·.twins) s j (fun js => { js with waiting := n }) fun _ => rfl
  refine live_frame hl rfl rfl rfl rfl rfl (setJob_keep (·.status) s j _ fun _ => rfl)
    (setJob_keep (·.evalFailed) s j _ fun _ => rfl) (setJob_keep (·.parent) s j _ fun _ => rfl)
    (fun _ => rfl) (fun _ _ h => h) ?_ ?_ (fun X t a => by rw [htw]; exact a) (fun X t a => Or.inl (by rw [← htw]; exact a))
  · intro i hi
    have : i ≠ j := fun e => hi (by rw [e])
    simp [setJob, this]
  · intro i hi he
    have : i = j := Option.some.inj hi
    subst this
    simpa [setJob] using hn he

theorem failedOk_setWaiting {s : S} {j : JobId} (n : Nat) (hf : FailedOk s j) :
    FailedOk (setJob s j fun js => { js with waiting := n }) j := by
  intro he
  have he' : (s.jobs j).evalFailed = true := by simpa [setJob] using he
  refine (hf he').imp (fun x y => x ?_) id
  unfold pend at y ⊢
  simpa [setJob] using y

theorem doneJob_live (p : Prog) (s : S) (j : JobId) (f : Bool) (hl : Live p s (some j) none) (hlt : j < s.next)
    (hf : FailedOk s j) : Live p (doneJob p s j f) none none := by
  rw [doneJob_eq]
  have f2 := (fr_releaseIf p s j).trans (fr_setCache p _ j)
  have hsp : spec p (releaseIf p s j) j = spec p (setCache p (releaseIf p s j) j) j := (same_spec (fr_setCache p _ j).specOf j).symm
  refine doneRest_cases p _ j f (fun _ => ?_) (fun _ => ?_)
  · exact live_QExit hl (f2.trans (fr_enqueue _ _ (fun _ => nofun))) (Q_of_mem_resolve (mem_enqueue _ _)) hf
  generalize setCache p (releaseIf p s j) j = s2 at f2 hsp
  rw [hsp]
  have l2 : Live p s2 (some j) none := f2.live hl
  have hf2 : FailedOk s2 j := f2.failedOk hf
  refine spawn_cases s2 j _ (fun _ => ?_) (fun hne => ?_)
  · exact live_QExit (live_setWaiting 0 l2 fun _ => Nat.zero_le _) (fr_enqueue _ _ (fun _ => nofun))
      (Q_of_mem_resolve (mem_enqueue _ _)) (failedOk_setWaiting 0 hf2)
  · have hlt2 : j < s2.next := by rw [f2.next]; exact hlt
    have a := spawnFold_live (spec p s2 j).children s2 l2 hlt2 (fun _ h => h)
    obtain ⟨b, d, _, c⟩ := spawnFold_frame j (spec p s2 j).children s2
    replace b := b j hlt2
    replace d := d j
    rw [if_pos rfl] at d
    generalize (List.foldl (fun s c => spawnOne s j c) s2 (spec p s2 j).children) = s3 at a b c d
    have hf3 : FailedOk s3 j := fun he => by
      rw [b] at he
      refine (hf2 he).imp (fun x y => x ?_) (c _)
      unfold pend at y ⊢
      rw [← b]; exact y
    have hf4 := failedOk_setWaiting (spec p s2 j).children.length hf3
    refine live_fill (live_setWaiting _ a (fun _ => by omega)) (fun hp _ => ?_) hf4
    -- `Live` does not say that `j` had no children before, so its evaluation may have failed already: then `FailedOk`
    -- has its `reject` queued
    cases he : (s3.jobs j).evalFailed
    · refine Or.inr (Or.inr (Or.inr (Or.inl ⟨by simpa [setJob] using he, ?_⟩)))
      simp only [setJob, if_true]
      exact List.length_pos_iff.mpr hne
    · rcases hf4 (by simpa [setJob] using he) with x | x
      · exact absurd hp x
      · exact Or.inr (Or.inr (Or.inl (Q_of_mem_reject x)))

/-- effect of `settle p b`, the entry it records aside (`settleEff`): job `u` settles on branch `b` (`true`: rejected) and its
parent, if any, counts it off or fails (`jobs`; read field by field below) -/
structure Settle (s s' : S) (u : JobId) (b : Bool) : Prop where
  next : s'.next = s.next
  specOf : s'.specOf = s.specOf
  infl : s'.inflight = s.inflight
  pj : s'.pendingJobs = s.pendingJobs
  pl : s'.pendingLimits = s.pendingLimits
  jobs : ∀ i, s'.jobs i = (if (s.jobs u).parent = some i then tellUpd b else id)
    ((setJob s u fun js => { js with status := outcome b }).jobs i)
  queue : s'.queue = s.queue ∨ ∃ par, Told s u b par ∧ s'.queue = s.queue ++ [tellEv b par]
  told : ∀ par, Told s u b par → tellEv b par ∈ s'.queue
  fin : ((s.jobs u).parent = none → s'.finished = true) ∧ (s.finished = true → s'.finished = true)

section
variable {s s' : S} {u : JobId} {b : Bool}

theorem Settle.kept {α : Type} (h : Settle s s' u b) (g : JobSt → α) (hg : ∀ js, g (tellUpd b js) = g js) (i : JobId) :
    g (s'.jobs i) = g ((setJob s u fun js => { js with status := outcome b }).jobs i) := by
  rw [h.jobs]; split
  · exact hg _
  · rfl

theorem Settle.st (h : Settle s s' u b) (i : JobId) : (s'.jobs i).status = if i = u then outcome b else (s.jobs i).status :=
  (h.kept (·.status) (fun js => (tellUpd_keep b js).1) i).trans (setJob_at (·.status) s u _ i)

theorem Settle.par (h : Settle s s' u b) (i : JobId) : (s'.jobs i).parent = (s.jobs i).parent := by
  rw [h.kept (·.parent) fun js => (tellUpd_keep b js).2.1]; exact setJob_keep (·.parent) s u (fun js => { js with status := outcome b }) (fun _ => rfl) i

theorem Settle.tw (h : Settle s s' u b) (i : JobId) : (s'.jobs i).twins = (s.jobs i).twins := by
  rw [h.kept (·.twins) fun js => (tellUpd_keep b js).2.2.1]; exact setJob_keep (·.twins) s u (fun js => { js with status := outcome b }) (fun _ => rfl) i

theorem Settle.wt (h : Settle s s' u b) (i : JobId) : (s'.jobs i).waiting =
    if b = false ∧ (s.jobs u).parent = some i then (s.jobs i).waiting - 1 else (s.jobs i).waiting := by
  have hX := setJob_keep (·.waiting) s u (fun js => { js with status := outcome b }) (fun _ => rfl) i
  rw [h.jobs]
  by_cases e : (s.jobs u).parent = some i
  · rw [if_pos e, tellUpd_waiting, hX]; simp only [e, and_true]
  · rw [if_neg e]; exact hX.trans (if_neg fun c => e c.2).symm

theorem Settle.ef (h : Settle s s' u b) (i : JobId) : (s'.jobs i).evalFailed =
    if b = true ∧ (s.jobs u).parent = some i then true else (s.jobs i).evalFailed := by
  have hX := setJob_keep (·.evalFailed) s u (fun js => { js with status := outcome b }) (fun _ => rfl) i
  rw [h.jobs]
  by_cases e : (s.jobs u).parent = some i
  · rw [if_pos e, tellUpd_evalFailed, hX]; simp only [e, and_true]
  · rw [if_neg e]; exact hX.trans (if_neg fun c => e c.2).symm

end

theorem Settle.of_cse {s s' : S} {u : JobId} {b : Bool} (c : List CseEntry) (h : Settle { s with cse := c } s' u b) :
    Settle s s' u b :=
  ⟨h.next, h.specOf, h.infl, h.pj, h.pl, h.jobs, h.queue, h.told, h.fin⟩

theorem settleEff (p : Prog) (b : Bool) (s : S) (u : JobId) : Settle s (settle p b s u) u b := by
  have core : ∀ s : S, Settle s (notify b (setJob s u fun js => { js with status := outcome b }) u) u b := by
    intro s
    have hu : ∀ {α : Type} (g : JobSt → α), (∀ js : JobSt, g { js with status := outcome b } = g js) → ∀ i,
        g ((setJob s u fun js => { js with status := outcome b }).jobs i) = g (s.jobs i) :=
      fun g h => setJob_keep g s u _ h
    have told : ∀ par, Told (setJob s u fun js => { js with status := outcome b }) u b par ↔ Told s u b par := fun par => by
      unfold Told; rw [hu (·.parent) (fun _ => rfl), hu (·.evalFailed) (fun _ => rfl), hu (·.waiting) (fun _ => rfl)]
    have jobs : ∀ par, (s.jobs u).parent = some par → ∀ i,
        (if i = par then tellUpd b ((setJob s u fun js => { js with status := outcome b }).jobs i)
          else (setJob s u fun js => { js with status := outcome b }).jobs i) =
        (if (s.jobs u).parent = some i then tellUpd b else id)
          ((setJob s u fun js => { js with status := outcome b }).jobs i) := fun par hp i => by
      rw [hp]
      by_cases e : i = par
      · rw [e, if_pos rfl, if_pos rfl]
      · rw [if_neg e, if_neg fun c => e (Option.some.inj c).symm]; rfl
    refine notify_cases b _ u (fun hp => ?_) (fun par t => ?_) (fun par hp t => ?_)
    · rw [hu (·.parent) fun _ => rfl] at hp
      exact ⟨rfl, rfl, rfl, rfl, rfl, fun i => by rw [hp, if_neg nofun]; rfl, Or.inl rfl,
        fun par h => (nomatch hp.symm.trans h.1), fun _ => rfl, fun _ => rfl⟩
    · rw [told] at t
      exact ⟨rfl, rfl, rfl, rfl, rfl, jobs par t.1, Or.inr ⟨par, t, rfl⟩,
        fun par' h => by cases t.1.symm.trans h.1; exact List.mem_append_right _ (List.mem_singleton.mpr rfl),
        fun h => (nomatch h.symm.trans t.1), fun h => h⟩
    · rw [told] at t; rw [hu (·.parent) fun _ => rfl] at hp
      exact ⟨rfl, rfl, rfl, rfl, rfl, jobs par hp, Or.inl rfl, fun par' h => by cases hp.symm.trans h.1; exact absurd h t,
        fun h => (nomatch h.symm.trans hp), fun h => h⟩
  exact record_cases (motive := fun s0 => Settle s (notify b (setJob s0 u _) u) u b) p s u b
    (fun _ => (core _).of_cse _) fun _ => core s

section
variable {s s' : S} {u : JobId} {b : Bool}

theorem Settle.mem (h : Settle s s' u b) {e : Ev} (he : e ∈ s'.queue) :
    e ∈ s.queue ∨ ∃ par, Told s u b par ∧ e = tellEv b par := by
  rcases h.queue with q | ⟨par, t, q⟩ <;> rw [q] at he
  · exact Or.inl he
  · exact (List.mem_append.mp he).imp id fun a => ⟨par, t, List.mem_singleton.mp a⟩

theorem Settle.qm (h : Settle s s' u b) {e : Ev} (he : e ∈ s.queue) : e ∈ s'.queue := by
  rcases h.queue with q | ⟨par, _, q⟩ <;> rw [q]
  · exact he
  · exact List.mem_append_left _ he

theorem Settle.ew (h : Settle s s' u b) (i : JobId) : EW s' i = EW s i := by
  unfold EW; rw [h.pl]
  rcases h.queue with q | ⟨par, _, q⟩ <;> rw [q]
  rw [count_append_one, if_neg fun e => tellEv_ne_exec b par i e.symm]; rfl

theorem Settle.pendIff (h : Settle s s' u b) (i : JobId) : pend s' i ↔ pend s i ∧ i ≠ u := by
  unfold pend; rw [h.st]
  by_cases e : i = u
  · simp [e, outcome_ne_pending]
  · simp [e]

theorem Settle.cnt (h : Settle s s' u b) (i : JobId) :
    cntPend s' i = cntPend s i ∧ ¬ ((s.jobs u).parent = some i ∧ pend s u ∧ u < s.next) ∨
    cntPend s' i + 1 = cntPend s i ∧ (s.jobs u).parent = some i := by
  have hk : ∀ c, c ≠ u → kidPend s i c = kidPend s' i c := fun c hcu => by
    unfold kidPend; rw [h.par, h.st, if_neg hcu]
  have hg : kidPend s' i u = false := by unfold kidPend; rw [h.st, if_pos rfl]; simp [outcome_ne_pending]
  unfold cntPend
  rw [h.next]
  by_cases hc : (s.jobs u).parent = some i ∧ pend s u ∧ u < s.next
  · have hf : kidPend s i u = true := by unfold kidPend; simp [hc.1]; exact hc.2.1
    exact Or.inr ⟨cntTo_flip u hc.2.2 hk hf hg, hc.1⟩
  · refine Or.inl ⟨(cntTo_congr fun c hcl => ?_).symm, hc⟩
    by_cases hcu : c = u
    · rw [hcu, hg]
      unfold kidPend
      simp only [Bool.and_eq_false_imp, decide_eq_true_eq, decide_eq_false_iff_not]
      exact fun a b => hc ⟨a, b, hcu ▸ hcl⟩
    · exact hk c hcu

end

theorem live_open {p : Prog} {s : S} {x : Option JobId} (j : JobId) (hl : Live p s x none) : Live p s x (some j) :=
  { hl with
    ph := fun i hi hp hx => (hl.ph i hi hp hx).mono (Nat.le_refl _) id id Or.inr
      fun ⟨X, a1, a2, a⟩ => ⟨X, a1, a2.imp_right nofun, a⟩
    reg := fun k t hm => by
      obtain ⟨a, b, c, d, e, f⟩ := hl.reg k t hm
      exact ⟨a, b, c, d, e, fun _ => f (by simp)⟩ }

theorem Settle.live {p : Prog} {s s' : S} {j u : JobId} {b : Bool} (h : Settle s s' u b)
    (hl : Live p s (some j) (some j)) (hu : u = j ∨ Tw s u) (hew : EW s u = 0) : Live p s' (some j) (some j) := by
  have hTw : ∀ i, Tw s' i ↔ Tw s i := Tw_congr h.tw
  have hspec : ∀ i, spec p s' i = spec p s i := same_spec h.specOf
  have hpend' : ∀ i, i ≠ u → pend s i → pend s' i := fun i e hp => (h.pendIff i).mpr ⟨hp, e⟩
  have hfail : ∀ i, ¬ pend s i ∨ Ev.reject i ∈ s.queue → ¬ pend s' i ∨ Ev.reject i ∈ s'.queue := fun i f =>
    f.imp (fun a c => a ((h.pendIff i).mp c).1) h.qm
  -- what the parent's counters and the event queued for it look like afterwards
  have other : ∀ i, (s.jobs u).parent ≠ some i →
      (s'.jobs i).waiting = (s.jobs i).waiting ∧ (s'.jobs i).evalFailed = (s.jobs i).evalFailed :=
    fun i hp => ⟨by rw [h.wt, if_neg fun c => hp c.2], by rw [h.ef, if_neg fun c => hp c.2]⟩
  have parPh : ∀ i, (s.jobs u).parent = some i → EvalPh s i → Q s' i ∨ EvalPh s' i := by
    intro i hp a
    cases b with
    | true => exact Or.inl (Or.inl (Or.inr (h.told i ⟨hp, a.1, nofun⟩)))
    | false =>
      by_cases hz : (s.jobs i).waiting - 1 = 0
      · exact Or.inl (Or.inr (h.told i ⟨hp, a.1, fun _ => hz⟩))
      · exact Or.inr ⟨by rw [h.ef, if_neg fun c => nomatch c.1]; exact a.1, by rw [h.wt, if_pos ⟨rfl, hp⟩]; omega⟩
  have parFailed : ∀ i, (s.jobs u).parent = some i → (s'.jobs i).evalFailed = true →
      (s.jobs i).evalFailed = true ∨ Ev.reject i ∈ s'.queue := by
    intro i hp he
    cases b with
    | true =>
      cases hold : (s.jobs i).evalFailed
      · exact Or.inr (h.told i ⟨hp, hold, nofun⟩)
      · exact Or.inl rfl
    | false => rw [h.ef, if_neg fun c => nomatch c.1] at he; exact Or.inl he
  refine ⟨?_, ?_, ?_, ?_, ?_, ?_, ?_, ?_⟩
  · intro i hi hp hx
    rw [h.next] at hi
    refine (hl.ph i hi ((h.pendIff i).mp hp).1 hx).mono (Nat.le_of_eq (h.ew i).symm) (fun a => by rw [h.infl]; exact a)
      (Q.mono fun e _ => h.qm) (fun a => ?_) fun c => ?_
    · by_cases hpar : (s.jobs u).parent = some i
      · exact parPh i hpar a
      · obtain ⟨w, e⟩ := other i hpar
        exact Or.inr (by unfold EvalPh; rw [w, e]; exact a)
    · refine c.mono (Nat.le_of_eq h.next.symm) (hspec i) (fun X _ => hspec X) fun X _ a1 a4 a2 =>
        ⟨by rw [h.tw]; exact a1, ?_, by rw [hTw]; exact a4⟩
      by_cases hX : X = u
      · rcases hu with c | c
        · exact Or.inr (by rw [hX, c])
        · exact absurd (hX ▸ c) a4
      · exact a2.imp_left (hpend' X hX)
  · intro i hx he
    by_cases hpar : (s.jobs u).parent = some i
    · rcases parFailed i hpar he with a | a
      · exact hfail i (hl.failed i hx a)
      · exact Or.inr a
    · rw [(other i hpar).2] at he
      exact hfail i (hl.failed i hx he)
  · intro k t hm
    rw [h.pj] at hm
    obtain ⟨a, b', c, d, e, f⟩ := hl.reg k t hm
    refine ⟨by unfold keyOf; rw [hspec]; exact a, by rw [h.next]; exact b', by rw [hTw]; exact c,
      by rw [h.ew]; exact d, by unfold lookupPending; rw [h.pj]; exact e, fun hx => hpend' t (fun e' => ?_) (f hx)⟩
    rcases hu with c' | c'
    · exact hx (by rw [e', c'])
    · exact c (e' ▸ c')
  · intro i hi
    rw [h.ew] at hi
    obtain ⟨a, b'⟩ := hl.a1 i hi
    exact ⟨hpend' i (fun e => by subst e; omega) a, by rw [h.tw]; exact b'⟩
  · intro X t ht
    rw [h.tw] at ht
    rw [h.ew, h.next]; exact hl.twq X t ht
  · intro i hi
    have he : (s.jobs i).evalFailed = false := by
      rw [h.ef] at hi; split at hi
      · cases hi
      · exact hi
    have hc := hl.cnt i he
    -- if `i` loses a pending child, `u` resolved (a rejection fails `i`'s evaluation, and `cnt` is silent then), so
    -- `waiting` goes down with the count
    rcases h.cnt i with ⟨e, _⟩ | ⟨e, hp⟩
    · rw [h.wt]; split <;> omega
    · have hb : b = false := by
        cases b
        · rfl
        · rw [h.ef, if_pos ⟨rfl, hp⟩] at hi; cases hi
      rw [h.wt, if_pos ⟨hb, hp⟩]; omega
  · intro c par hc hpc
    rw [h.next] at hc; rw [h.par] at hpc
    rw [h.next, h.specOf]; exact hl.kid c par hc hpc
  · obtain ⟨a, b', c⟩ := hl.root
    refine ⟨by rw [h.par]; exact a, by rw [h.next]; exact b', ?_⟩
    by_cases h0 : (0 : Nat) = u
    · subst h0; exact Or.inr (h.fin.1 a)
    · exact c.imp (hpend' 0 h0) h.fin.2

theorem live_finalize {p : Prog} {s : S} {x y : Option JobId} (u : JobId) (hl : Live p s x y) :
    Live p (finalize p s u) x y ∧ ∀ k, (k, u) ∉ (finalize p s u).pendingJobs := by
  refine finalize_cases p s u (fun _ => ⟨⟨hl.ph, hl.failed, fun k t hm => ?_, hl.a1, hl.twq, hl.cnt, hl.kid, hl.root⟩,
    fun k hm => ?_⟩) fun hreg => ⟨hl, fun k hm => ?_⟩
  · have hm' := List.mem_filter.mp hm
    obtain ⟨a, b, c, d, e, f⟩ := hl.reg k t hm'.1
    refine ⟨a, b, c, d, ?_, f⟩
    unfold lookupPending at e ⊢
    show Option.map _ (List.find? _ (List.filter _ s.pendingJobs)) = _
    rw [lookup_filter_ne s.pendingJobs _ k (by simpa using hm'.2)]; exact e
  · have hm' := List.mem_filter.mp hm
    simp [(hl.reg k u hm'.1).1] at hm'
  · obtain ⟨a, _, _, _, e, _⟩ := hl.reg k u hm
    exact hreg (a ▸ e)

theorem live_close {p : Prog} {s : S} {j : JobId} (hl : Live p s (some j) (some j)) (hnp : ¬ pend s j)
    (htw : ∀ t, t ∈ (s.jobs j).twins → pend s t → Q s t) (hnr : ∀ k, (k, j) ∉ s.pendingJobs) :
    Live p s none none := by
  refine ⟨?_, ?_, ?_, hl.a1, hl.twq, hl.cnt, hl.kid, hl.root⟩
  · intro i hi hp _
    have hij : i ≠ j := by intro e; subst e; exact hnp hp
    rcases hl.ph i hi hp (fun h => hij (Option.some.inj h)) with a | a | a | a | ⟨X, a1, a2, a3, a4, a5⟩
    · exact Or.inl a
    · exact Or.inr (Or.inl a)
    · exact Or.inr (Or.inr (Or.inl a))
    · exact Or.inr (Or.inr (Or.inr (Or.inl a)))
    · rcases a2 with b | b
      · exact Or.inr (Or.inr (Or.inr (Or.inr ⟨X, a1, Or.inl b, a3, a4, a5⟩)))
      · have hX : X = j := Option.some.inj b
        subst hX
        exact Or.inr (Or.inr (Or.inl (htw i a1 hp)))
  · intro i _
    by_cases hij : i = j
    · subst hij; exact fun _ => Or.inl hnp
    · exact hl.failed i (fun h => hij (Option.some.inj h))
  · intro k t hm
    obtain ⟨a, b, c, d, e, f⟩ := hl.reg k t hm
    refine ⟨a, b, c, d, e, fun _ => f ?_⟩
    intro h
    have : t = j := Option.some.inj h
    subst this; exact hnr k hm

theorem fr_serveTwins (l : List JobId) (s : S) :
    Fr s (l.foldl serveTwin s) ∧ ∀ t, t ∈ l → Ev.done t true ∈ (l.foldl serveTwin s).queue := by
  induction l generalizing s with
  | nil => exact ⟨Fr.refl s, by simp⟩
  | cons a l ih =>
    have f1 : Fr s (serveTwin s a) := (fr_cached s a).trans (fr_enqueue _ _ (by intro k; simp))
    obtain ⟨f2, m2⟩ := ih (serveTwin s a)
    refine ⟨f1.trans f2, ?_⟩
    intro t ht
    rcases List.mem_cons.mp ht with e | e
    · subst e
      exact f2.qm _ (by intro k; simp) (mem_enqueue _ _)
    · exact m2 t e

theorem resolveJob_live (p : Prog) (s : S) (j : JobId) (hl : Live p s (some j) none) (hew : EW s j = 0) :
    Live p (resolveJob p s j) none none := by
  rw [resolveJob_eq]
  have eff := settleEff p false s j
  generalize settle p false s j = s2 at eff
  have l2 := eff.live (live_open j hl) (Or.inl rfl) hew
  have hnp2 : (s2.jobs j).status = Status.resolved := by rw [eff.st, if_pos rfl]; rfl
  obtain ⟨f3, m3⟩ := fr_serveTwins (s2.jobs j).twins s2
  generalize (s2.jobs j).twins.foldl serveTwin s2 = s3 at f3 m3
  have l3 := f3.live l2
  obtain ⟨l4, hnr⟩ := live_finalize j l3
  have g1 := finalize_jobs p s3 j
  refine live_close l4 ?_ ?_ hnr
  · unfold pend; rw [g1, f3.st, hnp2]; simp
  · intro t ht _
    rw [g1, f3.tw] at ht
    exact Q_of_mem_done (by rw [finalize_eq]; exact m3 t ht)

theorem rejectTwin_live (p : Prog) (s : S) (j t : JobId) (hl : Live p s (some j) (some j))
    (ht : t ∈ (s.jobs j).twins) : Live p (rejectTwin p s t) (some j) (some j) := by
  rw [rejectTwin_eq]
  have f0 := fr_cached s t
  generalize (setJob s t fun js => { js with wasCached := true }) = s0 at f0
  have eff := settleEff p true s0 t
  generalize settle p true s0 t = s2 at eff
  exact (live_finalize t (eff.live (f0.live hl) (Or.inr ((Tw_congr f0.tw t).mpr ⟨j, ht⟩))
    (by rw [f0.ew]; exact (hl.twq j t ht).1))).1

theorem rejectTwins_live (p : Prog) (j : JobId) (l : List JobId) (s : S) (hl : Live p s (some j) (some j))
    (ht : ∀ t, t ∈ l → t ∈ (s.jobs j).twins) : Live p (l.foldl (rejectTwin p) s) (some j) (some j) :=
  (foldl_inv (I := fun s' => Live p s' (some j) (some j) ∧ ∀ i, (s'.jobs i).twins = (s.jobs i).twins) (rejectTwin p) l s
    ⟨hl, fun _ => rfl⟩ fun s' a ha ⟨l1, e⟩ =>
      have hm : a ∈ (s'.jobs j).twins := by rw [e]; exact ht a ha
      ⟨rejectTwin_live p s' j a l1 hm, fun i => ((sv_rejectTwin p s' a ⟨j, hm⟩).tw i).trans (e i)⟩).1

theorem rejectJob_live (p : Prog) (s : S) (j : JobId) (hl : Live p s (some j) none) (hew : EW s j = 0) :
    Live p (rejectJob p s j) none none := by
  rw [rejectJob_eq, rejectRest_eq]
  have f0 := fr_releaseIf p s j
  generalize releaseIf p s j = s0 at f0
  have eff := settleEff p true s0 j
  generalize settle p true s0 j = s2 at eff
  have l2 := eff.live (live_open j (f0.live hl)) (Or.inl rfl) (by rw [f0.ew]; exact hew)
  have hnp2 : ¬ pend s2 j := fun h => ((eff.pendIff j).mp h).2 rfl
  -- the twins are rejected one after the other; which statuses that changes is read off `Sv`
  have o := sv_rejectTwins p (s2.jobs j).twins s2 fun t ht => ⟨j, ht⟩
  have l3 := rejectTwins_live p j (s2.jobs j).twins s2 l2 (fun _ h => h)
  generalize (List.foldl (rejectTwin p) s2 (s2.jobs j).twins) = s3 at o l3
  obtain ⟨l4, hnr⟩ := live_finalize j l3
  have g1 := finalize_jobs p s3 j
  refine live_close l4 ?_ ?_ hnr
  · unfold pend; rw [g1, o.st]
    split
    · exact outcome_ne_pending true
    · exact hnp2
  · intro t ht hp
    rw [g1, o.tw] at ht
    unfold pend at hp
    rw [g1, o.st, if_pos ht] at hp
    exact absurd hp (outcome_ne_pending true)

theorem complete_live (p : Prog) (s : S) (j : JobId) (hl : Live p s none none) :
    Live p (complete p s j) none none := by
  unfold complete
  have l1 : Live p { s with inflight := fun i => if i = j then false else s.inflight i } (some j) none :=
    live_setInfl false s.submits (live_weaken j hl)
  have hf1 : FailedOk { s with inflight := fun i => if i = j then false else s.inflight i } j := hl.failed j (by simp)
  generalize ({ s with inflight := fun i => if i = j then false else s.inflight i } : S) = s1 at l1 hf1
  dsimp only
  have hne : ∀ k, (if (spec p s1 j).fails = true then Ev.reject j else Ev.done j false) ≠ Ev.exec k := by
    intro k; split <;> simp
  have fr := fr_enqueue s1 _ hne
  refine live_fill (fr.live l1) (fun _ _ => Or.inr (Or.inr (Or.inl ?_))) (fr.failedOk hf1)
  have hm := mem_enqueue s1 (if (spec p s1 j).fails = true then Ev.reject j else Ev.done j false)
  split at hm
  · rename_i h; simp only [h, if_true]; exact Q_of_mem_reject hm
  · rename_i h; simp only [h]; exact Q_of_mem_done hm

theorem live_init (p : Prog) : Live p init none none := by
  have hj := init_jobs
  refine ⟨?_, ?_, ?_, ?_, ?_, ?_, ?_, ?_⟩
  · intro j hj' _ _
    have : j = 0 := by simp only [init] at hj'; omega
    subst this
    left; simp [EW, init]
  · intro j _ he; rw [(hj j).2.2.1] at he; simp at he
  · intro k t hm; simp [init] at hm
  · intro j _; exact ⟨(hj j).1, (hj j).2.1⟩
  · intro X t ht; rw [(hj X).2.1] at ht; simp at ht
  · intro j _; rw [(hj j).2.2.2.1]; exact Nat.zero_le _
  · intro c par _ hp; rw [(hj c).2.2.2.2] at hp; simp at hp
  · exact ⟨(hj 0).2.2.2.2, by simp [init], Or.inl (hj 0).1⟩

/-- The cache keys can be ranked so that every call goes down: no chain of calls, read on the keys, leads from a
key back to itself.  (Without it a job can be collapsed onto its own ancestor, which waits for it:
`C09.deadlock_without_rank_refuted`.) -/
def Ranked (p : Prog) : Prop :=
  ∃ rank : Nat → Nat, ∀ i c, c ∈ (p.specAt i).children → rank (p.specAt c).key < rank (p.specAt i).key

def Idle (s : S) : Prop := s.queue = [] ∧ s.pendingLimits = [] ∧ ∀ j, s.inflight j = false

theorem idle_noTokens {s : S} (h : Idle s) (j : JobId) : EW s j = 0 ∧ ¬ Q s j := by
  obtain ⟨hq, hp, _⟩ := h
  refine ⟨by unfold EW; rw [hq, hp]; rfl, ?_⟩
  unfold Q C; rw [hq]; simp

theorem eval_has_pending_kid {p : Prog} {s : S} (hl : Live p s none none) (rank : Nat → Nat)
    (hrank : ∀ i c, c ∈ (p.specAt i).children → rank (p.specAt c).key < rank (p.specAt i).key)
    (j : JobId) (he : EvalPh s j) :
    ∃ c, c < s.next ∧ pend s c ∧ rank (spec p s c).key < rank (spec p s j).key := by
  obtain ⟨c, hlt, hpar, hp⟩ := cntPend_pos (Nat.lt_of_lt_of_le he.2 (hl.cnt j he.1))
  exact ⟨c, hlt, hp, hrank _ _ (hl.kid c j hlt hpar).2⟩

/-- The descent behind deadlock freedom: in an idle state the only phases left to a pending job are evaluating
and collapsed.  An evaluating job has a pending child, of lower rank; a collapsed one has a target of its own key
that is pending and not collapsed, hence evaluating, whose pending child will do. -/
theorem idle_descend {p : Prog} {s : S} (hl : Live p s none none) (hidle : Idle s) (rank : Nat → Nat)
    (hrank : ∀ i c, c ∈ (p.specAt i).children → rank (p.specAt c).key < rank (p.specAt i).key)
    (j : JobId) (hj : j < s.next) (hp : pend s j) :
    ∃ c, c < s.next ∧ pend s c ∧ rank (spec p s c).key < rank (spec p s j).key := by
  have hno := idle_noTokens hidle
  rcases hl.ph j hj hp (by simp) with a | a | a | a | ⟨X, a1, a2, a3, a4, a5⟩
  · have := (hno j).1; omega
  · rw [hidle.2.2 j] at a; simp at a
  · exact absurd a (hno j).2
  · exact eval_has_pending_kid hl rank hrank j a
  · have hpX : pend s X := by
      rcases a2 with b | b
      · exact b
      · simp at b
    rcases hl.ph X a3 hpX (by simp) with b | b | b | b | ⟨Y, b1, _⟩
    · have := (hno X).1; omega
    · rw [hidle.2.2 X] at b; simp at b
    · exact absurd b (hno X).2
    · obtain ⟨c, h1, h2, h3⟩ := eval_has_pending_kid hl rank hrank X b
      exact ⟨c, h1, h2, by rw [← a5]; exact h3⟩
    · exact absurd ⟨Y, b1⟩ a4

theorem idle_no_pending {p : Prog} {s : S} (hl : Live p s none none) (hidle : Idle s) (rank : Nat → Nat)
    (hrank : ∀ i c, c ∈ (p.specAt i).children → rank (p.specAt c).key < rank (p.specAt i).key)
    (j : JobId) (hj : j < s.next) : ¬ pend s j := by
  intro hp
  generalize hn : rank (spec p s j).key = n
  induction n using Nat.strongRecOn generalizing j with
  | _ n ih =>
    obtain ⟨c, h1, h2, h3⟩ := idle_descend hl hidle rank hrank j hj hp
    exact ih _ (hn ▸ h3) c h1 h2 rfl

/-- Deadlock freedom (C09 `no_deadlock`) on the invariant: an idle state has settled the root. -/
theorem idle_finished {p : Prog} {s : S} (hl : Live p s none none) (hidle : Idle s) (hr : Ranked p) :
    s.finished = true := by
  obtain ⟨rank, hrank⟩ := hr
  obtain ⟨_, hn, h⟩ := hl.root
  exact h.resolve_left (idle_no_pending hl hidle rank hrank 0 hn)

theorem specAt_default (p : Prog) (i : SpecId) (hi : p.specs.length ≤ i) : p.specAt i = default := by
  unfold Prog.specAt
  rw [List.getD_eq_getElem?_getD, List.getElem?_eq_none hi]; rfl

theorem ranked_of_check (p : Prog) (rank : Nat → Nat)
    (h : ((List.range p.specs.length).all fun i => (p.specAt i).children.all fun c =>
      decide (rank (p.specAt c).key < rank (p.specAt i).key)) = true) : Ranked p := by
  refine ⟨rank, ?_⟩
  intro i c hc
  by_cases hi : i < p.specs.length
  · have := List.all_eq_true.mp h i (List.mem_range.mpr hi)
    have := List.all_eq_true.mp this c hc
    simpa using this
  · rw [specAt_default p i (Nat.le_of_not_lt hi)] at hc
    exact absurd hc (by show c ∉ ([] : List SpecId); simp)

theorem specAt_mem_or_default (p : Prog) (i : SpecId) : p.specAt i ∈ p.specs ∨ p.specAt i = default := by
  by_cases hi : i < p.specs.length
  · left
    unfold Prog.specAt
    rw [List.getD_eq_getElem?_getD, List.getElem?_eq_getElem hi]; exact List.getElem_mem hi
  · exact Or.inr (specAt_default p i (Nat.le_of_not_lt hi))

theorem provScope_of_check (p : Prog)
    (h : (p.specs.all fun sp => sp.prov || sp.scope == Scope.none) = true) : ProvScope p := by
  intro i hp
  rcases specAt_mem_or_default p i with hm | hd
  · have := List.all_eq_true.mp h _ hm
    rw [hp] at this
    simpa using this
  · rw [hd]; rfl

end RedunModel.SchedCore
