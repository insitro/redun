/-
C36 — Schema migrations preserve recorded data.

The list of alembic revisions and their `upgrade()` operations is REGENERATED from /repo into
`RedunModel.Generated.Migrations` on every run; `RedunModel.Model.Migrate` gives the operations their meaning on
an abstract database; `RedunModel.Lemmas.Migrate` has the preservation lemmas.
`Pres R db db'`: every cell (table, row number, column) of `db` exists in `db'` with an `R`-related value —
i.e. every row of every table is kept, with related values in the columns both versions share.
-/
import RedunModel.Lemmas.Migrate
namespace RedunModel.C36
open RedunModel.MigrateOps RedunModel.Generated.Migrations RedunModel.Migrate

/-- The revisions form one chain: it is exactly the library's version table `REDUN_DB_VERSIONS` (same ids, same
order, every file used once), versions increase strictly along it, and its head lies in the range the library requires. -/
theorem chain_linear :
    chainIds = dbVersions.map (·.1) ∧ chainIds.length = revisions.length ∧ chainIds.Nodup ∧
    (dbVersions.map fun v => v.2.1 * 1000 + v.2.2).Pairwise (· < ·) ∧
    (dbVersions.getLast?.map fun v => decide (minVersion.1 * 1000 + minVersion.2 ≤ v.2.1 * 1000 + v.2.2 ∧
        v.2.1 * 1000 + v.2.2 ≤ maxVersion.1 * 1000 + maxVersion.2)) = some true := by
  -- `+kernel`: the elaborator's own evaluation of the string-keyed lookups is slow; the kernel's is the proof anyway
  decide +kernel

/-- Every operation of every revision that runs on sqlite is structural or one of the data migrations whose
meaning is given in `Model/Migrate.dataSem` (a changed SQL text / Python block has an unknown hash). -/
theorem chain_classified :
    (revisions.all fun r => r.ops.all fun g => !appliesSqlite g.guard || isKnown g.op) = true := by decide +kernel

/-- FULL STRENGTH, generic: any structural operation (create table / index / foreign key, add column, alter column),
whatever its arguments, keeps every cell of every row with an EQUAL value. -/
theorem structural_preserve (db db' : Db) (op : Op) (hs : isStructural op = true) (h : applyOp db op = .ok db') :
    Pres REq db db' :=
  applyOp_pres (R := REq) (fun _ _ _ => rfl) (fun _ _ _ _ _ h1 h2 => h2.trans h1) db db' op (structural_effects_ok db op hs) h

/-- PARTIAL: any operation at all (structural or one of the data migrations) keeps every cell of every row; values
are equal except that `job.start_time` / `job.end_time` may have lost their fractional seconds (`dtUtc`) and
`job.execution_id` is recomputed. The full-strength statement (`Pres REq`) is refuted below.
`dtUtc` is sqlite's `datetime(x, 'utc')` on a machine whose time zone is UTC; in any other zone it also shifts the
time by the zone's offset, which the model leaves out. -/
theorem data_ops_preserve_partial (db db' : Db) (op : Op) (h : applyOp db op = .ok db') :
    Pres RPartial db db' := applyOp_pres_partial db db' op h

/-- PARTIAL, whole upgrade: `migrate` from ANY revision of the regenerated chain to its head. -/
theorem migrate_preserve_partial (start : String) (db db' : Db) (h : migrate start db = .ok db') :
    Pres RPartial db db' := by
  simp only [migrate] at h
  split at h
  · cases h
  · next d1 hr =>
    have p1 := applyRevs_pres_partial _ db d1 hr
    split at h
    · cases h; exact p1
    · exact pres_trans rpartial_trans p1 (applyEffect_pres rpartial_refl d1 db' (.appendRows "redun_version" _) trivial h)

/-- the witness database of DESIGN §9 F17: schema 3.3, one job started at 03:04:05.678901 -/
def witness : Db :=
  [⟨"job", ["id", "start_time", "end_time"],
     [[("id", .text "j"), ("start_time", .ts 1704164645 ".678901"), ("end_time", .null)]]⟩,
   ⟨"execution", ["id", "args", "job_id"], []⟩,
   ⟨"redun_version", ["id", "version", "timestamp"], []⟩]

/-- REFUTED full-strength statement: upgrading the witness from 3.3 (`f68b3aaee9cc`) succeeds and the job's
start time comes out without its fractional seconds (03:04:05.678901, epoch 1704164645, becomes 03:04:05). -/
theorem refuted_subsecond :
    (match migrate "f68b3aaee9cc" witness with
     | .ok db' => cell db' "job" 0 "start_time"
     | .error _ => none) = some (.ts 1704164645 "") ∧
    cell witness "job" 0 "start_time" = some (.ts 1704164645 ".678901") := by decide +kernel

/-- ... and it is not always a truncation: sqlite rounds to milliseconds first, so a fraction of .9995 or more
moves the timestamp to the NEXT second (found by the correspondence check: 20:33:25.999612 -> 20:33:26). -/
theorem refuted_subsecond_rounds_up : dtUtc (.ts 1709152405 ".999612") = .ts 1709152406 "" := by decide +kernel

/-! non-vacuity of the implications: upgrades that succeed -/
def tiny : Db :=
  [⟨"task", ["hash", "name", "namespace", "source"], [[("hash", .text "t"), ("name", .text "f"), ("namespace", .text ""), ("source", .text "")]]⟩,
   ⟨"value", ["value_hash", "type", "format", "value"], []⟩,
   ⟨"job", ["id", "start_time", "end_time", "task_hash", "cached", "call_hash", "parent_id"],
     [[("id", .text "j0"), ("start_time", .ts 1577836800 ".5"), ("end_time", .null), ("task_hash", .text "t"),
       ("cached", .int 0), ("call_hash", .null), ("parent_id", .null)],
      [("id", .text "j1"), ("start_time", .ts 1577836801 ""), ("end_time", .null), ("task_hash", .text "t"),
       ("cached", .int 0), ("call_hash", .null), ("parent_id", .text "j0")]]⟩,
   ⟨"execution", ["id", "args", "job_id"], []⟩,
   ⟨"redun_version", ["id", "version", "timestamp"], []⟩]
example : (match migrate "806f5dcb11bf" tiny with
    | .ok db' => (cell db' "job" 1 "execution_id", cell db' "value" 0 "type", (rowsOf "execution" db').length)
    | .error _ => (none, none, 0)) = (some (.text "stub:j0"), some (.text "redun.Task"), 1) := by decide +kernel
example : isStructural (.addColumn "job" ⟨"execution_id", "String", true⟩) = true := rfl

end RedunModel.C36
