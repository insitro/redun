/-
C30 — File value hashes track the filesystem.

Model: `Model/FileSys.lean` (classes, symbolic hashes, filesystem) and `Model/FileOps.lean` (python objects
with their cached `_hash`, operated on through redun's methods).  The model mirrors /repo with the two
repairs proposed in harness/findings_proposed/C30-*.fix.diff (ContentFile of a missing path hashes
deterministically; `Dir.copy_to` refreshes the destination's hash).

Statement, clause by clause:
 (a) after a File / Dir is written, copied or staged through redun, its hash equals a freshly computed hash
     of the current filesystem state                     → `fresh_after_op`, `fresh_after_ops`
 (b) a file value is valid exactly when its recorded hash equals the current one
                                                         → `valid_iff`, `valid_after_fresh`,
                                                           `immutable_always_valid`, `idir_valid`
 (c) content-hashed files change hash only when their bytes change
                                                         → `content_only`, `content_ignores_mtime`,
                                                           `content_set_only` (remark: `content_dir_by_stat_note`)
 (d) hashing a missing path yields a deterministic hash instead of an error
                                                         → `missing_deterministic` (`calcHash` is a total function)
 plus what "tracks the filesystem" means for the stat-hashed classes: `file_hash_eq_iff`,
 `dir_hash_changes_on_add`, `dir_hash_changes_on_remove`, `dir_hash_local`.
-/
import RedunModel.Lemmas.FileSys
namespace RedunModel.C30
open RedunModel.FileSys RedunModel.FileOps

/-- (a) For every universe, state and operation: if the operation is a redun-mediated write / append /
copy_to / stage / unstage / mkdir / rmdir / Dir.copy_to / StagingDir.stage / unstage, or a `File.open(mode)` stream whose
mode string permits writing — `open_hook_iff_writable` — (`target op = some k`)
and it reports success (not skipped, no error), then the cached hash of the object operated on equals the
hash recomputed from the resulting filesystem. -/
theorem fresh_after_op (U : List Path) (s : St) (op : Op) (k : Nat) (hk : target op = some k)
    (h : (step U s op).2 = .ok) : Fresh U (step U s op).1 k := by
  revert h
  cases op <;> simp only [target, Option.some.injEq, reduceCtorEq] at hk <;> try subst hk
  -- every case: unfold the step, follow its branches; the successful one stores `updateHash` of the new state
  case write | append | mkdir | rmdir =>
    dsimp only [step]
    split
    · exact fun _ => fresh_set (by assumption) _ rfl
    · nofun
  case openMode i mode data t =>
    split at hk
    · rename_i hhook
      cases hk
      dsimp only [step]
      split
      · split
        · nofun
        · rw [if_pos hhook]
          exact fun _ => fresh_set (by assumption) _ rfl
      · nofun
    · cases hk
  case copyTo i j skip t => exact copyFile_fresh U s i j skip t
  case dirCopyTo i j skip t => exact copyDir_fresh U s i j skip t
  case stage i j t | unstage i j t =>
    dsimp only [step]
    split
    · split
      · nofun
      · exact copyFile_fresh U s _ _ false t
    · nofun
  case stageDir i j t | unstageDir i j t =>
    dsimp only [step]
    split
    · split
      · nofun
      · exact copyDir_fresh U s _ _ false t
    · nofun

/-- For every mode string Python accepts: the close hook is installed exactly when the stream permits writing
(`w`, `a`, `x` in any spelling, and every `+` mode including `r+`, `r+b`, `rb+`). -/
theorem open_hook_iff_writable (mode : List Char) (m : Base × Bool) (h : parseMode mode = some m) :
    hookInstalled mode = canWrite m := by
  unfold parseMode at h
  simp only at h
  split at h
  · rename_i b hb
    split at h
    · cases h
      -- the one base letter of `mode` is `b`
      rw [hookInstalled_eq, hb]
      simp [canWrite]
    · cases h
  · cases h

/-- all spellings of the update and write modes get the hook, the read modes do not (a finite table, by evaluation) -/
theorem open_mode_table :
    (["r+", "r+b", "rb+", "w", "wb", "w+", "wb+", "a", "ab", "a+", "x", "xb", "x+"].all fun m => hookInstalled m.toList) = true ∧
    (["r", "rb", "rt"].all fun m => !hookInstalled m.toList) = true := by decide +kernel

theorem run_append (U : List Path) (s : St) (ops : List Op) (op : Op) :
    run U s (ops ++ [op]) = (step U (run U s ops) op).1 := by
  induction ops generalizing s with
  | nil => rfl
  | cons o os ih => simp only [List.cons_append, run]; exact ih _

/-- (a) over histories: after any sequence of operations (redun-mediated or external) followed by a
successful redun-mediated write/copy/stage, the target is fresh. -/
theorem fresh_after_ops (U : List Path) (s : St) (ops : List Op) (op : Op) (k : Nat) (hk : target op = some k)
    (h : (step U (run U s ops) op).2 = .ok) : Fresh U (run U s (ops ++ [op])) k := by
  rw [run_append]; exact fresh_after_op U _ op k hk h

/-- `is_valid()` of an object with a recorded hash, for every class whose `is_valid` compares hashes
(File, ContentFile, FileSet, ContentFileSet, Dir, ContentDir, IDir): valid exactly when the recorded hash
equals the current one. -/
theorem valid_iff (U : List Path) (fs : FS) (o : Obj) (h : H) (hc : o.cached = some h)
    (hn : alwaysValid o.val = false) : (o.isValid U fs).1 = true ↔ h = calcHash U fs o.val := by
  simp [Obj.isValid, hn, hc]

theorem valid_after_fresh (U : List Path) (fs : FS) (o : Obj) (hc : o.cached = some (calcHash U fs o.val)) :
    (o.isValid U fs).1 = true := by
  unfold Obj.isValid
  split
  · rfl
  · simp [hc]

/-- IFile, IFileSet and Staging values: always valid, whatever the filesystem and the cached hash; and their
hash does not depend on the filesystem. -/
theorem immutable_always_valid (U : List Path) (fs fs' : FS) (o : Obj) (h : alwaysValid o.val = true) :
    (o.isValid U fs).1 = true ∧ calcHash U fs o.val = calcHash U fs' o.val := by
  refine ⟨by simp [Obj.isValid, h], ?_⟩
  cases hv : o.val with
  | file fam p => cases fam <;> simp_all [alwaysValid, calcHash]
  | fset fam d r => cases fam <;> simp_all [alwaysValid, calcHash]
  | dir fam p => simp_all [alwaysValid]
  | staging d fam l r => simp [calcHash]

/-- IDir inherits the comparing `is_valid`, but its hash is path-only, so a hash recorded in any filesystem
state stays valid in every other. -/
theorem idir_valid (U : List Path) (fs0 fs : FS) (p : Path) (c : Option H)
    (hc : c = none ∨ c = some (calcHash U fs0 (.dir .imm p))) :
    (Obj.isValid U fs ⟨.dir .imm p, c⟩).1 = true := by
  rcases hc with hc | hc <;> subst hc <;> simp [Obj.isValid, alwaysValid, calcHash]

def statOf (fs : FS) (p : Path) : Option (Nat × Int) := (fs p).map fun n => (n.bytes.length, n.mtime)

/-- plain `File`: two filesystem states give the same hash iff the path has the same existence, size and mtime -/
theorem file_hash_eq_iff (U : List Path) (fs fs' : FS) (p : Path) :
    calcHash U fs (.file .plain p) = calcHash U fs' (.file .plain p) ↔ statOf fs p = statOf fs' p := by
  simp only [calcHash, statH, statOf]
  cases h1 : fs p <;> cases h2 : fs' p <;> simp <;> omega

/-- `ContentFile`: the hash changes exactly when the bytes (or the existence) of the file change -/
theorem content_only (U : List Path) (fs fs' : FS) (p : Path) :
    calcHash U fs (.file .content p) = calcHash U fs' (.file .content p) ↔
      (fs p).map (·.bytes) = (fs' p).map (·.bytes) := by
  simp [calcHash, contentH]

theorem content_ignores_mtime (U : List Path) (fs : FS) (p : Path) (n : Node) (t : Int) (h : fs p = some n) :
    calcHash U (fs.touch p t) (.file .content p) = calcHash U fs (.file .content p) := by
  simp [calcHash, contentH, FS.touch, FS.set, h]

/-- `ContentFileSet`: equal hashes iff the same member paths with the same bytes -/
theorem content_set_only (U : List Path) (fs fs' : FS) (d : Path) (r : Bool) :
    calcHash U fs (.fset .content d r) = calcHash U fs' (.fset .content d r) ↔
      (members U fs (sel d r)).map (fun p => (p, (fs p).map (·.bytes))) =
      (members U fs' (sel d r)).map (fun p => (p, (fs' p).map (·.bytes))) := by
  -- a member's content hash is its (path, bytes) pair under a constructor
  rw [← List.map_inj_right (f := fun q : Path × Option Bytes => HF.content q.1 q.2) fun a b h =>
    Prod.ext (HF.content.inj h).1 (HF.content.inj h).2, List.map_map, List.map_map]
  simp only [calcHash, H.coll.injEq, true_and]
  rfl

/-- hashing a missing path is total and gives a fixed value per class -/
theorem missing_deterministic (U : List Path) (fs : FS) (p : Path) (h : fs p = none) :
    calcHash U fs (.file .plain p) = .f (.stat p (-1) (-1)) ∧
    calcHash U fs (.file .content p) = .f (.content p none) ∧
    calcHash U fs (.file .imm p) = .imm "IFile" p := by
  simp [calcHash, statH, contentH, h]

/-- a Dir / ContentDir hash changes when a file appears below it -/
theorem dir_hash_changes_on_add (U : List Path) (fs : FS) (fam : Fam) (hf : fam ≠ .imm) (d p : Path) (n : Node)
    (hp : p ∈ U) (hu : under d p = true) (hm : fs p = none) :
    calcHash U (fs.set p (some n)) (.dir fam d) ≠ calcHash U fs (.dir fam d) := fun e => by
  have : p ∈ members U fs (under d) :=
    ((dir_hash_eq_iff U _ _ hf d).mp e).1 ▸ mem_members.mpr ⟨hp, hu, by simp [FS.set]⟩
  simp [mem_members, hm] at this

theorem dir_hash_changes_on_remove (U : List Path) (fs : FS) (fam : Fam) (hf : fam ≠ .imm) (d p : Path) (n : Node)
    (hp : p ∈ U) (hu : under d p = true) (hm : fs p = some n) :
    calcHash U (fs.set p none) (.dir fam d) ≠ calcHash U fs (.dir fam d) := fun e => by
  have : p ∈ members U (fs.set p none) (under d) :=
    ((dir_hash_eq_iff U _ _ hf d).mp e).1 ▸ mem_members.mpr ⟨hp, hu, by simp [hm]⟩
  simp [mem_members, FS.set] at this

/-- a Dir hash depends only on the files below the directory -/
theorem dir_hash_local (U : List Path) (fs fs' : FS) (fam : Fam) (d : Path)
    (h : ∀ q, under d q = true → fs q = fs' q) :
    calcHash U fs (.dir fam d) = calcHash U fs' (.dir fam d) := by
  by_cases hf : fam = .imm
  · subst hf; rfl
  · exact (dir_hash_eq_iff U fs fs' hf d).mpr ⟨members_congr fun q _ hq => by rw [h q hq],
      fun q hq => by rw [statH, statH, h q (mem_members.mp hq).2.1]⟩

/-- Remark (not a claim of the property): a ContentDir hashes its members by size/mtime, so touching a member
changes its hash although no byte changed. -/
theorem content_dir_by_stat_note (U : List Path) (fs : FS) (d p : Path) (n : Node) (t : Int)
    (hp : p ∈ U) (hu : under d p = true) (hm : fs p = some n) (ht : t ≠ n.mtime) :
    calcHash U (fs.touch p t) (.dir .content d) ≠ calcHash U fs (.dir .content d) := fun e => by
  have := ((dir_hash_eq_iff U _ _ (by decide) d).mp e).2 p (mem_members.mpr ⟨hp, hu, by simp [FS.touch, FS.set]⟩)
  simp [statH, FS.touch, FS.set, hm] at this
  exact ht this

-- The history of finding F23 on the model: the destination Dir is hashed, then copied into.
section Examples
def exU : List Path := [["d1", "a"], ["d2", "a"]]
def exOps : List Op := [.new (.dir .plain ["d1"]), .new (.dir .plain ["d2"]), .extWrite ["d1", "a"] [97] 1001, .hash 1]

example : (step exU (run exU St.init exOps) (.dirCopyTo 0 1 false 1002)).2 = .ok := by decide +kernel
example : ((run exU St.init (exOps ++ [.dirCopyTo 0 1 false 1002])).objs[1]?).map (·.cached) =
    some (some (.coll "Dir" ["d2"] [.stat ["d2", "a"] 1 1002])) := by decide +kernel
/-- the hash cached before the copy was the hash of the empty directory: it did change -/
example : ((run exU St.init exOps).objs[1]?).map (·.cached) = some (some (.coll "Dir" ["d2"] [])) := by decide +kernel
/-- a deleted ContentFile: invalid, no error -/
example : (Obj.isValid exU FS.empty ⟨.file .content ["d1", "a"], some (.f (.content ["d1", "a"] (some [97])))⟩).1 = false := by
  decide +kernel
example : (Obj.isValid exU (FS.empty.write ["d1", "a"] [97] 5) ⟨.file .content ["d1", "a"], some (.f (.content ["d1", "a"] (some [97])))⟩).1
    = true := by decide +kernel
/-- in-place update through `open("r+b")`: the already cached hash is refreshed -/
example : ((run exU St.init [.new (.file .content ["d1", "a"]), .extWrite ["d1", "a"] [97, 98, 99] 1, .hash 0,
      .openMode 0 "r+b".toList [120] 2]).objs[0]?).map (·.cached) =
    some (some (.f (.content ["d1", "a"] (some [120, 98, 99])))) := by decide +kernel
end Examples

end RedunModel.C30
