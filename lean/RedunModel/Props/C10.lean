/-
C10 — Remote-executor monitors never lose a submitted job.

Property theorems only.  Models: `RedunModel.Model.Monitor` (the five executors as found: line-level
transition system, five `Variant` values) and `RedunModel.Model.MonitorLocked` (the hand-off done
under one lock: specification of the repair).  Lemmas: `RedunModel.Lemmas.Monitor*`.

Target (full strength):  `no_lost_job` — in every reachable state of every interleaving in which no
thread can take a step, nothing is left in the pending map or the queue:

    ∀ V jobs s, Reachable V jobs s → lost s = []

* It is FALSE for each of the five executors as found: `refuted_docker`, `refuted_aws_batch`,
  `refuted_k8s`, `refuted_gcp_batch`, `refuted_glue` (a job recorded while the monitor is between its
  loop test and the end of `stop()`), `refuted_glue_in_hand` (no second submission needed: the Glue
  monitor leaves while the submission thread holds the only job).  Closed traces, checked by `decide`.
* What does hold of the code as found, for EVERY variant (any line structure), every job stream and
  every interleaving: `conservation`, `reported_at_most_once` (no job is reported twice; a lost job
  stays recorded in the pending map / queue, which is why a later submission recovers it),
  `submit_tracks_job`, and, with cloud errors injected, `fault_is_reported` (a job that a failing
  status-processing step has taken out of the pending map, `dropped`, comes with a scheduler-level error).
* `no_lost_job_partial`: for Docker, AWS Batch, K8S and GCP Batch (every variant whose exit path is
  well formed, `WF`) and no injected cloud error (`faulted = false`) the window is the ONLY way to lose
  a job: in every interleaving in which no job is recorded while a monitor is between its failed loop
  test and the point where `_start` would start a new thread (`hit = false`), nothing is lost, and no
  monitor crashes.  Missing for the full statement: exactly the interleavings with `hit = true`
  (refuted above), and AWS Glue (second loss mode).  After an injected error the monitor leaves with
  the other jobs still pending; `fault_is_reported` is what is proved about those runs.
* `locked_no_lost_job`: the target holds, for all interleavings, of the protocol in which the
  monitor's exit decision + flag clearing and the submitter's flag test + set + thread start are
  critical sections of one lock.
-/
import RedunModel.Lemmas.MonitorPartial
import RedunModel.Lemmas.MonitorLocked
namespace RedunModel.C10
open RedunModel.Monitor

/-- **Conservation.** Whatever the executor variant and the interleaving, every job of the input
stream is in exactly one place (with multiplicity): not yet recorded by `_submit`, in the queue
(arrayer / Glue pending queue), in the pending map the monitor polls, in the hands of a Glue
submission thread, reported to the scheduler, or `dropped`: removed from the pending map by a
status-processing step that then hit an injected cloud error (see `fault_is_reported`). -/
theorem conservation (V : Variant) (jobs : List Job) (s : State) (h : Reachable V jobs s) (j : Job) :
    jobs.count j = (rest s).count j + s.queue.count j + s.pending.count j + (inHand s).count j
      + s.reported.count j + s.dropped.count j := by
  have hC := reachable_invJ h
  have h1 := hC.cons j
  have h2 := congrArg (List.count j) hC.prog
  simp only [List.count_append] at h2
  omega

/-- **Reported at most once**, and a reported job is no longer pending or queued. -/
theorem reported_at_most_once (V : Variant) (jobs : List Job) (s : State) (h : Reachable V jobs s)
    (hd : jobs.Nodup) : s.reported.Nodup ∧ ∀ j ∈ s.reported, j ∉ s.pending ∧ j ∉ s.queue := by
  have key : ∀ j, s.queue.count j + s.pending.count j + s.reported.count j ≤ 1 := by
    intro j
    have := conservation V jobs s h j
    have := List.nodup_iff_count.1 hd j
    omega
  refine ⟨List.nodup_iff_count.2 (fun j => by have := key j; omega), ?_⟩
  intro j hj
  have h1 : 0 < s.reported.count j := List.count_pos_iff.2 hj
  constructor
  · intro hp; have : 0 < s.pending.count j := List.count_pos_iff.2 hp; have := key j; omega
  · intro hq; have : 0 < s.queue.count j := List.count_pos_iff.2 hq; have := key j; omega

/-- **Partial: the exit window is the only way to lose a job** (Docker, AWS Batch, K8S, GCP Batch and
every other variant with a well-formed exit path).  For distinct jobs and every interleaving in which
no job was recorded while a monitor thread was on its way out (`hit = false`): when no thread can
take a step any more, the pending map and the queue are empty (`faulted = false`: no cloud error was
injected by the environment; with faults see `fault_is_reported`). -/
theorem no_lost_job_partial (V : Variant) (hW : WF V) (jobs : List Job) (hd : jobs.Nodup) (s : State)
    (h : Reachable V jobs s) (hh : s.hit = false) (hf : s.faulted = false) : lost s = [] := by
  unfold lost
  split
  · obtain ⟨hp, hq⟩ := (reachable_invP hW hd h hh hf).quiet ‹_›
    rw [hp, hq]
    rfl
  · rfl

/-- and in those interleavings no monitor thread fails (`_process_job_status` always finds its job) -/
theorem no_monitor_crash_partial (V : Variant) (hW : WF V) (jobs : List Job) (hd : jobs.Nodup) (s : State)
    (h : Reachable V jobs s) (hh : s.hit = false) (hf : s.faulted = false) : ∀ m, s.mon = some m → ∀ r, m.ph ≠ .exc r := by
  intro m hm r
  have := (reachable_invP hW hd h hh hf).noExc r
  simpa [lph, hm] using this

/-- **A job taken out of the pending map by a failing status-processing step is not lost silently** (all
five executors, every variant whose `except` path is not empty): whenever a status-processing step has
removed a job from the pending map and then failed (throttling, any exception), a scheduler-level error has been raised (`reject_job(None, error)`) or a
monitor thread is on its `except` path about to raise it; so once all threads have ended, dropped jobs
imply a workflow error. -/
theorem fault_is_reported (V : Variant) (hE : V.mExc ≠ []) (jobs : List Job) (s : State)
    (h : Reachable V jobs s) (hq : quiescent s = true) (hd : s.dropped ≠ []) : 0 < s.crashes := by
  have hQ := (reachable_invJ h).q hE
  simp only [quiescent, Bool.and_eq_true, beq_iff_eq, List.all_eq_true] at hq
  obtain ⟨⟨⟨_, hmons⟩, _⟩, _⟩ := hq
  -- a thread that has ended or was never started is not on its `except` path
  have hz : excCount s = 0 := by
    rw [excCount, ← excCountL_append]
    refine List.sum_eq_zero_iff_forall_eq_nat.2 fun x hx => ?_
    obtain ⟨m, hm, rfl⟩ := List.mem_map.1 hx
    have hal := hmons m hm
    simp only [monAlive, Bool.not_and, Bool.or_eq_true, Bool.not_eq_true', bne_eq_false_iff_eq] at hal
    rcases hal with e | e <;> rw [excOf, e]
  have hl : 0 < s.dropped.length := List.length_pos_iff.2 hd
  rw [hz] at hQ
  omega

/-- all five executors have a non-empty `except` path -/
theorem exc_paths : docker.mExc ≠ [] ∧ awsBatch.mExc ≠ [] ∧ k8s.mExc ≠ [] ∧ gcpBatch.mExc ≠ [] ∧ glue.mExc ≠ [] := by
  decide

/-- **`_submit` tracks the job** (every variant, with or without the reunite path): the step that records a
job puts it into the pending map (directly, or under the id of the in-flight cloud job it is reunited
with) or hands it to the queue (arrayer / Glue pending queue) — never neither; together with
`conservation` it stays in one of the containers until it is reported or `dropped`. -/
theorem submit_tracks_job (V : Variant) (s s' : State) (hph : s.sph = .ins) (hs : stepS V s = some s') :
    s.cur ∈ s'.pending ∨ s.cur ∈ s'.queue := by
  rcases (stepS_frame hs).line with ⟨_, _, _, _, h⟩ | h
  · rcases h with ⟨h, _⟩ | ⟨_, h⟩
    · exact .inl (h ▸ List.mem_append_right _ (.head _))
    · exact .inr (h ▸ List.mem_append_right _ (.head _))
  · exact absurd hph h.1

/-- the four executors the partial theorem applies to -/
theorem wf_variants : WF docker ∧ WF awsBatch ∧ WF k8s ∧ WF gcpBatch :=
  ⟨wf_docker, wf_awsBatch, wf_k8s, wf_gcpBatch⟩

theorem reachable_run (V : Variant) (jobs : List Job) (sched : List Ev) :
    ∀ s, Reachable V jobs s → Reachable V jobs (run V s sched) := by
  induction sched with
  | nil => intro s h; exact h
  | cons e es ih =>
    intro s h
    simp only [run]
    split
    · rename_i s' hs; exact ih s' (Reachable.step e h hs)
    · exact ih s h

def rep (n : Nat) (e : Ev) : List Ev := List.replicate n e

/-- job 0 submitted and completed; the monitor's loop test fails (nothing pending); job 1 is recorded and
`_start` sees `is_running == True`; the monitor runs `stop()` and ends. -/
def schedDocker : List Ev := rep 7 .S ++ rep 9 (.M 0) ++ rep 4 .S ++ rep 6 (.M 0)
def schedBatch : List Ev := rep 7 .S ++ [.A] ++ rep 18 (.M 0) ++ rep 3 .S ++ rep 8 (.M 0)
def schedK8s : List Ev := rep 8 .S ++ [.A] ++ rep 20 (.M 0) ++ rep 4 .S ++ rep 4 (.M 0)
def schedGcp : List Ev := rep 6 .S ++ [.A] ++ rep 13 (.M 0) ++ rep 3 .S ++ rep 8 (.M 0)
def schedGlue : List Ev := rep 10 .S ++ rep 13 (.U 0) ++ rep 14 (.M 0) ++ rep 7 .S ++ rep 2 (.M 0) ++ rep 3 (.U 1)
/-- one job: the submission thread has popped it; the monitor's first loop test sees both containers
empty, calls `stop()`; the submission thread then registers the job and ends. -/
def schedGlueInHand : List Ev := rep 10 .S ++ rep 6 (.U 0) ++ rep 6 (.M 0) ++ rep 7 (.U 0)

/-- non-vacuity of `fault_is_reported`: Docker, one job, the fault armed before its status is processed:
the job is popped and not reported, and the monitor raises the scheduler-level error -/
example : ∃ s, Reachable docker [0] s ∧ quiescent s = true ∧ s.dropped = [0] ∧ s.reported = [] ∧ s.crashes = 1 :=
  ⟨run docker (init [0]) (rep 7 .S ++ [.F] ++ rep 30 (.M 0)), reachable_run _ _ _ _ Reachable.init, by decide⟩

/-- non-vacuity of the reunite path: the listing names an in-flight cloud job for job 1; job 0 goes to the
arrayer, job 1 joins the pending map directly -/
example : ∃ s, Reachable awsBatch [0, 1] s ∧ s.pending = [1] ∧ s.queue = [0] ∧ s.pre = [] :=
  ⟨run awsBatch (init [0, 1]) ([.L 1] ++ rep 8 .S), reachable_run _ _ _ _ Reachable.init, by decide⟩

theorem refuted_docker :
    ∃ s, Reachable docker [0, 1] s ∧ quiescent s = true ∧ lost s = [1] ∧ s.reported = [0] ∧ s.flag = false :=
  ⟨run docker (init [0, 1]) schedDocker, reachable_run _ _ _ _ Reachable.init, by decide⟩

theorem refuted_aws_batch :
    ∃ s, Reachable awsBatch [0, 1] s ∧ quiescent s = true ∧ lost s = [1] ∧ s.reported = [0] ∧ s.flag = false :=
  ⟨run awsBatch (init [0, 1]) schedBatch, reachable_run _ _ _ _ Reachable.init, by decide⟩

theorem refuted_k8s :
    ∃ s, Reachable k8s [0, 1] s ∧ quiescent s = true ∧ lost s = [1] ∧ s.reported = [0] ∧ s.flag = false :=
  ⟨run k8s (init [0, 1]) schedK8s, reachable_run _ _ _ _ Reachable.init, by decide⟩

theorem refuted_gcp_batch :
    ∃ s, Reachable gcpBatch [0, 1] s ∧ quiescent s = true ∧ lost s = [1] ∧ s.reported = [0] ∧ s.flag = false :=
  ⟨run gcpBatch (init [0, 1]) schedGcp, reachable_run _ _ _ _ Reachable.init, by decide⟩

theorem refuted_glue :
    ∃ s, Reachable glue [0, 1] s ∧ quiescent s = true ∧ lost s = [1] ∧ s.reported = [0] ∧ s.flag = false :=
  ⟨run glue (init [0, 1]) schedGlue, reachable_run _ _ _ _ Reachable.init, by decide⟩

theorem refuted_glue_in_hand :
    ∃ s, Reachable glue [0] s ∧ quiescent s = true ∧ lost s = [0] ∧ s.reported = [] ∧ s.hit = false :=
  ⟨run glue (init [0]) schedGlueInHand, reachable_run _ _ _ _ Reachable.init, by decide⟩

/-- non-vacuity of the model and of `no_lost_job_partial`: without the unlucky interleaving (`hit = false`)
both jobs are reported and nothing is lost -/
example : ∃ s, Reachable docker [0, 1] s ∧ quiescent s = true ∧ s.hit = false ∧ lost s = [] ∧ s.reported = [0, 1] :=
  ⟨run docker (init [0, 1]) (rep 11 .S ++ rep 30 (.M 0)), reachable_run _ _ _ _ Reachable.init, by decide⟩

open RedunModel.MonitorLocked in
/-- **No lost job under the locked hand-off.** For every job stream and every interleaving of the
submitter with all monitor threads ever created: when the submitter has finished and no monitor
thread is left, the pending map is empty and every submitted job has been reported exactly as often
as it was submitted. -/
theorem locked_no_lost_job (jobs : List MonitorLocked.Job) (s : MonitorLocked.State)
    (h : MonitorLocked.Reachable jobs s) (hq : MonitorLocked.quiescent s) :
    s.pending = [] ∧ ∀ j, s.reported.count j = jobs.count j := by
  have hI := MonitorLocked.reachable_inv h
  obtain ⟨hdone, hmon, _⟩ := hq
  have hp : s.pending = [] := hI.pending_nil hdone hmon
  refine ⟨hp, ?_⟩
  intro j
  have h1 := hI.cons j
  have h2 := congrArg (List.count j) hI.prog
  have htodo : MonitorLocked.rest s = [] := by
    simp only [MonitorLocked.rest, hdone]
    exact hI.doneNil hdone
  rw [hp] at h1
  simp only [List.count_append, htodo, List.count_nil, Nat.add_zero, Nat.zero_add] at h1 h2
  omega

/-- non-vacuity: a reachable quiescent state of the locked protocol in which two jobs were handled -/
example : ∃ s, MonitorLocked.Reachable [0, 1] s ∧ MonitorLocked.quiescent s ∧ s.reported = [0, 1] :=
  ⟨MonitorLocked.run (MonitorLocked.init [0, 1])
      (List.replicate 12 .S ++ List.replicate 40 .M),
    MonitorLocked.reachable_run _ _ _ MonitorLocked.Reachable.init,
    by unfold MonitorLocked.quiescent; decide, by decide⟩

end RedunModel.C10
