/-
C21 — Upstream dataflow of arguments is recorded.

Model: `RedunModel.Model.Upstreams`.

Reading guide.  `Src` is the expression a task body returned (one evaluation scope); `evalE legacy st s`
evaluates one occurrence against the scope's `_pending_expr` table `st` and returns the new table, the
expression object's final bookkeeping (`Obj`: `call_hash` of task calls, `_upstreams` of everything else) and
the `Argument`/`ArgumentResult` rows recorded for the calls evaluated on the way; `findUps` is
`_find_arg_upstreams`; `producers` / `argSpecs` are the specification.  `legacy = false` is the code as
repaired (default expressions handed to the recorder; duplicate scheduler expressions inherit the
`_upstreams` of the evaluated one), `legacy = true` the code before — kept for the refutation witnesses.
-/
import RedunModel.Lemmas.Upstreams
namespace RedunModel.C21
open RedunModel.Upstreams List

/-- `_find_arg_upstreams` yields exactly the call nodes reachable through containers and through the
`_upstreams` of non-task expressions (never looking inside a task call). -/
theorem findUps_reach (o : Obj) (k : Nat) : k ∈ findUps o ↔ Reach o k :=
  ⟨findUps_sound o k, findUps_complete⟩

/-- **Full strength (repaired code).** For every expression, evaluated against any table whose entries
are right (in particular the empty table at the start of a scope), the recorded upstream set of the
expression is the set of task calls that produced its value: those reachable through lazy operators,
containers and scheduler tasks (`cond`: condition and branch taken; `catch`: the recovery call when the
error was caught) — with duplicates of every kind, defaults, calls without provenance. The table stays
right, so the statement composes over all expressions of the scope. -/
theorem upstreams (s : Src) (st : St) (g : Good st) :
    SetEq (findUps (evalE false st s).2.1) (producers s) ∧ Good (evalE false st s).1 :=
  let ⟨g1, u, _⟩ := evalE_ok s st g
  ⟨u, g1⟩

/-- Every `Argument` row recorded while evaluating the expression belongs to a call of the expression
that is evaluated and records provenance, sits at one of its parameters (position / keyword / defaulted
parameter as keyword) and links exactly the producers of that parameter's expression. -/
theorem rows_upstreams (s : Src) (st : St) (g : Good st) :
    ∀ r ∈ (evalE false st s).2.2, ∃ q ∈ argSpecs s, q.1 = r.call ∧ q.2.1 = r.slot ∧ SetEq r.ups q.2.2 :=
  (evalE_ok s st g).2.2

/-- … and a call that is actually run (not served by an equal expression of the scope) records a row for
each of its parameters: positional ones by position, explicit keywords and **defaulted parameters as
keyword arguments**, each linked to the producers of its (default) expression. -/
theorem defaults_as_kwargs (key : Nat) (args : List Src) (kwnames : List Nat) (kwargs : List Src)
    (defnames : List Nat) (defs : List Src) (st : St) (g : Good st)
    (hnew : lookup st (.call key true args kwnames kwargs defnames defs) = none) :
    ∀ q ∈ posSpecs key args ++ keySpecs key kwnames kwargs ++ keySpecs key defnames defs,
      ∃ r ∈ (evalE false st (.call key true args kwnames kwargs defnames defs)).2.2,
        r.call = q.1 ∧ r.slot = q.2.1 ∧ SetEq r.ups q.2.2 := by
  intro q hq
  obtain ⟨g1, a1, _⟩ := evalL_ok args st g
  obtain ⟨_, a2, _⟩ := evalL_ok kwargs _ g1
  obtain ⟨_, a3, _⟩ := evalL_ok defs [] good_nil
  obtain ⟨r, hr, h1, h2, h3⟩ := (callRows_matches key kwnames defnames a1 a2 a3).exists_left q hq
  simp only [evalE, hnew, if_true, Bool.false_eq_true, if_false]
  exact ⟨r, mem_append_right _ hr, h1.symm, h2.symm, h3⟩

/-- An expression object that is never evaluated contributes no upstream (the branch of a `cond` that is
not taken; before the repair: the sub-expressions of a duplicated scheduler expression). -/
theorem unevaluated_no_upstream (s : Src) : findUps (unev s) = [] := findUps_unev s

private def f2 : Src := .call 2 true [.lit 2] [] [] [] []
private def c1 : Src := .cond (.lit 1) true f2 (.lit 0)
/-- `h(9, cond(1, f(2), 0), cond(1, f(2), 0))` -/
private def dupProg : Src := .call 9 true [.lit 9, c1, c1] [] [] [] []
/-- `g(5, f(2))` with `def g(tag, x, y=src(900))` -/
private def defProg : Src := .call 5 true [.lit 5, f2] [] [] [3] [.call 900 true [.lit 900] [] [] [] []]

/-- **Refuted (old code): duplicated scheduler expression.** The third argument of `dupProg` is produced by
call 2, but the old code recorded no upstream for it; the repaired code records `[2]` for both. -/
theorem legacy_refuted_duplicate_scheduler_expr :
    producers c1 = [2] ∧
    (⟨9, .pos 2, []⟩ : Row) ∈ (evalE true [] dupProg).2.2 ∧
    (⟨9, .pos 1, [2]⟩ : Row) ∈ (evalE true [] dupProg).2.2 ∧
    (⟨9, .pos 2, [2]⟩ : Row) ∈ (evalE false [] dupProg).2.2 := by decide

/-- **Refuted (old code): expression-valued default.** `y` of `defProg` is produced by call 900; the old
code recorded the keyword argument `y` without upstream, the repaired code links it to 900. -/
theorem legacy_refuted_default_expr :
    (⟨5, .key 3, []⟩ : Row) ∈ (evalE true [] defProg).2.2 ∧
    (⟨5, .key 3, [900]⟩ : Row) ∈ (evalE false [] defProg).2.2 ∧
    (⟨5, .pos 1, [2]⟩ : Row) ∈ (evalE true [] defProg).2.2 := by decide

/-- **Partial (old code).** For expressions built from task calls, lazy operators and containers only (no
scheduler tasks), the old code computed the same objects and tables as the repaired code, hence the right
upstream sets for every explicitly passed argument; only rows of defaulted parameters differed. -/
theorem legacy_partial (s : Src) (st : St) (g : Good st) (h : schedFree s = true) :
    SetEq (findUps (evalE true st s).2.1) (producers s) ∧ (evalE true st s).1 = (evalE false st s).1 := by
  have hs := legacy_same s st h
  rw [hs.2]
  exact ⟨(upstreams s st g).1, hs.1⟩

example : Good [] := good_nil
example : SetEq (findUps (evalE false [] dupProg).2.1) [9] := (upstreams dupProg [] good_nil).1
example : schedFree defProg = true := by decide
example : lookup [] defProg = none := rfl
example : argSpecs defProg =
    [(2, .pos 0, []), (900, .pos 0, []), (5, .pos 0, []), (5, .pos 1, [2]), (5, .key 3, [900])] := by decide

end RedunModel.C21
