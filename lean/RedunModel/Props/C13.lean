/-
C13 — Promises settle once and notify every callback exactly once.

Property theorems only; the model is `RedunModel.Model.Promise` (a small-step machine of `redun/promise.py`
with an explicit frame stack, so that re-entrant `then`/`do_resolve`/`do_reject` calls made from inside
callbacks are ordinary interleavings of steps), the invariant proofs are in `RedunModel.Lemmas.Promise`,
`PromiseColl`, `PromiseOrder` and `PromiseSpec`.

Vocabulary.  `Reach s`: `s` is reached from the empty world by any sequence of top-level operations and machine
steps (`Reach.execAll`: everything the driver computes is such a state).  `s.stack = []`: nothing is running
(Python has returned to the caller).  `s.regs[rid]? = some p`: the `rid`-th `then()` call of the history was made
on promise `p` — it put one callback on `p._resolvers` (branch `.res`) and one on `p._rejectors` (`.rej`).
`calls rid b s.log`: how often the branch-`b` callback of that `then()` call has been invoked so far.
-/
import RedunModel.Lemmas.PromiseSpec
import RedunModel.Lemmas.PromiseOrder
namespace RedunModel.C13
open RedunModel.Promise

/-- A settled promise keeps its outcome (branch and value) forever — through any further operations, including
re-entrant `do_resolve`/`do_reject` from inside callbacks.  No hypothesis on the starting state. -/
theorem settle_once {s s' : State} (h : Evolves s s') {p : Nat} {b : Br} {v : Val}
    (hs : status s p = some (.settled b v)) : status s' p = some (.settled b v) :=
  h.ext.2 p b v hs

/-- First settlement wins: `do_resolve`/`do_reject` on a settled promise changes nothing at all (no state
change, no notification). -/
theorem first_wins (s : State) {q : Nat} {b : Br} {v : Val} (hs : status s q = some (.settled b v))
    (b' : Br) (v' : Val) : settle b' q v' s = s :=
  settle_of_not_pending (by rw [hs]; nofun) b' v'

/-- ... and on a pending promise it takes effect: the promise is settled with exactly that branch and value. -/
theorem settle_pending (s : State) {q : Nat} (hs : status s q = some .pending) (b : Br) (v : Val) :
    status (settle b q v s) q = some (.settled b v) :=
  status_settle_pending hs b v

/-- The same for a whole top-level (or scripted) `do_resolve(v')`/`do_reject(v')` statement on a settled promise:
no promise, no list, no running frame changes (only the ghost log records that the call was made). -/
theorem first_wins_op (s : State) {q : Nat} {b : Br} {v : Val} (hs : status s q = some (.settled b v))
    (arg : Val) (b' : Br) (v' : Val) :
    (act arg (.settle b' q v') s).heap = s.heap ∧ (act arg (.settle b' q v') s).stack = s.stack := by
  have h := first_wins (emit (.direct q) s) (q := q) hs b' v'
  simp only [act, lt_of_getElem?_map hs, if_true, h]
  exact ⟨rfl, rfl⟩

/-- non-vacuity: a history in which a promise is resolved -/
example : status (execAll 50 [.new, .settle .res 0 (.int 1)] init) 0 = some (.settled .res (.int 1)) := by rfl

/-- `then()` registers: on an existing promise it is recorded as the next registration, on that promise. -/
theorem then_registers (s : State) (p : Nat) (r j : Option Fn) (hp : p < s.heap.length) :
    (thenOp p r j s).regs = s.regs ++ [p] :=
  thenOp_regs hp

/-- A callback is only ever invoked when its promise is settled, on the branch the promise was settled on, and
with the promise's value ("after settlement", "the matching branch", right argument). -/
theorem invoked_only_as_settled {s : State} (h : Reach s) {rid : Nat} {b : Br} {v : Val}
    (hi : Event.invoke rid b v ∈ s.log) :
    ∃ p, s.regs[rid]? = some p ∧ status s p = some (.settled b v) := by
  obtain ⟨p, pr, h1, h2, h3⟩ := h.inv.logs rid b v hi
  exact ⟨p, h1, SettledAs.status ⟨p, pr, h1, h2, h3⟩ h1⟩

/-- While the promise is pending none of its callbacks has run. -/
theorem not_before_settlement {s : State} (h : Reach s) {rid p : Nat} (hr : s.regs[rid]? = some p)
    (hp : status s p = some .pending) (b : Br) : calls rid b s.log = 0 :=
  ((h.inv.count hr).1 hp b).2

/-- The callback of the other branch never runs. -/
theorem other_branch_never {s : State} (h : Reach s) {rid p : Nat} (hr : s.regs[rid]? = some p)
    {b : Br} {v : Val} (hp : status s p = some (.settled b v)) {b' : Br} (hb : b' ≠ b) :
    calls rid b' s.log = 0 :=
  (((h.inv.count hr).2 b v hp).2 b' hb).2

/-- At most once, at every moment of every history (also in the middle of notifications), for every callback. -/
theorem at_most_once {s : State} (h : Reach s) (rid : Nat) (b : Br) : calls rid b s.log ≤ 1 := by
  have I := h.inv
  by_cases hs : ∃ v, SettledAs s rid b v
  · obtain ⟨v, p, pr, h1, h2, h3⟩ := hs
    have := (I.acct rid p pr h1 h2).2 b v h3
    omega
  · have := (I.zero_of fun v hv => hs ⟨v, hv⟩).2
    omega

/-- **Exactly once.** When nothing is running any more, every `then()` call made on a promise that is settled
on branch `b` has had its branch-`b` callback invoked exactly once — whether it was registered before the
settlement, after it, or from inside another callback. -/
theorem exactly_once {s : State} (h : Reach s) (hq : s.stack = []) {rid p : Nat} (hr : s.regs[rid]? = some p)
    {b : Br} {v : Val} (hp : status s p = some (.settled b v)) : calls rid b s.log = 1 :=
  h.inv.quiet_called hq hr hp

/-- In the middle of a history: the callback of the matching branch is either still queued in exactly one
running notification loop or has run exactly once — it is never lost and never duplicated. -/
theorem never_lost {s : State} (h : Reach s) {rid p : Nat} (hr : s.regs[rid]? = some p)
    {b : Br} {v : Val} (hp : status s p = some (.settled b v)) :
    stackCnt rid b s.stack + calls rid b s.log = 1 :=
  ((h.inv.count hr).2 b v hp).1

/-- A settled promise holds no callbacks any more (they were handed to the notification, references dropped). -/
theorem settled_lists_empty {s : State} (h : Reach s) {p : Nat} {pr : Prom} (hp : s.heap[p]? = some pr)
    {b : Br} {v : Val} (hst : pr.st = .settled b v) : pr.resolvers = [] ∧ pr.rejectors = [] :=
  h.inv.clean p pr b v hp hst

/-- non-vacuity of `exactly_once` and friends on the re-entrant history of the ordering finding:
`p.then(f1 which registers f3 on p); p.then(f2); p.do_resolve(1)` — registrations 0,1,2 on promise 0. -/
def demo : State :=
  execAll 100 [.new,
    .then_ 0 (some (.script 1 [.then_ 0 (some (.script 3 [] (.ret .none))) none] (.ret .none))) none,
    .then_ 0 (some (.script 2 [] (.ret .none))) none,
    .settle .res 0 (.int 1)] init

example : demo.stack.length = 0 ∧ demo.regs = [0, 0, 0] ∧
    calls 0 .res demo.log = 1 ∧ calls 1 .res demo.log = 1 ∧ calls 2 .res demo.log = 1 ∧
    calls 0 .rej demo.log = 0 := by decide

/-- `wrapper` with a plain (non-promise) return value resolves the chained promise with it. -/
theorem chained_plain_value (r : Val) (q : Nat) (s : State) (hr : ∀ p, r ≠ .prom p) :
    finish r q s = settle .res q r s := by
  unfold finish
  cases r with
  | prom p => exact absurd rfl (hr p)
  | _ => rfl

/-- a callback that raises rejects the chained promise with the exception -/
theorem chained_raise (arg : Val) (e q : Nat) (s : State) :
    kont arg (.wrapper (.raise e) q) s = settle .rej q (.err e) s := rfl

/-- **Adoption, partial.** When a callback returns promise `r`, `wrapper` makes one more `then()` call on `r`
(so `exactly_once`, `invoked_only_as_settled`, `other_branch_never` apply to it: its callback of the branch `r`
settles on runs exactly once, with `r`'s value) ... -/
theorem adopts_partial_registers (r q : Nat) (s : State) (hr : r < s.heap.length) :
    (finish (.prom r) q s).regs = s.regs ++ [r] := by
  unfold finish
  exact thenOp_regs (s := emit _ s) hr

/-- ... and that callback is `q.do_resolve` / `q.do_reject`: run on a pending chained promise `q` it gives `q` the
adopted branch and value (and by `first_wins` it changes nothing if `q` was settled before).  Missing for the
full end-to-end statement ("`q` ends with the outcome of `r` unless user code settled `q` itself"): a proof that
nothing else in the library settles `q` between the adoption and that callback; the correspondence check and the
oracle `C13-chained-outcome` cover it on the generated histories only. -/
theorem adopts_partial_effect (b : Br) (q q' : Nat) (v : Val) (s : State) (hq : status s q = some .pending) :
    status (callFn (.adopt b q) q' v s) q = some (.settled b v) := by
  unfold callFn
  exact status_settle_pending (s := push (.finish v q') s) hq b v

/-- non-vacuity / end-to-end instance: `p0.then(f returning p1)`; `p1` is rejected later; the chained promise 2
ends rejected with `p1`'s error. -/
example : status (execAll 100 [.new, .new, .then_ 0 (some (.script 1 [] (.ret (.prom 1)))) none,
    .settle .res 0 (.int 1), .settle .rej 1 (.err 5)] init) 2 = some (.settled .rej (.err 5)) := by rfl

/-- `then()` call numbers on promise `p` whose branch-`b` callback has been invoked, in invocation order -/
def invokedOrder (s : State) (p : Nat) (b : Br) : List Nat :=
  (s.log.filterMap fun
    | .invoke rid b' _ => if b' = b ∧ s.regs[rid]? = some p then some rid else none
    | _ => none).reverse

/-- the full-strength ordering claim of the property: on every promise, callbacks run in registration order -/
def RegistrationOrder (s : State) : Prop := ∀ p b, (invokedOrder s p b).Pairwise (· < ·)

theorem order_refuted_witness : invokedOrder demo 0 .res = [0, 2, 1] ∧ callIds demo = [1, 3, 2] := by decide

/-- **Refuted on the current code**: `p.then(f1)` where `f1` calls `p.then(f3)`, then `p.then(f2)`, then
`p.do_resolve(1)` runs `f1, f3, f2` — the callback registered during the notification (then() call #2) runs before
the one registered earlier (#1). -/
theorem order_refuted_registered_during_notification : ∃ s, Reach s ∧ s.stack = [] ∧ ¬ RegistrationOrder s := by
  refine ⟨demo, Reach.execAll _ _, by decide, ?_⟩
  intro h
  have := h 0 .res
  rw [order_refuted_witness.1] at this
  revert this; decide

/-- What is provable of the ordering clause (**partial**: the full statement `RegistrationOrder` is refuted above).
If the `then()` call number `r2` was made while no running notification loop of its promise had callbacks waiting
(`s.during[r2]? = some false`; in particular every call made from outside the promise's own callbacks), then at the
moment its callback was invoked (log = `l1 ++ invoke r2 .. :: l2`, newest first) every earlier `then()` call `r1` on
the same promise had already had its callback of that branch invoked.  Missing for full strength: calls made
from inside a notification of the same promise (they run at once, before the callbacks still waiting). -/
theorem order_partial {s : State} (h : Reach s) {r1 r2 p : Nat} {b : Br} {v : Val} {l1 l2 : List Event}
    (hlt : r1 < r2) (h1 : s.regs[r1]? = some p) (h2 : s.regs[r2]? = some p) (hd : s.during[r2]? = some false)
    (hl : s.log = l1 ++ Event.invoke r2 b v :: l2) : calls r1 b l2 = 1 :=
  h.pinv.log r1 r2 b v l1 l2 hlt ⟨p, h1, h2⟩ hd hl

/-- the lists of a pending promise and the running notification loops are in registration order -/
theorem lists_in_registration_order {s : State} (h : Reach s) :
    (∀ (p : Nat) (pr : Prom), s.heap[p]? = some pr → ∀ b, (pick b pr).Pairwise RidLt) ∧
    (∀ v todo, Frame.notify v todo ∈ s.stack → todo.Pairwise RidLt) := ⟨h.pinv.heap, h.pinv.frames⟩

/-- the flag is what it is said to be: recorded by `then()` itself; false whenever nothing is running -/
theorem during_recorded (s : State) (p : Nat) (r j : Option Fn) (hp : p < s.heap.length) :
    (thenOp p r j s).during = s.during ++ [waiting p s] :=
  (thenOp_fields hp r j).2.1
theorem not_waiting_when_idle (s : State) (p : Nat) (hq : s.stack = []) : waiting p s = false := by
  simp [waiting, hq]

/-- non-vacuity on the history of the finding: calls #0 (f1), #1 (f2) unflagged, #2 (f3, made inside f1) flagged;
f2 (unflagged) ran after f1. -/
example : demo.during = [false, false, true] ∧ invokedOrder demo 0 .res = [0, 2, 1] := by decide

/-- `Promise.all(ps)` (mode `.all`) / `wait_promises(ps)` (mode `.wait`) on existing promises creates the next
collector record, with exactly these inputs, and returns a new promise (`target`). -/
theorem collector_created {m : Mode} {ps : List Nat} {s : State} (h : refsOk ps s = true) :
    ∃ r, (collect m ps s).colls[s.colls.length]? = some r ∧ r.mode = m ∧ r.subs = ps ∧ r.target = s.heap.length ∧
      (collect m ps s).heap.length = s.heap.length + 1 := by
  rw [collect_eq, if_pos h]
  split
  · refine ⟨newColl m ps s, ?_, rfl, rfl, rfl, ?_⟩
    · rw [settle_colls]; simp [withColl]
    · rw [settle_heap_length]; simp [withColl, newProm]
  · exact ⟨newColl m ps s, by simp [withColl, push], rfl, rfl, rfl, by simp [withColl, newProm, push]⟩

/-- ... and the record keeps its kind, inputs and returned promise for the rest of the history. -/
theorem collector_stable {s s' : State} (h : Evolves s s') {a : Nat} {r : Coll} (hr : s.colls[a]? = some r) :
    ∃ r', s'.colls[a]? = some r' ∧ r'.mode = r.mode ∧ r'.subs = r.subs ∧ r'.target = r.target := by
  have H : Stable fun s' => ∃ r', s'.colls[a]? = some r' ∧ r'.mode = r.mode ∧ r'.subs = r.subs ∧ r'.target = r.target := {
    settle := fun _ _ _ h => by rwa [settle_colls]
    thenOp := fun _ _ _ h => by rwa [thenOp_colls]
    newProm := fun _ h => h
    push := fun _ _ h => h
    emit := fun _ _ h => h
    pop := fun _ _ h => h
    invoked := fun _ h => h
    -- the closures of a collector only change `results`, `num_done` and the ghost `rids` of its record
    setColl := fun {_ a' _} x hx hm hs ht ⟨r', h, e1, e2, e3⟩ => by
      by_cases ha : a = a'
      · subst ha
        cases hx.symm.trans h
        exact ⟨x, (set_lookup (lt_of_getElem? hx)).mpr (.inl ⟨rfl, rfl⟩), hm.trans e1, hs.trans e2, ht.trans e3⟩
      · exact ⟨r', (set_lookup (lt_of_getElem? hx)).mpr (.inr ⟨ha, h⟩), e1, e2, e3⟩
    addColl := fun _ ⟨r', h, e⟩ => ⟨r', getElem?_snoc_eq_some.mpr (.inl h), e⟩ }
  exact H.evolves h ⟨r, hr, rfl, rfl, rfl⟩

/-- `Promise.all` **fulfills with the results in input order when all inputs are fulfilled** (whatever the order
in which they were fulfilled, before or after the call, with duplicates or not). `r` is the closure state of the
`a`-th collector call of the history, `r.subs` its inputs, `r.target` the promise it returned. Hypothesis `hd`:
user code did not call `do_resolve`/`do_reject` on the returned promise itself. -/
theorem all_fulfills {s : State} (h : Reach s) (hq : s.stack = []) {a : Nat} {r : Coll} (hr : s.colls[a]? = some r)
    (hm : r.mode = .all) (hd : Event.direct r.target ∉ s.log)
    (hall : ∀ (i p : Nat), r.subs[i]? = some p → ∃ v, status s p = some (.settled .res v)) :
    ∃ vs, status s r.target = some (.settled .res (.list vs)) ∧ vs.length = r.subs.length ∧
      ∀ (i p : Nat), r.subs[i]? = some p → ∃ v, vs[i]? = some v ∧ status s p = some (.settled .res v) := by
  rcases h.ginv.coll_spec hq hr hd with ⟨_, ⟨i, p, hp, hno⟩, _⟩ | ⟨ht, hres⟩ | ⟨_, e, _, _, j, p, hp, hst⟩
  · obtain ⟨v, hv⟩ := hall i p hp
    exact absurd ⟨.res, v, hv, fun _ => rfl⟩ hno
  · exact ⟨r.results, by simpa [Coll.final, hm] using ht, (h.ginv.c.r.len a r hr).2 hm, fun i p hp => (hres i p hp).2 hm⟩
  · obtain ⟨v, hv⟩ := hall j p hp
    rw [hst] at hv; cases hv

/-- `Promise.all` **rejects when some input is rejected, with the first rejection it observed**: the error is the
one the first of its `fail` callbacks was invoked with (`FirstFail`), which is the error of a rejected input. -/
theorem all_rejects {s : State} (h : Reach s) (hq : s.stack = []) {a : Nat} {r : Coll} (hr : s.colls[a]? = some r)
    (hm : r.mode = .all) (hd : Event.direct r.target ∉ s.log)
    (hrej : ∃ (i p : Nat) (e : Val), r.subs[i]? = some p ∧ status s p = some (.settled .rej e)) :
    ∃ e, status s r.target = some (.settled .rej e) ∧ FirstFail r.rids e s.log ∧
      ∃ (j p : Nat), r.subs[j]? = some p ∧ status s p = some (.settled .rej e) := by
  obtain ⟨i, p, e, hp, hst⟩ := hrej
  rcases h.ginv.coll_spec hq hr hd with ⟨_, _, hno⟩ | ⟨_, hres⟩ | ⟨_, hrej⟩
  · exact absurd hst (hno hm i p e hp)
  · obtain ⟨v, _, hv⟩ := (hres i p hp).2 hm
    rw [hst] at hv; cases hv
  · exact hrej

/-- ... and stays pending while no input is rejected and some input is still pending. -/
theorem all_pending {s : State} (h : Reach s) (hq : s.stack = []) {a : Nat} {r : Coll} (hr : s.colls[a]? = some r)
    (hm : r.mode = .all) (hd : Event.direct r.target ∉ s.log)
    (hnorej : ∀ (i p : Nat) (e : Val), r.subs[i]? = some p → status s p ≠ some (.settled .rej e))
    (hpend : ∃ (i p : Nat), r.subs[i]? = some p ∧ status s p = some .pending) :
    status s r.target = some .pending := by
  obtain ⟨i, p, hp, hst⟩ := hpend
  rcases h.ginv.coll_spec hq hr hd with ⟨ht, _⟩ | ⟨_, hres⟩ | ⟨_, e, _, _, j, p', hp', hst'⟩
  · exact ht
  · obtain ⟨v, _, hv⟩ := (hres i p hp).2 hm
    rw [hst] at hv; cases hv
  · exact absurd hst' (hnorej j p' e hp')

/-- `wait_promises` **fulfills (with the list of its inputs) once every input has settled**, either way. -/
theorem wait_fulfills {s : State} (h : Reach s) (hq : s.stack = []) {a : Nat} {r : Coll} (hr : s.colls[a]? = some r)
    (hm : r.mode = .wait) (hd : Event.direct r.target ∉ s.log)
    (hall : ∀ (i p : Nat), r.subs[i]? = some p → ∃ b v, status s p = some (.settled b v)) :
    status s r.target = some (.settled .res (.list (r.subs.map .prom))) := by
  rcases h.ginv.coll_spec hq hr hd with ⟨_, ⟨i, p, hp, hno⟩, _⟩ | ⟨ht, _⟩ | ⟨hm', _⟩
  · obtain ⟨b, v, hv⟩ := hall i p hp
    exact absurd ⟨b, v, hv, fun h => by rw [hm] at h; cases h⟩ hno
  · simpa [Coll.final, hm] using ht
  · rw [hm] at hm'; cases hm'

/-- ... and not before: while some input is pending it is pending. -/
theorem wait_pending {s : State} (h : Reach s) (hq : s.stack = []) {a : Nat} {r : Coll} (hr : s.colls[a]? = some r)
    (hm : r.mode = .wait) (hd : Event.direct r.target ∉ s.log)
    (hpend : ∃ (i p : Nat), r.subs[i]? = some p ∧ status s p = some .pending) :
    status s r.target = some .pending := by
  obtain ⟨i, p, hp, hst⟩ := hpend
  rcases h.ginv.coll_spec hq hr hd with ⟨ht, _⟩ | ⟨_, hres⟩ | ⟨hm', _⟩
  · exact ht
  · obtain ⟨_, _, hv, _⟩ := (hres i p hp).1
    rw [hst] at hv; cases hv
  · rw [hm] at hm'; cases hm'

/-- non-vacuity of the collector theorems: `all([p0,p1])` and `wait_promises([p0,p1])`, inputs settled in the
opposite order; then the same with a rejection. Promises: 0,1 inputs, 2 = all's, 5 = wait's (3,4,6,7 chained). -/
def demoAll : State :=
  execAll 200 [.new, .new, .all [0, 1], .wait [0, 1], .settle .res 1 (.int 2), .settle .res 0 (.int 1)] init
def demoRej : State :=
  execAll 200 [.new, .new, .all [0, 1], .wait [0, 1], .settle .rej 1 (.err 7), .settle .res 0 (.int 1)] init

example : demoAll.stack.length = 0 ∧ (demoAll.colls.map (·.target)) = [2, 5] ∧ (demoAll.colls.map (·.subs)) = [[0, 1], [0, 1]] := by decide
example : status demoAll 2 = some (.settled .res (.list [.int 1, .int 2])) := by rfl
example : status demoAll 5 = some (.settled .res (.list [.prom 0, .prom 1])) := by rfl
example : status demoRej 2 = some (.settled .rej (.err 7)) := by rfl
example : status demoRej 5 = some (.settled .res (.list [.prom 0, .prom 1])) := by rfl

end RedunModel.C13
