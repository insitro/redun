/-
C37 — The task registry stays consistent.

Model: `RedunModel.Model.Registry` (`TaskRegistry.add/rename/_decrement_hash_count/task_hashes/get`,
`wraps_task.create_tasks/recursive_rename`). Helper lemmas: `RedunModel.Lemmas.Registry` (the invariant
`Inv` and its preservation by every registry operation).
All theorems quantify over every history (`List Op`) of definitions / redefinitions / renames / wraps
with arbitrary names, hashes and wrapper names, starting from the empty registry.
-/
import RedunModel.Lemmas.Registry
namespace RedunModel.C37
open RedunModel.Registry

/-- The count kept for every hash is exactly the number of registered tasks with that hash. -/
theorem counts_exact (ops : List Op) (h : H) : cnt h (run ops).counts = occ h (run ops).tasks :=
  (run_inv ops).exact h

/-- "All entries have positive non-zero counts" (the assertion inside `task_hashes` never fires). -/
theorem counts_positive (ops : List Op) : ∀ p ∈ (run ops).counts, 1 ≤ p.2 := (run_inv ops).pos

/-- `task_hashes` = the set of hashes of the tasks the registry holds. -/
theorem task_hashes_eq (ops : List Op) (h : H) :
    h ∈ taskHashes (run ops) ↔ ∃ p ∈ (run ops).tasks, p.2.hash = h := by
  rw [mem_taskHashes_iff _ (run_inv ops), (run_inv ops).exact h, occ_pos_iff]

/-- Every registered task is stored under, and found by, its current full name; names are unique keys. -/
theorem lookup_current_name (ops : List Op) : ∀ p ∈ (run ops).tasks,
    p.1 = p.2.fullname ∧ get p.2.fullname (run ops) = some p.2 := by
  intro p hp
  have hi := run_inv ops
  have hk := hi.keyFull p hp
  refine ⟨hk, ?_⟩
  obtain ⟨k, t⟩ := p
  simp only at hk ⊢
  subst hk
  exact lookup_of_mem hi.keysNodup hp

/-- Read-only queries are pure: `get(task_name=)`, `get(hash=)` and iteration leave the registry — names, counts,
`task_hashes` — exactly as it was, whatever is asked for (registered, formerly registered or unknown). -/
theorem lookup_pure (r : Reg) (n : String) (h : H) :
    step r (.getName n) = r ∧ step r (.getHash h) = r ∧ step r .iterate = r := ⟨rfl, rfl, rfl⟩

/-- so interleaving any number of queries into a history changes nothing -/
theorem queries_do_not_matter (ops : List Op) (q : Op) (hq : (∃ n, q = .getName n) ∨ (∃ h, q = .getHash h) ∨ q = .iterate)
    (ops' : List Op) : run (ops ++ q :: ops') = run (ops ++ ops') := by
  have hs : ∀ r, step r q = r := by
    intro r
    rcases hq with ⟨n, rfl⟩ | ⟨h, rfl⟩ | rfl <;> rfl
  simp [run, List.foldl_append, List.foldl_cons, hs]

/-- The by-hash lookup finds a task exactly for the hashes with a non-zero count (the fact a count-based fast path
would rely on), and what it finds is a registered task with that hash. -/
theorem get_hash_none_iff_count_zero (ops : List Op) (h : H) :
    getByHash h (run ops) = none ↔ cnt h (run ops).counts = 0 := getByHash_none_iff _ (run_inv ops) h

theorem get_hash_finds_registered (ops : List Op) (h : H) (t : Registry.Task) (hs : getByHash h (run ops) = some t) :
    t.hash = h ∧ ∃ k, (k, t) ∈ (run ops).tasks := getByHash_some _ h t hs

theorem names_unique (ops : List Op) : ((run ops).tasks.map (·.1)).Nodup := (run_inv ops).keysNodup

/-- Wrapping a registered plain task with a wrapper named `w`: the wrapper is registered under the
visible name (same name and namespace, pointing at the hidden task), and the original task is found at
`namespace.w.name` (`w.name` for an empty namespace), unchanged apart from its namespace. -/
theorem wrap_names (r : Reg) (t : Task) (w : String) (woid : Nat) (wh : H → H)
    (hreg : get t.fullname r = some t) (hplain : t.wrapped = none) (hw : w ≠ "") :
    let hidden : Task := { t with ns := sfx t.ns w }
    (wrap t w woid wh r).2 = none ∧
    get t.fullname (wrap t w woid wh r).1 = some ⟨woid, t.ns, t.name, wh t.hash, some hidden.fullname⟩ ∧
    get hidden.fullname (wrap t w woid wh r).1 = some hidden := by
  intro hidden
  have hne : hidden.fullname ≠ t.fullname :=
    mt (congrArg String.length) (by have := fullname_sfx_length t.ns t.name w hw; simp only [hidden, Task.fullname]; omega)
  simp only [wrap, recursiveRename_plain (Nat.succ_ne_zero _) r t w hreg hplain]
  refine ⟨trivial, get_add_self ⟨woid, t.ns, t.name, wh t.hash, some hidden.fullname⟩ _, ?_⟩
  rw [get_add_ne _ _ _ (by exact hne)]
  exact get_add_self hidden _

/-- Stacked wrappers: `t` is a wrapper registered at the visible name whose hidden task `it` (plain)
lives at `namespace.w1.name` (the state `wrap_names` produces). Wrapping again with `w2` keeps the
visible name for the new wrapper, moves `t` to `namespace.w2.name` with its pointer updated, and moves
`it` to `namespace.w1.w2.name`. -/
theorem wrap_names_stacked (r : Reg) (t it : Task) (w1 w2 : String) (woid : Nat) (wh : H → H)
    (hreg : get t.fullname r = some t) (hw : t.wrapped = some it.fullname)
    (hit : get it.fullname r = some it) (hplain : it.wrapped = none)
    (hns : it.ns = sfx t.ns w1) (hname : it.name = t.name) (hoid : it.oid ≠ t.oid)
    (hw1 : w1 ≠ "") (hw2 : w2 ≠ "") :
    let itNew : Task := { it with ns := sfx it.ns w2 }
    let tNew : Task := { t with ns := sfx t.ns w2, wrapped := some itNew.fullname }
    (wrap t w2 woid wh r).2 = none ∧
    get t.fullname (wrap t w2 woid wh r).1 = some ⟨woid, t.ns, t.name, wh t.hash, some tNew.fullname⟩ ∧
    get tNew.fullname (wrap t w2 woid wh r).1 = some tNew ∧
    get itNew.fullname (wrap t w2 woid wh r).1 = some itNew := by
  intro itNew tNew
  -- the four names have different lengths
  have Lit : it.fullname.length = t.fullname.length + w1.length + 1 := by
    simp only [Task.fullname, hns, hname]; exact fullname_sfx_length _ _ _ hw1
  have LitNew : itNew.fullname.length = it.fullname.length + w2.length + 1 := fullname_sfx_length _ _ _ hw2
  have LtNew : tNew.fullname.length = t.fullname.length + w2.length + 1 := fullname_sfx_length _ _ _ hw2
  have n1 : t.fullname ≠ it.fullname := mt (congrArg String.length) (by omega)
  have n2 : t.fullname ≠ itNew.fullname := mt (congrArg String.length) (by omega)
  have n3 : itNew.fullname ≠ tNew.fullname := mt (congrArg String.length) (by omega)
  have n4 : tNew.fullname ≠ t.fullname := mt (congrArg String.length) (by omega)
  have hfuel : r.tasks.length ≠ 0 := fun h => by
    rw [Registry.get, List.eq_nil_of_length_eq_zero h] at hreg; cases hreg
  -- `it` is renamed first, then `t`, found with its pointer updated
  have hin := recursiveRename_plain hfuel r it w2 hit hplain
  have hgt : get t.fullname (setWrapped t.oid itNew.fullname (add itNew ⟨erase it.fullname r.tasks, decr it.hash r.counts⟩))
      = some { t with wrapped := some itNew.fullname } := by
    rw [get_setWrapped, get_add_ne _ _ _ n2, get_erase_ne _ _ _ _ n1, hreg, Option.map_some, if_pos rfl]
  simp only [wrap, recursiveRename_wrapped _ r _ t it _ w2 _ _ hw hit hin hgt]
  refine ⟨trivial, get_add_self ⟨woid, t.ns, t.name, wh t.hash, some tNew.fullname⟩ _, ?_, ?_⟩
  · rw [get_add_ne _ _ _ (by exact n4)]
    exact get_add_self tNew _
  · rw [get_add_ne _ _ _ (by exact n2.symm), get_add_ne _ _ _ (by exact n3), get_erase_ne _ _ _ _ n2.symm, get_setWrapped,
      get_add_self, Option.map_some, if_neg hoid]

/-! non-vacuity: a definition wrapped twice (closed instance of both theorems' hypotheses and conclusions) -/
def exampleOps : List Op :=
  [.define ⟨0, "ns", "a", "h0", none⟩, .define ⟨3, "", "b", "h0", none⟩,
   .wrap "ns.a" "w" 1 (fun h => "W(" ++ h ++ ")"), .wrap "ns.a" "v" 2 (fun h => "V(" ++ h ++ ")")]
example : get "ns.a" (run exampleOps) = some ⟨2, "ns", "a", "V(W(h0))", some "ns.v.a"⟩ := by decide +kernel
example : get "ns.v.a" (run exampleOps) = some ⟨1, "ns.v", "a", "W(h0)", some "ns.w.v.a"⟩ := by decide +kernel
example : get "ns.w.v.a" (run exampleOps) = some ⟨0, "ns.w.v", "a", "h0", none⟩ := by decide +kernel
example : cnt "h0" (run exampleOps).counts = 2 ∧ taskHashes (run exampleOps) = ["h0", "W(h0)", "V(W(h0))"] := by decide +kernel

end RedunModel.C37
