/-
C24 — Tag history behaves like a key-value multiset; the tag edit graph stays acyclic.

Model: `RedunModel.Model.Tags` (`record_tags` / `delete_tags` as called by `redun tag add | update | rm`,
hashes symbolic).  All theorems quantify over every command sequence, of any length, on any entities, keys
and values; none needs a well-formedness hypothesis on the commands.  The refinement is stated for real
entities (`e ≠ ""`; the empty entity id is the one delete markers are filed under).
-/
import RedunModel.Lemmas.Tags
namespace RedunModel.C24
open RedunModel.Tags

theorem inv_init : Inv init := by
  refine ⟨⟨?_, ?_, ?_⟩, ?_, ?_, ?_, ?_⟩ <;> simp [init]

theorem agree_init : Agree init [] := by
  intro t _; simp [init, St.Cur]

theorem step_spec (st : St) (sp : Spec) (op : Op) (hi : Inv st) (ha : Agree st sp) :
    ∃ st', st.step op = .ok st' ∧ Inv st' ∧ Agree st' (sp.step op) := by
  cases op with
  | add e kvs => obtain ⟨st', h1, h2, h3, _⟩ := step_add st sp e kvs hi ha; exact ⟨st', h1, h2, h3⟩
  | update e kvs => exact step_update st sp e kvs hi ha
  | rm e pairs keys => exact step_rm st sp e pairs keys hi ha

theorem run_spec (st : St) (sp : Spec) (ops : List Op) (hi : Inv st) (ha : Agree st sp) :
    ∃ st', run st ops = .ok st' ∧ Inv st' ∧ Agree st' (Spec.run sp ops) := by
  induction ops generalizing st sp with
  | nil => exact ⟨st, rfl, hi, ha⟩
  | cons op ops ih =>
    obtain ⟨st1, h1, hi1, ha1⟩ := step_spec st sp op hi ha
    obtain ⟨st2, h2, hi2, ha2⟩ := ih st1 (sp.step op) hi1 ha1
    exact ⟨st2, by simp only [run, h1, h2], hi2, by simpa [Spec.run] using ha2⟩

/-- `C24_walk_terminates`: no command sequence makes the walk down the edit graph run out of fuel
(the only error of the model), i.e. `record_tags`'s recursion always ends. -/
theorem run_total (ops : List Op) : ∃ st, run init ops = .ok st := by
  obtain ⟨st, h, _⟩ := run_spec init [] ops inv_init agree_init
  exact ⟨st, h⟩

/-- The table invariant holds after every command sequence: unique ids and pre-images, parents are older
tags, `tag_edit` is exactly the "is listed as parent of" relation, and a tag is current iff it has no
outgoing edit. -/
theorem inv_run (ops : List Op) (st : St) (h : run init ops = .ok st) : Inv st := by
  obtain ⟨st', h', hi, _⟩ := run_spec init [] ops inv_init agree_init
  rw [h] at h'; cases h'; exact hi

inductive Path (E : List (Nat × Nat)) : Nat → Nat → Prop where
  | edge {a b : Nat} : (a, b) ∈ E → Path E a b
  | cons {a b c : Nat} : (a, b) ∈ E → Path E b c → Path E a c

theorem path_lt {st : St} (hi : Inv st) {a b : Nat} (hp : Path st.edges a b) : a < b := by
  induction hp with
  | edge h => exact (edge_lt_next hi h).1
  | cons h _ ih => exact Nat.lt_trans (edge_lt_next hi h).1 ih

theorem acyclic (ops : List Op) (st : St) (h : run init ops = .ok st) (x : Nat) : ¬ Path st.edges x x :=
  fun hp => Nat.lt_irrefl x (path_lt (inv_run ops st h) hp)

/-- I1: a tag is current exactly when nothing supersedes it. -/
theorem current_iff_leaf (ops : List Op) (st : St) (h : run init ops = .ok st) (r : Row) (hr : r ∈ st.rows) :
    r.cur = true ↔ st.hasChild r.id = false :=
  (inv_run ops st h).curIff r hr

/-- I2: every edit goes from a tag to a tag that lists it among its hashed parents (so the child's hash
pre-image contains the parent's hash). -/
theorem edit_iff_parent (ops : List Op) (st : St) (h : run init ops = .ok st) (p c : Nat) :
    (p, c) ∈ st.edges ↔ ∃ r ∈ st.rows, r.id = c ∧ p ∈ r.pre.parents :=
  (inv_run ops st h).edgeIff p c

/-- A tag proposed with a non-empty set of current parents never pre-exists: "invalidate the parents" and
"insert the tag and its edits" always happen together, so the `UPDATE` that `record_tags` leaves
uncommitted when there is nothing to insert is unreachable. -/
theorem fresh_with_parents (ops : List Op) (st : St) (h : run init ops = .ok st) (p : Pre)
    (hne : p.parents ≠ []) (hcur : ∀ par ∈ p.parents, ∃ r ∈ st.rows, r.id = par ∧ r.cur = true) :
    st.lookup p = none :=
  lookup_none_of_current_parents (inv_run ops st h) hne hcur

/-- Refinement: after any command sequence the current pairs of every real entity are exactly those of the
key-value reference (add inserts, update replaces all values of the given keys, rm removes the given
pairs / keys). -/
theorem refines_spec (ops : List Op) (st : St) (h : run init ops = .ok st) (e k v : String) (he : e ≠ "") :
    (k, v) ∈ st.current e ↔ (e, k, v) ∈ Spec.run [] ops := by
  obtain ⟨st', h', _, ha⟩ := run_spec init [] ops inv_init agree_init
  rw [h] at h'; cases h'; exact mem_current.trans (ha (e, k, v) he)

theorem run_append (st : St) (ops1 ops2 : List Op) :
    run st (ops1 ++ ops2) = (match run st ops1 with | .ok st1 => run st1 ops2 | .error e => .error e) := by
  induction ops1 generalizing st with
  | nil => simp [run]
  | cons op ops ih =>
    simp only [List.cons_append, run]
    cases st.step op with
    | ok st1 => exact ih st1
    | error e => rfl

/-- Re-adding makes a pair current again, whatever happened before (in particular after it was removed
or superseded). -/
theorem readd_current (ops : List Op) (e : String) (kvs : List (String × String)) (st : St)
    (h : run init (ops ++ [.add e kvs]) = .ok st) (kv : String × String) (hkv : kv ∈ kvs) :
    (kv.1, kv.2) ∈ st.current e := by
  obtain ⟨st1, h1, hi1, ha1⟩ := run_spec init [] ops inv_init agree_init
  obtain ⟨st2, h2, _, _, hcov⟩ := step_add st1 (Spec.run [] ops) e kvs hi1 ha1
  rw [run_append, h1] at h
  simp only [run, h2] at h
  cases h
  exact hcov kv hkv

-- the two sequences DESIGN.md names for non-vacuity
example : (match run init [.add "e" [("k", "1")], .rm "e" [("k", "1")] [], .add "e" [("k", "1")],
    .rm "e" [("k", "1")] [], .add "e" [("k", "1")]] with
    | .ok st => (st.current "e", st.rows.length, st.edges.length) | .error _ => ([], 0, 0))
    = ([("k", "1")], 5, 4) := by decide

example : (match run init [.add "e" [("k", "1")], .update "e" [("k", "1")], .rm "e" [("k", "1")] []] with
    | .ok st => (st.current "e", st.rows.length, st.edges.length) | .error _ => ([("", "")], 0, 0))
    = ([], 3, 2) := by decide

/-- the implementation can hold the same pair twice (root tag re-added next to an updated copy): the
reference is compared on supports -/
example : (match run init [.add "e" [("k", "1")], .add "e" [("k", "2")], .update "e" [("k", "1")],
    .add "e" [("k", "1")]] with
    | .ok st => st.current "e" | .error _ => []) = [("k", "1"), ("k", "1")] := by decide

end RedunModel.C24
