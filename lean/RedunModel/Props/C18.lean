/-
C18 — Expression identity matches the call it denotes.

Model: `RedunModel.Model.ExprHash` (`hashOf` = `Expression.get_hash`, with the repair of
harness/findings_proposed/C18-scheduler-expression-options.fix.diff; `hashOfOld` = before it;
`getstate`/`setstate`).  Hashes are symbolic pre-images: `TypeRegistry.get_hash` on plain values and
`hash_bytes(pickle_dumps(options))` are injective labels (trusted).
-/
import RedunModel.Lemmas.ExprHash
namespace RedunModel.C18
open RedunModel.Pre RedunModel.ExprHash List

/-- What C18 calls "the same call" (one level deep; argument identity is the equality of the
argument hashes, to which the theorem applies again): same expression kind, same task / operator
name, same positional argument hashes, same keyword arguments (as a dict of hashes), same call-time
options, same exported options (as a set), same wrapped value. -/
structure SameCall (a b : Node) : Prop where
  kind : kind a = kind b
  name : nameOf a = nameOf b
  args : (argsOf a).map hashOf = (argsOf b).map hashOf
  kwargs : ((kwargsOf a).map (fun ka => (ka.1, hashOf ka.2))).Perm ((kwargsOf b).map (fun ka => (ka.1, hashOf ka.2)))
  opts : optsOf a = optsOf b
  exportOpts : (exportOf a).Perm (exportOf b)
  value : valueOf a = valueOf b

/-- the record tag of each expression class (a plain value's hash is no record) -/
def kindTag : Kind → Option String
  | .lit => none
  | .task => some "TaskExpression"
  | .sched => some "SchedulerExpression"
  | .simple => some "SimpleExpression"
  | .value => some "ValueExpression"

theorem leadTag_hashOf (a : Node) : leadTag (hashOf a) = kindTag (kind a) := by
  cases a <;> rfl

theorem kindTag_inj {k k' : Kind} : kindTag k = kindTag k' → k = k' := by
  cases k <;> cases k' <;> simp [kindTag]

theorem kind_eq_of_hash_eq {a b : Node} (h : hashOf a = hashOf b) : kind a = kind b :=
  kindTag_inj (by rw [← leadTag_hashOf, h, leadTag_hashOf])

/-- The part the three call-like classes share: record tag, name, arguments, then class-specific fields. -/
theorem call_inj {t t' n n' : String} {a a' : List Node} {k k' : List (String × Node)} {r r' : List Pre}
    (h : Pre.hash (.list (.str t :: .str n :: taskArguments (hashList a) (hashKw k) :: r))
      = .hash (.list (.str t' :: .str n' :: taskArguments (hashList a') (hashKw k') :: r'))) :
    n = n' ∧ a.map hashOf = a'.map hashOf ∧
      (k.map fun ka => (ka.1, hashOf ka.2)).Perm (k'.map fun ka => (ka.1, hashOf ka.2)) ∧ r = r' := by
  simp only [record_inj, cons.injEq, Pre.str.injEq, taskArguments_inj, hashList_eq_map, hashKw_eq_map] at h
  exact ⟨h.2.1, h.2.2.1.1, perm_of_sortKw_eq h.2.2.1.2, h.2.2.2⟩

theorem exportTail_inj {e e' : List String}
    (h : (if e = [] then [] else [exportHash e]) = (if e' = [] then [] else [exportHash e'])) : e.Perm e' := by
  by_cases h1 : e = [] <;> by_cases h2 : e' = [] <;> simp only [h1, h2, if_true, if_false, cons.injEq, and_true] at h
  · rw [h1, h2]
  · cases h
  · cases h
  · exact exportHash_inj h

theorem schedTail_inj {o o' : Opts} {e e' : List String}
    (h : (if o = [] ∧ e = [] then [] else [Pre.opts o, exportHash e])
      = (if o' = [] ∧ e' = [] then [] else [.opts o', exportHash e'])) : o = o' ∧ e.Perm e' := by
  by_cases h1 : o = [] ∧ e = [] <;> by_cases h2 : o' = [] ∧ e' = [] <;>
    simp only [h1, h2, if_true, if_false, cons.injEq, Pre.opts.injEq, and_true] at h
  · rw [h1.1, h1.2, h2.1, h2.2]; exact ⟨rfl, Perm.refl _⟩
  · cases h
  · cases h
  · exact ⟨h.1, exportHash_inj h.2⟩

/-- C18: two expressions (or plain values) with the same hash denote the same call.  In particular
Scheduler expressions with different options have different hashes. -/
theorem hash_eq_imp_same_call (a b : Node) (h : hashOf a = hashOf b) : SameCall a b := by
  have hk := kind_eq_of_hash_eq h
  cases a <;> cases b <;> cases hk
  case lit.lit | value.value =>
    cases h; exact ⟨rfl, rfl, rfl, Perm.refl _, rfl, Perm.refl _, rfl⟩
  case simple.simple =>
    obtain ⟨hn, ha, hkw, _⟩ := call_inj h
    exact ⟨rfl, hn, ha, hkw, rfl, Perm.refl _, rfl⟩
  case task.task =>
    obtain ⟨hn, ha, hkw, hr⟩ := call_inj h
    exact ⟨rfl, hn, ha, hkw, Pre.opts.inj (cons.inj hr).1, exportTail_inj (cons.inj hr).2, rfl⟩
  case sched.sched =>
    obtain ⟨hn, ha, hkw, hr⟩ := call_inj h
    exact ⟨rfl, hn, ha, hkw, (schedTail_inj hr).1, (schedTail_inj hr).2, rfl⟩

/-- …hence Scheduler expressions that differ in their call-time options have different hashes -/
theorem sched_options_separate (n : String) (a : List Node) (k : List (String × Node)) (o o' : Opts)
    (e : List String) (l l' : Option Nat) (h : o ≠ o') :
    hashOf (.sched n a k o e l) ≠ hashOf (.sched n a k o' e l') :=
  fun he => h (hash_eq_imp_same_call _ _ he).opts

/-- and expressions of different kinds never share a hash -/
theorem kinds_separate (a b : Node) (h : kind a ≠ kind b) : hashOf a ≠ hashOf b :=
  fun he => h (kind_eq_of_hash_eq he)

/-- The converse direction, for the parts the hash is meant to ignore: keyword order, the iteration
order of the export-option set, and `length`. -/
theorem hash_ignores_kw_order_export_order_length (n : String) (a : List Node) (k k' : List (String × Node))
    (o : Opts) (e e' : List String) (l l' : Option Nat) (hk : k.Perm k') (hn : (keys k).Nodup) (he : e.Perm e') :
    hashOf (.task n a k o e l) = hashOf (.task n a k' o e' l') ∧
    hashOf (.sched n a k o e l) = hashOf (.sched n a k' o e' l') := by
  have h1 : sortKw (hashKw k) = sortKw (hashKw k') := by
    rw [hashKw_eq_map, hashKw_eq_map]
    refine sortKw_eq_of_perm (hk.map _) ?_
    simpa [keys, Function.comp_def] using hn
  have h2 : e = [] ↔ e' = [] := by
    constructor <;> intro h <;> subst h
    · exact he.symm.eq_nil
    · exact he.eq_nil
  have h3 : exportHash e = exportHash e' := by simp [exportHash, sortS_eq_of_perm he]
  simp only [hashOf, taskArguments, h1, h2, h3, and_self]

/-- Serialising and deserialising an expression object gives back an object that denotes the same
node (hence the same hash, arguments, options, exported options, length, value) with the per-run
bookkeeping cleared. -/
theorem roundtrip (o : Obj) (h : kind o.node ≠ .lit) :
    setstate (kind o.node) (getstate o)
      = .ok { node := o.node, callHash := none, upstreams := none, hashCached := false } := by
  obtain ⟨n, c, u, hc⟩ := o
  cases n <;> first | exact absurd rfl h | rfl

theorem roundtrip_hash (o o' : Obj) (h : setstate (kind o.node) (getstate o) = .ok o') :
    hashOf o'.node = hashOf o.node ∧ o'.callHash = none ∧ o'.upstreams = none ∧ o'.hashCached = false := by
  by_cases hk : kind o.node = .lit
  · obtain ⟨n, c, u, hc⟩ := o
    cases n <;> simp [kind] at hk
    simp [setstate, kind] at h
  · rw [roundtrip o hk] at h
    cases h; exact ⟨rfl, rfl, rfl, rfl⟩

/-- States written by older versions (no `task_options` / `export_options` / `length` keys) load with
empty options; a state without the mandatory keys raises KeyError. -/
theorem setstate_legacy (n : String) (a : List Node) (k : List (String × Node)) :
    setstate .task { taskName := some n, args := some a, kwargs := some k }
      = .ok { node := .task n a k [] [] none, callHash := none, upstreams := none, hashCached := false } ∧
    setstate .task { args := some a, kwargs := some k } = .error .keyError := ⟨rfl, rfl⟩

/-- Finding F10.  `catch(e, E, r)` vs `catch.options(cache_scope="NONE")(e, E, r)`: before the repair the two
Scheduler expressions have the same hash although their call-time options differ. -/
theorem refuted_old_scheduler_options :
    hashOfOld (.sched "redun.catch" [.lit 1, .lit 2, .lit 3] [] [] [] none)
      = hashOfOld (.sched "redun.catch" [.lit 1, .lit 2, .lit 3] [] [("cache_scope", 7)] [] none) := rfl

/-- …with the repair they differ (instance of `sched_options_separate`, whose hypotheses can thus be met). -/
theorem fixed_scheduler_options :
    hashOf (.sched "redun.catch" [.lit 1, .lit 2, .lit 3] [] [] [] none)
      ≠ hashOf (.sched "redun.catch" [.lit 1, .lit 2, .lit 3] [] [("cache_scope", 7)] [] none) :=
  sched_options_separate _ _ _ _ _ _ _ _ (by simp)

example : hashOf (.task "f" [.lit 1] [("a", .value 2)] [] ["prov"] none)
    ≠ hashOf (.task "f" [.lit 1] [("a", .value 2)] [] [] none) := fun h => by
  have := (hash_eq_imp_same_call _ _ h).exportOpts.length_eq
  simp [exportOf] at this

example : hashOf (.task "f" [.task "g" [.lit 1] [] [] [] none] [] [] [] none)
    ≠ hashOf (.task "f" [.task "g" [.lit 2] [] [] [] none] [] [] [] none) := fun h => by
  have h1 := (hash_eq_imp_same_call _ _ h).args
  simp only [argsOf, map_cons, map_nil, cons.injEq, and_true] at h1
  have h2 := (hash_eq_imp_same_call _ _ h1).args
  simp [argsOf, hashOf] at h2

end RedunModel.C18
