/-
C28 — Dry runs execute nothing and predict the real run.

Model: `RedunModel.Model.SchedCore` with `dryrun = true` (`_exec_job_main_thread` returns before
`executor.submit`, consumes no limits; the loop ends when the queue is empty).
-/
import RedunModel.Lemmas.SchedDry
import RedunModel.Lemmas.SchedDryConv
namespace RedunModel.C28
open RedunModel.SchedCore

/-- A dry run never hands a job to an executor (so no task function is called), for every program and
every state it can reach. -/
theorem no_submit (p : Prog) (hd : p.dryrun = true) (s : S) (h : Reachable p s) : s.submits = [] :=
  (reachable_dry p hd s h).sub

theorem nothing_in_flight (p : Prog) (hd : p.dryrun = true) (s : S) (h : Reachable p s) (j : JobId) :
    s.inflight j = false := (reachable_dry p hd s h).infl j

/-- …and never consumes a resource unit. -/
theorem consumes_nothing (p : Prog) (hd : p.dryrun = true) (s : S) (h : Reachable p s) (j : JobId) :
    s.holds j = false := ((reachable_inv p s h).core.dry hd).2 j

theorem dryInv_popN (p : Prog) (hd : p.dryrun = true) (n : Nat) (s : S) (h : DryInv s) : DryInv (popN p n s) := by
  induction n generalizing s with
  | zero => exact h
  | succ n ih => simp only [popN]; exact ih _ (pop_dry p hd s h)

/-- PARTIAL prediction theorem (lock-step): if during the first `n` events of the dry run every job is
served by a pending twin or by the cache (no job reaches the "would run" exit), then the real run on the
same backend state goes through exactly the same `n` states — same results, same settled/finished
flags — and submits nothing.  That a dry run whose root resolves had no miss at all is `complete_predicts`
below; the converse for incomplete dry runs is `incomplete_predicts`. -/
theorem complete_predicts_partial (p : Prog) (n : Nat)
    (hno : ∀ k, k < n → missAtHead p (popN (asDry p) k init) = false) :
    popN p n init = popN (asDry p) n init ∧ (popN p n init).submits = [] := by
  have h1 := dry_real_lockstep p n init hno
  refine ⟨h1, ?_⟩
  rw [h1]
  exact (dryInv_popN (asDry p) rfl n init ⟨rfl, fun _ => rfl⟩).sub

/-! non-vacuity: a fully cached two-level program; the dry run completes in 9 events without a miss -/
def cachedProg : Prog :=
  { specs := [ { key := 0, ctx := 0, limits := [], scope := .backend, cseOk := true, prov := true, execOk := true,
                 fails := false, pre := .single, children := [1, 2] },
               { key := 1, ctx := 0, limits := [(0, 1)], scope := .backend, cseOk := true, prov := true, execOk := true,
                 fails := false, pre := .single, children := [] },
               { key := 2, ctx := 0, limits := [], scope := .backend, cseOk := true, prov := true, execOk := true,
                 fails := false, pre := .ultimate, children := [] } ],
    limit := fun _ => 1, dryrun := false }

example : ∀ k, k < 9 → missAtHead cachedProg (popN (asDry cachedProg) k init) = false := by decide
example : (popN (asDry cachedProg) 9 init).finished = true := by decide
/-- and a program with an uncached job: the dry run stops at the miss, nothing is submitted -/
def uncachedProg : Prog :=
  { specs := [ { key := 0, ctx := 0, limits := [], scope := .backend, cseOk := true, prov := true, execOk := true,
                 fails := false, pre := .miss, children := [] } ], limit := fun _ => 1, dryrun := false }

example : (popN (asDry uncachedProg) 3 init).queue = [] ∧ (popN (asDry uncachedProg) 3 init).finished = false := by decide


/-- FULL prediction theorem for completed dry runs: if the dry run (started from the same backend state
as the real run) has its root job RESOLVED after `n` events (and had not finished earlier), then no job
of the dry run took the "would run" exit (a job that misses stays pending or is rejected, and so does every
ancestor up to the root), hence the real run goes through exactly the same `n` states — same results,
resolved root, finished flag — and submits nothing. -/
theorem complete_predicts (p : Prog) (n : Nat)
    (hfin : ∀ k, k < n → (popN (asDry p) k init).finished = false)
    (hres : ((popN (asDry p) n init).jobs 0).status = Status.resolved) :
    popN p n init = popN (asDry p) n init ∧ (popN p n init).submits = [] ∧
      ((popN p n init).jobs 0).status = Status.resolved :=
  have h := complete_predicts_partial p n (no_miss_of_root_resolved (asDry p) rfl n hfin hres)
  ⟨h.1, h.2, by rw [h.1]; exact hres⟩

/-- the dry-run fact behind it -/
theorem resolved_root_had_no_miss (p : Prog) (hd : p.dryrun = true) (n : Nat)
    (hfin : ∀ k, k < n → (popN p k init).finished = false)
    (hres : ((popN p n init).jobs 0).status = Status.resolved) :
    ∀ k, k < n → missAtHead p (popN p k init) = false :=
  no_miss_of_root_resolved p hd n hfin hres

/-! non-vacuity of `complete_predicts`: the fully cached program resolves its root at event 9 -/
example : (∀ k, k < 9 → (popN (asDry cachedProg) k init).finished = false) ∧
    ((popN (asDry cachedProg) 9 init).jobs 0).status = Status.resolved := by decide
example : (popN cachedProg 9 init).submits = [] ∧ ((popN cachedProg 9 init).jobs 0).status = Status.resolved :=
  let h := complete_predicts cachedProg 9 (by decide) (by decide)
  ⟨h.2.1, h.2.2⟩
/-- and the hypothesis is not always true: with an uncached job the dry run's root never resolves -/
example : ((popN (asDry uncachedProg) 3 init).jobs 0).status = Status.pending := by decide

/-- CONVERSE prediction theorem.  Suppose the dry run serves its first `n` events from twins and the cache
and its next event is the execution of a job `j` that misses both and has an executor (the point where
`_exec_job_main_thread` takes the "would run" exit).  Then the real run on the same backend state, with
feasible limits, goes through the same `n` states and at that very event hands `j` to its executor. -/
theorem incomplete_predicts (p : Prog) (hd : p.dryrun = false) (hf : Feasible p) (n : Nat)
    (hfin : ∀ k, k < n → (popN (asDry p) k init).finished = false)
    (hno : ∀ k, k < n → missAtHead p (popN (asDry p) k init) = false)
    (j : JobId) (rest : List Ev) (hq : (popN (asDry p) n init).queue = Ev.exec j :: rest)
    (hm : missAtHead p (popN (asDry p) n init) = true)
    (he : (spec p (popN (asDry p) n init) j).execOk = true) :
    popN p n init = popN (asDry p) n init ∧ (popN p (n + 1) init).submits = [j] ∧
      (popN p (n + 1) init).inflight j = true := by
  have h1 := dry_real_lockstep p n init hno
  have hr : Reachable (asDry p) (popN (asDry p) n init) := reachable_popN (asDry p) n hfin
  have hi := reachable_inv (asDry p) _ hr
  have hh := (hi.core.dry rfl).2
  have hu := fun r => (hi.core.used_eq r).trans (held_zero (asDry p) hh r)
  have hsub := (reachable_dry (asDry p) rfl _ hr).sub
  have := miss_submits p hd hf (popN (asDry p) n init) hu j rest hq hm he
  refine ⟨h1, ?_, ?_⟩
  · rw [popN_succ, h1, this.1, hsub]
    rfl
  · rw [popN_succ, h1]
    exact this.2

/-- …and so does EVERY real run (whatever the executors do): a reachable state of the real run is one of
those first `n + 1` common states, or at least one job has been handed to an executor. -/
theorem incomplete_every_run (p : Prog) (hd : p.dryrun = false) (hf : Feasible p) (n : Nat)
    (hfin : ∀ k, k < n → (popN (asDry p) k init).finished = false)
    (hno : ∀ k, k < n → missAtHead p (popN (asDry p) k init) = false)
    (j : JobId) (rest : List Ev) (hq : (popN (asDry p) n init).queue = Ev.exec j :: rest)
    (hm : missAtHead p (popN (asDry p) n init) = true)
    (he : (spec p (popN (asDry p) n init) j).execOk = true)
    (t : S) (ht : Reachable p t) : (∃ k, k ≤ n ∧ t = popN p k init) ∨ t.submits ≠ [] := by
  have hmain := incomplete_predicts p hd hf n hfin hno j rest hq hm he
  induction ht with
  | init => exact Or.inl ⟨0, Nat.zero_le _, rfl⟩
  | step hr hs ih =>
    rcases ih with ⟨k, hk, rfl⟩ | hne
    · have hlock : popN p k init = popN (asDry p) k init :=
        dry_real_lockstep p k init (fun i hi => hno i (Nat.lt_of_lt_of_le hi hk))
      cases hs with
      | pop _ _ =>
        rw [← popN_succ]
        by_cases hkn : k < n
        · exact Or.inl ⟨k + 1, hkn, rfl⟩
        · have : k = n := Nat.le_antisymm hk (Nat.le_of_not_lt hkn)
          subst this
          refine Or.inr ?_
          rw [hmain.2.1]
          simp
      | complete i _ hinf =>
        rw [hlock] at hinf
        have := (dryInv_popN (asDry p) rfl k init ⟨rfl, fun _ => rfl⟩).infl i
        rw [this] at hinf
        exact absurd hinf (by simp)
    · exact Or.inr (step_sub_ne p _ _ hs hne)

/-! non-vacuity: `uncachedProg` misses at its first event; the real run submits job 0 there -/
example : (popN uncachedProg 1 init).submits = [0] :=
  (incomplete_predicts uncachedProg rfl (by intro i r; rcases i with _ | i <;> exact Nat.zero_le _) 0
    (by intro k hk; omega) (by intro k hk; omega) 0 [] rfl (by decide) (by decide)).2.1

end RedunModel.C28
