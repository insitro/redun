/-
C38 — Sub-scheduler runs are equivalent to direct evaluation.

`subrun_equiv` (full strength, every task table, every expression, both `new_execution` settings): through
`subrun` an expression has exactly the outcomes it has when evaluated directly, in every context that defines the
variables of the config context (`Covers`; by `covers_root` and `covers_override` every job's context does; a new
execution puts the caller's context on top of the config context, `innerCtx`).  The model of `subrun`
(`Eval.subrun*` in Model/EvalCore) is not "evaluate e": a value the inner scheduler produced is packed into the
record `_subrun_root_task` returns (`{"result": v, ...}`), the OUTER scheduler evaluates that record like any task
result, and `subrun.then` unwraps it; the theorem needs `result_isValue` + `value_self` / `value_unique` (results contain no
expression, evaluating a value again is the identity).  An inner error makes the `_subrun_root_task` job fail
(new execution: `run` raises; extended execution: the error returned by `extend_run` is re-raised inside the task —
the model mirrors the repaired code, see harness/findings_proposed/C12-subrun-error-recorded-as-success.fix.diff; before
the repair the error travelled back inside a *successful* result record, with the same outcome for the caller
but with a CallNode recorded as a success, which `subrun_shallow_replays_ultimate` then replays in a later
execution without running the failed call again — the C12 finding).
`subrun_never_single`, `subrun_full_check_runs_again`, `subrun_shallow_replays_ultimate`: the cache options
`subrun` gives `_subrun_root_task` (`allowed_cache_results = {CSE, ULTIMATE}`) on the lookup model
`Model/CacheLookup` — no step serves the subrun from the Evaluation (single reduction) table; `no_cache_run_*`: in a
run started with `cache=False` not from the CallNode table either.
`load_modules_cover_tasks`, `load_modules_only_registered`: which modules `subrun` tells the sub-scheduler to import
(`Model/SubrunModules`).
Not a theorem (tie only): the Job rows of an extended execution hang under the calling job.
-/
import RedunModel.Lemmas.EvalCore
import RedunModel.Model.EvalLib
import RedunModel.Model.CacheLookup
import RedunModel.Model.SubrunModules
namespace RedunModel.C38
open RedunModel.EvalCore

/-- the context the sub-scheduler evaluates under: `run_config["context"]` is the calling job's context `c`; a new
execution is started with `run(context=c)` on top of the (forwarded) config context, an extended one hangs the inner
jobs under a dummy parent job whose only context override is `c` -/
def innerCtx (lib : Lib) (c : Ctx) (ne : Bool) : Ctx := if ne then lib.config.over c else Ctx.empty.over c

/-- the record `_subrun_root_task` returns around a result is a value -/
theorem isValue_result {lib : Lib} {c : Ctx} {e v : Expr} (h : Eval lib c e (.ok v)) :
    isValue (.dict [.str "result"] [v]) = true := by
  have hv : isValue v = true := result_isValue h
  simp [isValue, allValues, hv, keysOk, simpleKeys, simpleKey, nodupKeys]

/-- What is forwarded (no assumption on the context): through `subrun` an expression has exactly the outcomes it has
when evaluated directly under `innerCtx`. -/
theorem subrun_inner (lib : Lib) (c : Ctx) (e : Expr) (ne : Bool) (r : Out) :
    Eval lib c (.subrun e ne) r ↔ Eval lib (innerCtx lib c ne) e r := by
  unfold innerCtx
  constructor
  · intro h
    cases h with
    | leaf h => cases h
    | subrunOk h1 h2 => cases value_unique h2 (isValue_result h1); exact h1
    | subrunOkErr h1 h2 => cases value_unique h2 (isValue_result h1)
    | subrunErr h1 => exact h1
  · intro h
    cases r with
    | ok v => exact .subrunOk h (value_self _ (isValue_result h))
    | err x => exact .subrunErr h
    | unk => exact absurd rfl h.ne_unk

def Covers (cfg c : Ctx) : Prop := ∀ k, cfg k ≠ none → c k ≠ none

theorem covers_over {cfg c : Ctx} (h : Covers cfg c) (top : Ctx) : Covers cfg (c.over top) := by
  intro k hk
  unfold Ctx.over
  cases top k with
  | some => simp
  | none => exact h k hk

/-- the context of every job of a run covers the config context: the root context is config + run context ... -/
theorem covers_root (cfg run : Ctx) : Covers cfg (cfg.over run) := covers_over (fun _ h => h) run

/-- ... and `update_context` overrides on the way down are put on top of the parent's context -/
theorem covers_override (cfg c : Ctx) (ovn : List String) (ovv : List Expr) (h : Covers cfg c) :
    Covers cfg (c.override ovn ovv) := covers_over h (kvLookup ovn ovv)

theorem innerCtx_false (lib : Lib) (c : Ctx) : innerCtx lib c false = c := by
  funext k
  simp only [innerCtx, Bool.false_eq_true, if_false, Ctx.over, Ctx.empty]
  cases c k <;> rfl

theorem innerCtx_eq (lib : Lib) (c : Ctx) (ne : Bool) (h : Covers lib.config c) : innerCtx lib c ne = c := by
  cases ne with
  | false => exact innerCtx_false lib c
  | true =>
    funext k
    simp only [innerCtx, if_true, Ctx.over]
    cases hc : c k with
    | some v => rfl
    | none =>
      cases hl : lib.config k with
      | none => rfl
      | some w => exact absurd hc (h k (by simp [hl]))

/-- Full strength: in every context a job of the run can have, through `subrun` (new or extended execution) an expression
has exactly the outcomes (value, or error re-raised) it has when evaluated directly in that context. -/
theorem subrun_equiv (lib : Lib) (c : Ctx) (hc : Covers lib.config c) (e : Expr) (ne : Bool) (r : Out) :
    Eval lib c (.subrun e ne) r ↔ Eval lib c e r := by
  rw [subrun_inner, innerCtx_eq lib c ne hc]

/-- an extended execution needs no assumption at all -/
theorem subrun_equiv_extend (lib : Lib) (c : Ctx) (e : Expr) (r : Out) :
    Eval lib c (.subrun e false) r ↔ Eval lib c e r := by
  rw [subrun_inner, innerCtx_false]

/-- values come back unchanged ... -/
theorem subrun_value (lib : Lib) (c : Ctx) (hc : Covers lib.config c) (e : Expr) (ne : Bool) (v : Expr)
    (h : Eval lib c e (.ok v)) : Eval lib c (.subrun e ne) (.ok v) := (subrun_equiv lib c hc e ne _).mpr h

/-- ... errors are re-raised with the same class and message ... -/
theorem subrun_error (lib : Lib) (c : Ctx) (hc : Covers lib.config c) (e : Expr) (ne : Bool) (x : Err)
    (h : Eval lib c e (.err x)) : Eval lib c (.subrun e ne) (.err x) := (subrun_equiv lib c hc e ne _).mpr h

/-- ... and nothing else can come out; also through nested subruns, with any mix of settings -/
theorem subrun_nested (lib : Lib) (c : Ctx) (hc : Covers lib.config c) (e : Expr) (ne1 ne2 : Bool) (r : Out) :
    Eval lib c (.subrun (.subrun e ne1) ne2) r ↔ Eval lib c e r := by
  rw [subrun_equiv lib c hc, subrun_equiv lib c hc]

open RedunModel.CacheLookup

theorem no_single_unless_allowed (s : Scope) (cv : CheckValid) (al : Allowed) (f : Facts) (h : al.single = false) :
    (checkCache s cv al f).1 ≠ .single := by
  unfold checkCache
  split
  · simp
  · split
    · simp
    · split
      · simp [h]
        split <;> simp
      · simp [h]

/-- whatever the backend holds and whatever scope / validity check the caller chose, the lookup for
`_subrun_root_task` is never answered from the Evaluation (single reduction) table.  Not covered: a caller who passes
`allowed_cache_results` among `subrun`'s `**task_options`, which replace the set (`all_options.update(task_options)`) -/
theorem subrun_never_single (s : Scope) (cv : CheckValid) (f : Facts) : (checkCache s cv subrunAllowed f).1 ≠ .single :=
  no_single_unless_allowed s cv subrunAllowed f rfl

/-- with full validity checking (`subrun.options(check_valid="full")`) a later execution finds nothing usable
and starts the sub-scheduler again, which then does its own (single-reduction) caching inside -/
theorem subrun_full_check_runs_again (s : Scope) (f : Facts) (hc : f.cse = none) :
    checkCache s .full subrunAllowed f = (.miss, none) := by
  unfold checkCache subrunAllowed
  cases s <;> simp [hc]

/-- with the default shallow check, a recorded call node whose subtree tasks are current answers the lookup
(ultimate reduction): the sub-scheduler is not started -/
theorem subrun_shallow_replays_ultimate (f : Facts) (b : Bool) (hc : f.cse = none) (hu : f.ultimate = some b) :
    checkCache .backend .shallow subrunAllowed f = (.ultimate, some b) := by
  unfold checkCache subrunAllowed
  simp [hc, hu]

/-- In a no-cache run nothing is served from the backend: whatever scope the task or the call asked for, whatever the
validity option, the allowed results and the backend content, a lookup is answered by the same-execution (CSE) query or
not at all. -/
theorem no_cache_run_only_cse (scope : Scope) (cv : CheckValid) (al : Allowed) (f : Facts) :
    (checkCache (runScope false scope) cv al f).1 = .cse ∨ (checkCache (runScope false scope) cv al f).1 = .miss := by
  unfold runScope checkCache
  simp only [Bool.false_eq_true, if_false]
  split
  · simp
  · split
    · simp
    · simp

/-- ... in particular a `subrun` whose call node was recorded by an earlier execution starts its sub-scheduler again
(in a cached run the same lookup replays it: `subrun_shallow_replays_ultimate`) -/
theorem no_cache_run_restarts_subrun (scope : Scope) (cv : CheckValid) (f : Facts) (hc : f.cse = none) :
    checkCache (runScope false scope) cv subrunAllowed f = (.miss, none) := by
  unfold runScope checkCache subrunAllowed
  simp [hc]

section modules
open RedunModel.SubrunModules

theorem mem_loadModules (reg : List Mod) (m : Mod) : m ∈ loadModules reg ↔ m ∈ reg ∧ own m = false := by
  induction reg with
  | nil => simp [loadModules]
  | cons x xs ih =>
    rw [loadModules]
    split <;> rename_i hx
    · rw [ih, List.mem_cons]
      refine ⟨fun ⟨h1, h2⟩ => ⟨.inr h1, h2⟩, ?_⟩
      rintro ⟨rfl | h1, h2⟩
      · rw [h2, Bool.false_or, List.contains_iff_mem] at hx
        exact ih.mp hx
      · exact ⟨h1, h2⟩
    · rw [Bool.or_eq_true, not_or, Bool.not_eq_true] at hx
      rw [List.mem_cons, ih, List.mem_cons]
      refine ⟨?_, fun ⟨h1, h2⟩ => h1.imp_right (⟨·, h2⟩)⟩
      rintro (rfl | ⟨h1, h2⟩)
      · exact ⟨.inl rfl, hx.1⟩
      · exact ⟨.inr h1, h2⟩

theorem user_not_own (m : Mod) (h : user m = true) : own m = false := by
  unfold own
  split
  · rfl
  · cases h
  · rfl

/-- Every module that defines a registered user task — whatever it is called: `redunflows`, `redun_workflows`, `redun`
itself, a nested package, `__main__` — is shipped to the sub-scheduler, so a sub-scheduler started in a fresh interpreter
can find every task the expression needs. -/
theorem load_modules_cover_tasks (reg : List Mod) (m : Mod) (hm : m ∈ reg) (hu : user m = true) : m ∈ loadModules reg :=
  (mem_loadModules reg m).mpr ⟨hm, user_not_own m hu⟩

/-- ... and nothing but registered modules outside redun proper (or its test modules) is shipped -/
theorem load_modules_only_registered (reg : List Mod) (m : Mod) (h : m ∈ loadModules reg) : m ∈ reg ∧ own m = false :=
  (mem_loadModules reg m).mp h

example : loadModules [["redun", "scheduler"], ["redunflows_1"], ["redun"], ["redun", "tests", "x"], ["redun", "tests"],
    ["pkg", "wf"], ["redunflows_1"]] = [["redun"], ["redun", "tests", "x"], ["pkg", "wf"], ["redunflows_1"]] := by decide +kernel

end modules

/-! Non-vacuity, on the library the correspondence runs use. -/
open RedunModel.EvalLib

theorem covers_lib (c : Ctx) : Covers lib.config c := by intro k hk; exact absurd rfl hk

example : checkCache (runScope true .backend) .shallow subrunAllowed ⟨none, some false, none⟩ = (.ultimate, some false) := by decide
example : checkCache (runScope false .backend) .shallow subrunAllowed ⟨none, some false, none⟩ = (.miss, none) := by decide

/-- the caller's context reaches the sub-workflow in both modes: `ctx_flow(5)` under `{k: 3, j: 7}` -/
def exCtx : Ctx := fun k => if k = "k" then some (.int 3) else if k = "j" then some (.int 7) else none

/-- what the evaluator computes for the examples below, in one kernel check: without a context, then with `exCtx` -/
theorem evals :
    (evalsTo lib 30 Ctx.empty (.subrun (tcall "ev.twice" [.int 3]) false) (.ok (.int 5)) = true ∧
    evalsTo lib 30 Ctx.empty (.subrun (tcall "ev.fail_after" [.int 1, .str "K"]) false) (.err ⟨"KeyError", "K-deep"⟩) = true ∧
    evalsTo lib 30 Ctx.empty (.subrun (tcall "ev.fail_after" [.int 1, .str "K"]) true) (.err ⟨"KeyError", "K-deep"⟩) = true ∧
    evalsTo lib 20 Ctx.empty (tcall "ev.twice" [.int 3]) (.ok (.int 5)) = true) ∧
    evalsTo lib 30 exCtx (.subrun (tcall "ev.ctx_flow" [.int 5]) true) (.ok (L [.int 22, .int 18])) = true ∧
    evalsTo lib 30 exCtx (.subrun (tcall "ev.ctx_flow" [.int 5]) false) (.ok (L [.int 22, .int 18])) = true ∧
    evalsTo lib 30 lib.config (tcall "ev.ctx_flow" [.int 5]) (.ok (L [.int 5, .int 6])) = true := by
  decide +kernel

example : evalFuel lib 30 Ctx.empty (.subrun (tcall "ev.twice" [.int 3]) false) = some (.ok (.int 5)) :=
  evalFuel_eq evals.1.1
example : evalFuel lib 30 Ctx.empty (.subrun (tcall "ev.fail_after" [.int 1, .str "K"]) false)
    = some (.err ⟨"KeyError", "K-deep"⟩) := evalFuel_eq evals.1.2.1
example : evalFuel lib 30 Ctx.empty (.subrun (tcall "ev.fail_after" [.int 1, .str "K"]) true)
    = some (.err ⟨"KeyError", "K-deep"⟩) := evalFuel_eq evals.1.2.2.1
example : Eval lib Ctx.empty (.subrun (tcall "ev.twice" [.int 3]) true) (.ok (.int 5)) :=
  subrun_value lib _ (covers_lib _) _ true _ (evalFuel_sound (n := 20) (evalFuel_eq evals.1.2.2.2))

example : evalFuel lib 30 exCtx (.subrun (tcall "ev.ctx_flow" [.int 5]) true) = some (.ok (L [.int 22, .int 18])) :=
  evalFuel_eq evals.2.1
example : evalFuel lib 30 exCtx (.subrun (tcall "ev.ctx_flow" [.int 5]) false) = some (.ok (L [.int 22, .int 18])) :=
  evalFuel_eq evals.2.2.1
/-- ... whereas a sub-scheduler started WITHOUT the forwarded context (only its config context) would return something else -/
example : evalFuel lib 30 lib.config (tcall "ev.ctx_flow" [.int 5]) = some (.ok (L [.int 5, .int 6])) :=
  evalFuel_eq evals.2.2.2

end RedunModel.C38
