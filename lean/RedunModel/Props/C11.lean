/-
C11 — The job arrayer hands off every job exactly once.

Property theorems only.  Model: `RedunModel.Model.Arrayer` (two threads, one transition per LINE event
of `add_job`/`start`/`_monitor_stale_jobs`/`get_stale_descrs`/`submit_pending_jobs`); invariants and
their preservation proofs: `RedunModel.Lemmas.Arrayer`, `RedunModel.Lemmas.ArrayerInv`.

All theorems quantify over every configuration (`Cfg`: code as found / repaired), every parameter set,
every job stream and every reachable state, i.e. every interleaving of the two threads and of clock
advances, unless a hypothesis says otherwise:

* full strength, both for the code as found and the repaired code:
  `exactly_once`, `never_dropped`, `submitted_at_most_once`, `batch_shape`, `no_deadlock`;
* full strength for the repaired code (scan under the lock / decrement under the lock):
  `monitor_never_fails`, `count_exact`;
* refuted on the model of the code as found (closed counter-example traces):
  `refuted_keyerror`, `refuted_dict_resize`, `refuted_lost_update`.
-/
import RedunModel.Lemmas.ArrayerInv
namespace RedunModel.C11
open RedunModel.Arrayer

/-- **Exactly once** (conservation). In every reachable state of every interleaving, every job of the
input stream is in exactly one place: not yet passed to `add_job`, in `pending`, in the monitor's hands
(popped, not yet passed to the submit callback or put back), or in a submitted batch — with
multiplicity (equal counts for every job). -/
theorem exactly_once (c : Cfg) (p : Params) (jobs : List Job) (s : State) (hwf : p.minSize ≤ p.maxSize)
    (h : Reachable c p jobs s) (j : Job) :
    jobs.count j = (notYet s.ad).count j + (pendingJobs s).count j + (inHand s.mon).count j
      + s.submitted.flatten.count j := by
  have hI := (reachable_inv h).2
  have h1 : _ = _ + (inHand s.mon).count j + _ := hI.cons j
  have h2 : jobs = s.added ++ notYet s.ad := hI.prog
  rw [h2, List.count_append, pendingJobs]; omega

/-- **Never dropped.** `inHand` is empty by definition when the monitor is dead, idle or on an error
path, so conservation says: whenever the monitor is not in the middle of `submit_pending_jobs`, a job
that entered the arrayer is still pending or has been submitted — a failing monitor loses nothing. -/
theorem never_dropped (c : Cfg) (p : Params) (jobs : List Job) (s : State) (hwf : p.minSize ≤ p.maxSize)
    (h : Reachable c p jobs s) (hm : inHand s.mon = []) (j : Job) (hj : j ∈ s.added) :
    j ∈ pendingJobs s ∨ j ∈ s.submitted.flatten := by
  have h1 : _ = _ + (inHand s.mon).count j + _ := (reachable_inv h).2.cons j
  rw [hm] at h1
  have : 0 < s.added.count j := List.count_pos_iff.2 hj
  simp only [List.count_nil, Nat.add_zero] at h1
  by_cases hp : 0 < (flat s.pending).count j
  · exact Or.inl (List.count_pos_iff.1 hp)
  · exact Or.inr (List.count_pos_iff.1 (by omega))

/-- **At most once.** If the jobs of the stream are pairwise distinct, no job occurs twice in the
submitted batches (neither within a batch nor in two batches), and a submitted job is no longer pending. -/
theorem submitted_at_most_once (c : Cfg) (p : Params) (jobs : List Job) (s : State) (hwf : p.minSize ≤ p.maxSize)
    (h : Reachable c p jobs s) (hd : jobs.Nodup) :
    s.submitted.flatten.Nodup ∧ ∀ j ∈ s.submitted.flatten, j ∉ pendingJobs s := by
  have key : ∀ j, (pendingJobs s).count j + s.submitted.flatten.count j ≤ 1 := by
    intro j
    have := exactly_once c p jobs s hwf h j
    have := List.nodup_iff_count.1 hd j
    omega
  refine ⟨List.nodup_iff_count.2 (fun j => by have := key j; omega), ?_⟩
  intro j hj hp
  have h1 : 0 < s.submitted.flatten.count j := List.count_pos_iff.2 hj
  have h2 : 0 < (pendingJobs s).count j := List.count_pos_iff.2 hp
  have := key j; omega

/-- **Batch shape.** Every batch passed to the submit callback consists of jobs with one description
and has size 1 or a size between the configured minimum and maximum. -/
theorem batch_shape (c : Cfg) (p : Params) (jobs : List Job) (s : State) (hwf : p.minSize ≤ p.maxSize)
    (h : Reachable c p jobs s) (b : List Job) (hb : b ∈ s.submitted) :
    (∀ j1 ∈ b, ∀ j2 ∈ b, j1.descr = j2.descr) ∧ (b.length = 1 ∨ (p.minSize ≤ b.length ∧ b.length ≤ p.maxSize)) :=
  (reachable_inv h).2.shaped hwf b hb

/-- **The monitor never fails** when `get_stale_descrs` scans under the lock (the repaired code): no
interleaving makes it call `on_error`, reach an exception path or die. -/
theorem monitor_never_fails (c : Cfg) (p : Params) (jobs : List Job) (s : State) (hwf : p.minSize ≤ p.maxSize)
    (hc : c.lockScan = true) (h : Reachable c p jobs s) : s.errors = [] ∧ s.mon.pc ≠ .dead := by
  have hI := (reachable_inv h).2
  refine ⟨hI.noErrs hc, fun hd => ?_⟩
  have := hI.noErrPc hc
  rw [hd] at this
  cases this

/-- **The pending count is exact** when the decrement runs under the lock (the repaired code): whenever
the adder is between calls and the monitor between polls, `num_pending` is the number of jobs in
`pending`, i.e. of jobs not yet handed off. -/
theorem count_exact (c : Cfg) (p : Params) (jobs : List Job) (s : State) (hwf : p.minSize ≤ p.maxSize)
    (hc : c.lockDec = true) (h : Reachable c p jobs s) (hq : quiescent s = true) :
    s.num = ((pendingJobs s).length : Int) := by
  have hK : s.num + credit s.ad = _ + (debt s.mon : Int) := (reachable_inv h).2.cnt hc
  simp only [quiescent, Bool.and_eq_true, Bool.or_eq_true, beq_iff_eq] at hq
  obtain ⟨ha, hm⟩ := hq
  simp only [credit, ha, debt, pendingJobs] at hK ⊢
  rcases hm with (hm | hm) | hm <;> simp [hm] at hK <;> omega

/-- **No deadlock.** In every reachable state some thread can take a step, unless the adding thread has
made all its calls and no monitor thread is running (a thread waiting for the lock is never waiting
for a thread that cannot move). Holds for both locking configurations. -/
theorem no_deadlock (c : Cfg) (p : Params) (jobs : List Job) (s : State) (hwf : p.minSize ≤ p.maxSize)
    (h : Reachable c p jobs s) :
    stepS p s ≠ none ∨ stepM c p s ≠ none ∨ (s.ad.pc = .done ∧ monAlive s.mon = false) :=
  no_deadlock_of_invA c p s (reachable_inv h).1

theorem reachable_run (c : Cfg) (p : Params) (jobs : List Job) (sched : List Ev) :
    ∀ s, Reachable c p jobs s → Reachable c p jobs (run c p s sched) := by
  induction sched with
  | nil => intro s h; exact h
  | cons e es ih =>
    intro s h
    simp only [run]
    split
    · rename_i s' hs; exact ih s' (Reachable.step e h hs)
    · exact ih s h

def S : Ev := .thr .S
def M : Ev := .thr .M
def rep (n : Nat) (e : Ev) : List Ev := List.replicate n e

def jA : Job := ⟨0, 0, false⟩
def jB : Job := ⟨1, 1, false⟩
def jC : Job := ⟨1, 0, false⟩
def jD : Job := ⟨2, 0, false⟩
def pW : Params := ⟨2, 3, 5⟩

/-- add_job(jA) completely (13 lines incl. start()), add_job(jB) up to and including the append (4 lines);
then the monitor polls: the scan finds jB's key without a timestamp. -/
def schedKeyError : List Ev := rep 13 S ++ rep 4 S ++ [.tick 100] ++ rep 16 M

/-- `monitor_never_fails` is false for the code as found: KeyError in `get_stale_descrs` when the
monitor reads between `pending[descr].append(job)` and the timestamp write. -/
theorem refuted_keyerror :
    ∃ s, Reachable Cfg.current pW [jA, jB] s ∧ s.errors = [Err.keyError] ∧ s.mon.pc = .dead ∧
      pendingJobs s = [jA, jB] :=
  ⟨run Cfg.current pW (init [jA, jB]) schedKeyError, reachable_run _ _ _ _ _ Reachable.init, by decide⟩

/-- the monitor creates its iterator over one key; add_job(jB) inserts a second key; next() fails -/
def schedResize : List Ev := rep 13 S ++ rep 7 M ++ rep 5 S ++ rep 9 M

theorem refuted_dict_resize :
    ∃ s, Reachable Cfg.current pW [jA, jB] s ∧ s.errors = [Err.runtimeError] ∧ s.mon.pc = .dead :=
  ⟨run Cfg.current pW (init [jA, jB]) schedResize, reachable_run _ _ _ _ _ Reachable.init, by decide⟩

/-- two jobs added and popped as one batch; the decrement reads `num_pending = 2`; a third add_job runs
(`+= 1`, count 3); the decrement writes 2 - 2 = 0 while one job is pending. -/
def schedLostUpdate : List Ev :=
  rep 13 S ++ rep 11 S ++ [.tick 100] ++ rep 21 M ++ rep 11 S ++ rep 2 M

theorem refuted_lost_update :
    ∃ s, Reachable Cfg.current pW [jA, jC, jD] s ∧ quiescent s = true ∧ s.num = 0 ∧ pendingJobs s = [jD] :=
  ⟨run Cfg.current pW (init [jA, jC, jD]) schedLostUpdate, reachable_run _ _ _ _ _ Reachable.init, by decide⟩

/-- reachable, quiescent, with a real array batch: the hypotheses of `count_exact`, `batch_shape`,
`monitor_never_fails` are satisfiable together and the conclusions are not trivial -/
example : ∃ s, Reachable Cfg.fixed pW [jA, jC, jD] s ∧ quiescent s = true ∧
    s.submitted = [[jA, jC, jD]] ∧ s.num = 0 ∧ s.errors = [] :=
  ⟨run Cfg.fixed pW (init [jA, jC, jD]) (rep 35 S ++ [.tick 100] ++ rep 26 M),
    reachable_run _ _ _ _ _ Reachable.init, by decide⟩

end RedunModel.C11
