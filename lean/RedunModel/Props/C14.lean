/-
C14 — The canonical structure encoding behind every hash is injective.

Model: `RedunModel.Model.BStruct` (`enc` = `bencode` on normalised structures, `norm` = what
`_bencode_to_file` accepts and how it canonicalises str/bytes, list/tuple and dict key order,
`decode` = `bdecode`).
-/
import RedunModel.Lemmas.BStructDec
namespace RedunModel.C14
open RedunModel.BStruct

/-- Unique parsing: an encoding followed by anything determines the structure and the rest.
Injectivity and prefix-freeness are the two corollaries below. -/
theorem enc_unique_parse (a b : BVal) (r1 r2 : List UInt8) (h : enc a ++ r1 = enc b ++ r2) :
    a = b ∧ r1 = r2 := enc_unique a b r1 r2 h

/-- Structures that differ encode differently (all pairs, no size bound). -/
theorem enc_injective (a b : BVal) (h : enc a = enc b) : a = b :=
  (enc_unique a b [] [] (by simpa using h)).1

/-- No encoding is a proper prefix of another: concatenated encodings (list items, dict items,
the `[tag, ...]` records fed to `hash_struct`) cannot be re-bracketed. -/
theorem enc_prefix_free (a b : BVal) (r : List UInt8) (h : enc a ++ r = enc b) : a = b ∧ r = [] :=
  enc_unique a b r [] (by simpa using h)

/-- Lists: element boundaries cannot shift (`["ab","c"]` vs `["a","bc"]`). -/
theorem encList_injective (a b : BList) (h : encList a = encList b) : a = b :=
  (encList_unique a b [] [] (by simpa using h)).1

/-- Through `norm`: two Python structures get the same bytes iff they normalise to the same
structure (i.e. are equal up to str/utf-8 bytes, list/tuple, and dict item order — see
`norm_str_bytes`, `norm_list_tuple`). -/
theorem enc_norm_eq_iff (x y : PyVal) (a b : BVal) (hx : norm x = some a) (hy : norm y = some b) :
    enc a = enc b ↔ a = b := ⟨enc_injective a b, fun h => by rw [h]⟩

theorem norm_str_bytes (u : List UInt8) : norm (.str u) = norm (.bytes u) := rfl
theorem norm_list_tuple (l : PyList) : norm (.list l) = norm (.tuple l) := rfl

/-- Booleans, None and floats are rejected, and so is a list whose first item is (`rejects_in_list`; for an item in
any position: `normList_cons_eq_none`), hence at any depth. -/
theorem rejects_bool (b : Bool) : norm (.bool b) = none := rfl
theorem rejects_none : norm .none = none := rfl
theorem rejects_float : norm .float = none := rfl
theorem rejects_in_list (v : PyVal) (t : PyList) (h : norm v = none) : norm (.list (.cons v t)) = none := by
  simp [norm, normList_cons_eq_none, h]
theorem rejects_nonstring_key (v : PyVal) (t : PyDict) : norm (.dict (.cons .other v t)) = none := rfl

/-- non-vacuity: the classic boundary-shift pair is separated -/
example : enc (.list (.cons (.bytes [97, 98]) (.cons (.bytes [99]) .nil)))
    ≠ enc (.list (.cons (.bytes [97]) (.cons (.bytes [98, 99]) .nil))) := by
  intro h; have := enc_injective _ _ h; simp at this

/-- `norm` of a dict does not depend on the order of its items: any permutation of the item list of a
Python dict (distinct `str`/`bytes` keys) gives the same result — the same `BDict`, or `none`
(TypeError) for both.  Together with `enc` being a function: the same bytes. -/
theorem dict_key_order_irrelevant (kvs kvs' : List (PyKey × PyVal)) (hp : kvs.Perm kvs')
    (hd : DistinctKeys kvs) :
    norm (.dict (PyDict.ofItems kvs)) = norm (.dict (PyDict.ofItems kvs')) := by
  simp only [norm, normDict_perm hp hd 0]

theorem distinctKeys_of_nodup {kvs : List (PyKey × PyVal)} (hd : (kvs.map Prod.fst).Nodup) :
    DistinctKeys kvs := by
  rw [List.Nodup, List.pairwise_map] at hd
  exact hd.imp fun hne => .inr (.inr fun e => hne (keyKind_inj e))

/-- the same with the plain reading of "distinct keys" -/
theorem dict_key_order_irrelevant_nodup (kvs kvs' : List (PyKey × PyVal)) (hp : kvs.Perm kvs')
    (hd : (kvs.map Prod.fst).Nodup) :
    norm (.dict (PyDict.ofItems kvs)) = norm (.dict (PyDict.ofItems kvs')) :=
  dict_key_order_irrelevant kvs kvs' hp (distinctKeys_of_nodup hd)

/-- ... in particular the encoded bytes (or the TypeError) are the same -/
theorem dict_key_order_irrelevant_bytes (kvs kvs' : List (PyKey × PyVal)) (hp : kvs.Perm kvs')
    (hd : DistinctKeys kvs) :
    (norm (.dict (PyDict.ofItems kvs))).map enc = (norm (.dict (PyDict.ofItems kvs'))).map enc := by
  rw [dict_key_order_irrelevant kvs kvs' hp hd]

/-- non-vacuity: a two-item dict in both orders; and a str/bytes key mix fails in both orders -/
example : norm (.dict (PyDict.ofItems [(.str [98], .int 2), (.str [97], .int 1)]))
    = some (.dict (.cons [97] (.int 1) (.cons [98] (.int 2) .nil))) := rfl
example : norm (.dict (PyDict.ofItems [(.str [97], .int 1), (.bytes [98], .int 2)])) = none
    ∧ norm (.dict (PyDict.ofItems [(.bytes [98], .int 2), (.str [97], .int 1)])) = none := ⟨rfl, rfl⟩

/-- Every dict inside the result of `norm` has strictly increasing keys (`WF`), provided the Python
dicts have distinct keys (`PyDistinct` — true of every Python dict). -/
theorem norm_sorted (x : PyVal) (v : BVal) (hd : PyDistinct x) (h : norm x = some v) : WF v :=
  norm_wf x v hd h

/-- `WFDict` says "strictly increasing": the keys are pairwise `<` in list order. -/
theorem wfDict_keys_pairwise : ∀ d : BDict, WFDict d → (BDict.keys d).Pairwise (fun a b => bytesLt a b = true)
  | .nil, _ => .nil
  | .cons _ _ t, h => .cons h.2.1 (wfDict_keys_pairwise t h.2.2)

/-- A key-sorted dict is determined by its set of items. -/
theorem sorted_dict_unique (a b : BDict) (ha : WFDict a) (hb : WFDict b)
    (h : ∀ p, p ∈ BDict.items a ↔ p ∈ BDict.items b) : a = b := by
  -- the item lists are strictly sorted by key, so they have no duplicates, and equal members make them equal
  have sorted {d : BDict} (hd : WFDict d) : d.items.Pairwise fun p q => bytesLt p.1 q.1 = true := by
    have := wfDict_keys_pairwise d hd
    rwa [keys_eq_map_items, List.pairwise_map] at this
  have nodup {l : List (List UInt8 × BVal)} (hl : l.Pairwise fun p q => bytesLt p.1 q.1 = true) : l.Nodup :=
    hl.imp fun hlt e => by rw [e, bytesLt_irrefl] at hlt; cases hlt
  exact items_inj (((List.perm_ext_iff_of_nodup (nodup (sorted ha)) (nodup (sorted hb))).mpr h).eq_of_pairwise
    (fun _ _ _ _ h1 h2 => by rw [bytesLt_asymm h1] at h2; cases h2) (sorted ha) (sorted hb))

/-- Two Python dicts that are equal as finite maps (same set of items, whatever the insertion order)
normalise to the same `BDict` / fail alike. -/
theorem norm_same_finmap (kvs kvs' : List (PyKey × PyVal))
    (hd : (kvs.map Prod.fst).Nodup) (hd' : (kvs'.map Prod.fst).Nodup)
    (h : ∀ p, p ∈ kvs ↔ p ∈ kvs') :
    norm (.dict (PyDict.ofItems kvs)) = norm (.dict (PyDict.ofItems kvs')) := by
  have nodup (l : List (PyKey × PyVal)) (hl : (l.map Prod.fst).Nodup) : l.Nodup := by
    rw [List.Nodup, List.pairwise_map] at hl
    exact hl.imp fun hne e => hne (by rw [e])
  exact dict_key_order_irrelevant_nodup kvs kvs' ((List.perm_ext_iff_of_nodup (nodup _ hd) (nodup _ hd')).mpr h) hd

/-! `decode` mirrors `bdecode`, including everything it accepts that no `bencode` call produces
(`i-0e`, `i03e`, `i 1_0 e`, `03:abc`, unsorted or duplicate dict keys, `None` dict values, `lle`, trailing
bytes).  The property only speaks about decoding *encodings*: `dec_enc`. -/

/-- For every structure `v` — every `BDict`, sorted or not, duplicates or not: the decoder returns the
item sequence of the stream — and any following bytes, decoding `enc v ++ rest` yields exactly `v` and
leaves exactly `rest`.  `Fits v` = what `bencode` can emit on CPython: ints within the 4300-digit cap of
`str()`/`int()` (beyond it `bencode` raises ValueError, see `rejects_beyond_cap`, and so would `int()` in
`bdecode`) and no byte string of 2^63 bytes or more (`Py_ssize_t`; `f.read(n)` raises OverflowError for such `n`). -/
theorem dec_enc (v : BVal) (rest : List UInt8) (h : Fits v) :
    decode (enc v ++ rest) = .ok (ofB v, rest) := by
  apply decF_enc _ v _ rest h
  have := cost_le v
  rw [List.length_append]; omega

mutual
  /-- `ofB` (a structure seen as a decoder result) loses nothing. -/
  theorem ofB_injective (a b : BVal) (h : ofB a = ofB b) : a = b :=
    match a, b, h with
    | .int _, b, h => by cases b <;> simp_all [ofB]
    | .bytes _, b, h => by cases b <;> simp_all [ofB]
    | .list a, b, h => by
      cases b <;> simp only [ofB, DVal.list.injEq, reduceCtorEq] at h
      rw [ofBList_inj a _ h]
    | .dict a, b, h => by
      cases b <;> simp only [ofB, DVal.dict.injEq, reduceCtorEq] at h
      rw [ofBDict_inj a _ h]
  theorem ofBList_inj : ∀ a b : BList, ofBList a = ofBList b → a = b
    | .nil, .nil, _ => rfl
    | .nil, .cons _ _, h => nomatch h
    | .cons _ _, .nil, h => nomatch h
    | .cons v t, .cons w u, h => by
      simp only [ofBList, DList.cons.injEq] at h
      rw [ofB_injective v w h.1, ofBList_inj t u h.2]
  theorem ofBDict_inj : ∀ a b : BDict, ofBDict a = ofBDict b → a = b
    | .nil, .nil, _ => rfl
    | .nil, .cons _ _ _, h => nomatch h
    | .cons _ _ _, .nil, h => nomatch h
    | .cons k v t, .cons k' w u, h => by
      simp only [ofBDict, DDict.cons.injEq] at h
      rw [h.1, ofB_injective v w h.2.1, ofBDict_inj t u h.2.2]
end

/-- Decoding is a left inverse of encoding on normalised structures, also through the Python-dict
view `canonD` (last binding wins, sorted by key): what `bdecode(bencode(x))` holds is `norm x`. -/
theorem dec_left_inverse (x : PyVal) (v : BVal) (hd : PyDistinct x) (hn : norm x = some v) (hf : Fits v) :
    decode (enc v) = .ok (ofB v, []) ∧ canonD (ofB v) = ofB v := by
  have := dec_enc v [] hf
  simp only [List.append_nil] at this
  exact ⟨this, canonD_ofB v (norm_sorted x v hd hn)⟩

/-- the decoder is total: the model's fuel always suffices -/
theorem decode_total (data : List UInt8) : decode data ≠ .error .fuel := decode_ne_fuel data

/-- non-vacuity of `dec_enc`: a closed instance with a trailing byte -/
example : decode (enc (.dict (.cons [97] (.list (.cons (.int (-7)) .nil)) .nil)) ++ [120])
    = .ok (ofB (.dict (.cons [97] (.list (.cons (.int (-7)) .nil)) .nil)), [120]) :=
  dec_enc _ _ (by simp [Fits, FitsDict, FitsList, intFits_of_lt_ten])

/-- `i-0e`, `i03e`, `i 1_0 e` decode although nothing encodes to them -/
theorem dec_accepts_non_encodings :
    decode [105, 45, 48, 101] = .ok (.int 0, [])                       -- i-0e
    ∧ decode [105, 48, 51, 101] = .ok (.int 3, [])                     -- i03e
    ∧ decode [105, 32, 49, 95, 48, 32, 101] = .ok (.int 10, [])        -- `i 1_0 e`
    ∧ decode [48, 51, 58, 97, 98, 99] = .ok (.bytes [97, 98, 99], [])  -- 03:abc
    ∧ decode [108, 108, 101] = .ok (.list (.cons (.list .nil) .nil), [])   -- lle  -> [[]]
    ∧ decode [100, 49, 58, 97, 101] = .ok (.dict (.cons [97] .none .nil), [])   -- d1:ae -> {'a': None}
    ∧ decode [100, 49, 58, 98, 105, 49, 101, 49, 58, 97, 105, 50, 101, 101]
        = .ok (.dict (.cons [98] (.int 1) (.cons [97] (.int 2) .nil)), [])      -- d1:bi1e1:ai2ee (unsorted)
    ∧ decode [108] = .error .type ∧ decode [105, 49] = .error .value
    ∧ decode [100, 105, 49, 101, 105, 50, 101, 101] = .error .assertion := by
  refine ⟨rfl, rfl, rfl, rfl, rfl, rfl, rfl, rfl, rfl, rfl⟩

/-- duplicate keys: the Python dict keeps the last binding -/
example : canonD (.dict (.cons [97] (.int 1) (.cons [97] (.int 2) .nil))) = .dict (.cons [97] (.int 2) .nil) := rfl

/-! The int → decimal digit cap: `str(integer)` in `_encode_int` raises `ValueError` beyond 4300 decimal
digits (Python ≥ 3.11), so `bencode` rejects such ints; `encodeE` is `bencode` with its exception class.
Injectivity and prefix-freeness hold for all of `enc` (above), in particular on what `bencode` emits (the
`_encodable` versions below). -/

/-- the cap in numbers: `str(z)` works iff `|z| < 10^4300` -/
theorem intFits_iff (z : Int) : intFits z = true ↔ z.natAbs < 10 ^ intMaxStrDigits := by
  rw [intFits, decide_eq_true_iff, natDigits_length_le_iff _ _ (by decide)]

theorem intFits_eq_false {z : Int} (h : 10 ^ intMaxStrDigits ≤ z.natAbs) : intFits z = false :=
  Bool.eq_false_iff.mpr fun hf => Nat.not_lt.mpr h ((intFits_iff z).mp hf)

theorem enc_unique_parse_encodable (a b : BVal) (r1 r2 : List UInt8) (_ha : encodable a = true)
    (_hb : encodable b = true) (h : enc a ++ r1 = enc b ++ r2) : a = b ∧ r1 = r2 := enc_unique_parse a b r1 r2 h

theorem enc_injective_encodable (a b : BVal) (_ha : encodable a = true) (_hb : encodable b = true)
    (h : enc a = enc b) : a = b := enc_injective a b h

theorem enc_prefix_free_encodable (a b : BVal) (r : List UInt8) (_ha : encodable a = true)
    (_hb : encodable b = true) (h : enc a ++ r = enc b) : a = b ∧ r = [] := enc_prefix_free a b r h

/-- `bencode` returns bytes exactly for the structures that normalise and whose ints are all within the cap -/
theorem encodeE_ok_iff (x : PyVal) (bs : List UInt8) :
    encodeE x = .ok bs ↔ ∃ v, norm x = some v ∧ encodable v = true ∧ bs = enc v := by
  unfold encodeE
  cases norm x with
  | none => simp
  | some v =>
    by_cases he : encodable v = true
    · simp [he]; exact eq_comm
    · simp [he]

/-- the ValueError case: the structure is fine but holds an int beyond the cap -/
theorem encodeE_value_iff (x : PyVal) :
    encodeE x = .error .value ↔ ∃ v, norm x = some v ∧ encodable v = false := by
  unfold encodeE
  cases norm x with
  | none => simp
  | some v => by_cases he : encodable v = true <;> simp [he]

/-- two Python structures that `bencode` maps to the same bytes normalise to the same structure -/
theorem encodeE_injective (x y : PyVal) (bs : List UInt8) (hx : encodeE x = .ok bs) (hy : encodeE y = .ok bs) :
    norm x = norm y := by
  obtain ⟨a, ha, _, rfl⟩ := (encodeE_ok_iff x _).mp hx
  obtain ⟨b, hb, _, hab⟩ := (encodeE_ok_iff y _).mp hy
  rw [ha, hb, enc_injective a b hab]

/-- An int of more than 4300 digits is rejected with ValueError — it is never written in another base. -/
theorem rejects_beyond_cap (z : Int) (h : 10 ^ intMaxStrDigits ≤ z.natAbs) :
    encodeE (.int z) = .error .value :=
  (encodeE_value_iff _).mpr ⟨.int z, rfl, intFits_eq_false h⟩

theorem accepts_within_cap (z : Int) (h : z.natAbs < 10 ^ intMaxStrDigits) :
    encodeE (.int z) = .ok (enc (.int z)) :=
  (encodeE_ok_iff _ _).mpr ⟨.int z, rfl, (intFits_iff z).mpr h, rfl⟩

/-- ... also below the top level; two instances: as the second item of a list, and inside a tuple that is a dict value
(in general: `encodeE_value_iff`, `encodable` being recursive) -/
theorem rejects_beyond_cap_nested (z : Int) (h : 10 ^ intMaxStrDigits ≤ z.natAbs) (k : List UInt8) :
    encodeE (.list (.cons (.int 1) (.cons (.int z) .nil))) = .error .value
    ∧ encodeE (.dict (.cons (.str k) (.tuple (.cons (.int z) .nil)) .nil)) = .error .value := by
  have hf := intFits_eq_false h
  exact ⟨(encodeE_value_iff _).mpr ⟨_, rfl, by simp [encodable, encodableList, hf]⟩,
    (encodeE_value_iff _).mpr ⟨_, rfl, by simp [insertItem, encodable, encodableList, encodableDict, hf]⟩⟩

/-- non-vacuity: `±10^4300` is rejected (`accepts_within_cap` is the other side of the boundary) -/
example : encodeE (.int ((10 : Int) ^ intMaxStrDigits)) = .error .value
    ∧ encodeE (.int (-((10 : Int) ^ intMaxStrDigits))) = .error .value :=
  ⟨rejects_beyond_cap _ (by simp [Int.natAbs_pow]), rejects_beyond_cap _ (by simp [Int.natAbs_pow])⟩

end RedunModel.C14
