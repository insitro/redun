/-
C27 — Task options follow the documented precedence.

Model: `RedunModel.Model.Options` (`rawOptions` = `Job.get_raw_options`, `evalOptions` = the evaluated options set in
`_evaluate_apply.options_then` = `Job.get_options()`, `inherited` = the parent's `Job.get_export_options`, `forced` = the
scheduler's `job_options`, `exportsStep` = `Job.export_options`, `jobInfo` = the job at the head of an ancestor chain,
`walk` = the jobs of a tree computed top-down as the scheduler does, `mkTask`/`TaskV.options`/`TaskV.exportOptions` =
`@task`/`Task.options`/`Task.export_options`, `runTree` = `Scheduler.run` of the root call incl. the backend's
bookkeeping of parentless jobs).
`CallWF`/`InfoWF`/`WF` (unique keys) is what a Python `dict` guarantees; `constructed_calls_wf` and `jobInfo_wf` show the
hypothesis is met by everything built from dicts.  `layers`/`rightmost` are the documented precedence
(docs/source/implementation/evaluation.md): definition < exported by ancestors < call-time < scheduler-imposed.
Theorems named `_note` are remarks on the task-level API, outside the statement of the property.
-/
import RedunModel.Lemmas.Options
namespace RedunModel.C27
open RedunModel.Options

theorem foldl_or_none (k : String) (rs : List (Dict CVal)) (acc : Option CVal) (hr : ∀ r ∈ rs, r.lookup k = none) :
    List.foldl (fun acc l => (List.lookup k l).or acc) acc rs = acc := by
  induction rs generalizing acc with
  | nil => rfl
  | cons r t ih =>
    rw [List.foldl_cons, hr r List.mem_cons_self, Option.none_or]
    exact ih acc (fun x hx => hr x (List.mem_cons_of_mem _ hx))

/-- `rightmost` is what its name says: a layer that defines `k`, with no layer to its right defining `k`, wins. -/
theorem rightmost_spec (ls rs : List (Dict CVal)) (l : Dict CVal) (k : String) (v : CVal)
    (hl : l.lookup k = some v) (hr : ∀ r ∈ rs, r.lookup k = none) : rightmost (ls ++ l :: rs) k = some v := by
  unfold rightmost
  rw [List.foldl_append, List.foldl_cons, hl, Option.some_or]
  exact foldl_or_none k rs _ hr

theorem rightmost_none (ls : List (Dict CVal)) (k : String) (h : ∀ l ∈ ls, l.lookup k = none) : rightmost ls k = none :=
  foldl_or_none k ls none h

/-- `Job.get_raw_options`, key by key: the right-most of its four dicts that has the key (the first of them,
`get_task_options()`, is itself the decorator's options overridden by the registered task's own). -/
theorem precedence_raw (u : Bool) (p : Option JobInfo) (c : Call) (k : String) (hc : CallWF c) (hp : InfoWF p) :
    (rawOptions u p c).lookup k =
      (((forced u p).lookup k).map embed).or ((c.var.over.lookup k).or
        ((((inherited p).lookup k).map embed).or ((c.reg.over.lookup k).or (c.reg.base.lookup k)))) := by
  unfold rawOptions taskOptions
  rw [lookup_dmerge _ _ _ (wf_mapVals _ _ (wf_forced u p)), lookup_dmerge _ _ _ hc.2.2,
    lookup_dmerge _ _ _ (wf_mapVals _ _ (wf_inherited p hp)), lookup_dmerge _ _ _ hc.2.1,
    lookup_mapVals, lookup_mapVals]

/-- Full strength, one job: for every key, `Job.get_options()` holds the value of the right-most of the layers
[definition options, registered task's overrides, options exported by the parent, call-time options,
scheduler-imposed options, "no provenance ⇒ no cache"] that defines it — any parent, any call, any key. -/
theorem precedence_layers (u : Bool) (p : Option JobInfo) (c : Call) (k : String) (hc : CallWF c) (hp : InfoWF p) :
    (evalOptions u p c).lookup k = rightmost (layers u p c) k := by
  rw [lookup_evalOptions, precedence_raw u p c k hc hp]
  simp only [rightmost, layers, List.foldl_cons, List.foldl_nil, Option.or_none, lookup_mapVals, Option.map_or,
    Option.map_map]
  have he : (evalVal ∘ embed) = id := funext evalVal_embed
  simp only [he, Option.map_id_fun, id]
  unfold provOffLayer
  cases recProv (mapVals evalVal (rawOptions u p c))
  · by_cases hk : k = "cache_scope"
    · subst hk; simp
    · simp [Assoc.lookup_cons, hk]
  · simp

/-- Full strength, every job of every tree: along any ancestor chain (any depth), the job at its head has, for every
key, the value of the right-most layer, where the "exported by ancestors" layer is computed from the parent's own
effective options — the recursion over the chain is inside `jobInfo`. -/
theorem precedence (u : Bool) (c : Call) (anc : List Call) (k : String) (hwf : ∀ x ∈ c :: anc, CallWF x) :
    effective u (c :: anc) k = rightmost (layers u (jobInfo u anc) c) k := by
  rw [effective_cons]
  exact precedence_layers u (jobInfo u anc) c k (hwf c List.mem_cons_self)
    (Options.jobInfo_wf u anc fun x hx => hwf x (List.mem_cons_of_mem _ hx))

/-- Definition options are the lowest layer: they are what a job gets when nothing above defines the key. -/
theorem definition_lowest (u : Bool) (p : Option JobInfo) (c : Call) (k : String) (hc : CallWF c) (hp : InfoWF p)
    (h1 : (inherited p).lookup k = none) (h2 : c.var.over.lookup k = none) (h3 : (forced u p).lookup k = none)
    (h4 : (provOffLayer u p c).lookup k = none) :
    (evalOptions u p c).lookup k = ((c.reg.over.lookup k).or (c.reg.base.lookup k)).map evalVal := by
  rw [precedence_layers u p c k hc hp]
  simp only [rightmost, layers, List.foldl_cons, List.foldl_nil, h1, h2, h3, h4, lookup_mapVals, Option.none_or,
    Option.or_none, Option.map_or, Option.map_none]

/-- Call-time options beat exported and definition options: whatever the ancestors export and the definition says. -/
theorem call_time_over_inherited (u : Bool) (p : Option JobInfo) (c : Call) (k : String) (r : Val) (hc : CallWF c)
    (hp : InfoWF p) (h2 : c.var.over.lookup k = some r) (h3 : (forced u p).lookup k = none)
    (h4 : (provOffLayer u p c).lookup k = none) : (evalOptions u p c).lookup k = some (evalVal r) := by
  rw [precedence_layers u p c k hc hp]
  exact rightmost_spec [_, _, _] [forced u p, provOffLayer u p c] (mapVals evalVal c.var.over) k (evalVal r)
    (by rw [lookup_mapVals, h2]; rfl) (List.forall_mem_cons.2 ⟨h3, List.forall_mem_cons.2 ⟨h4, nofun⟩⟩)

/-- non-vacuity: definition 1, exported 2, call-time 3 — the job gets 3; without the call-time option it gets 2 -/
example :
    (evalOptions true (some ⟨[("memory", .int 2)], ["memory"]⟩)
      ⟨⟨[("memory", .int 1)], [], []⟩, ⟨[("memory", .int 1)], [("memory", .int 3)], []⟩⟩).lookup "memory" = some (.int 3) ∧
    (evalOptions true (some ⟨[("memory", .int 2)], ["memory"]⟩)
      ⟨⟨[("memory", .int 1)], [], []⟩, ⟨[("memory", .int 1)], [], []⟩⟩).lookup "memory" = some (.int 2) := by
  constructor <;> rfl

/-- One step: a job exports what its parent exports, plus what its task definition and the call export. -/
theorem exports_accumulate (u : Bool) (p : Option JobInfo) (c : Call) (n : String) :
    n ∈ (jobStep u p c).exports ↔ n ∈ c.reg.exports ∨ n ∈ c.var.exports ∨ n ∈ parentExports p := by
  simp only [jobStep, exportsStep, List.mem_append, or_assoc]

/-- Exactly the union: a job exports a name iff some job on its chain (itself included) exports it through its task
definition or its call. -/
theorem exports_exact (u : Bool) (chain : List Call) (j : JobInfo) (hj : jobInfo u chain = some j) (n : String) :
    n ∈ j.exports ↔ ∃ c ∈ chain, n ∈ c.reg.exports ∨ n ∈ c.var.exports := by
  rw [jobInfo_exports u _ j hj]; exact mem_exportsOf_iff chain n

/-- Along every path of every tree: a descendant (any number of levels below) exports every name an ancestor
exports: the ancestor's chain is part of the descendant's. -/
theorem exports_accumulate_path (u : Bool) (below anc : List Call) (p j : JobInfo) (hp : jobInfo u anc = some p)
    (hj : jobInfo u (below ++ anc) = some j) (n : String) (hn : n ∈ p.exports) : n ∈ j.exports := by
  obtain ⟨c, hc, h⟩ := (exports_exact u anc p hp n).1 hn
  exact (exports_exact u _ j hj n).2 ⟨c, List.mem_append_right _ hc, h⟩

/-- The top-down walk of a tree (every job computed from its parent job, as the scheduler does) yields, for every
node, the job of the node's ancestor chain: all chain theorems apply to every job of every tree. -/
theorem tree_jobs_are_chain_jobs (u : Bool) (t : JTree) :
    (walk u none t).map (fun ij => (ij.1, some ij.2)) = (chainsOf [] t).map (fun ic => (ic.1, jobInfo u ic.2)) :=
  walk_chains u [] t

/-- Every node of a tree is the root or has its parent (the tail of its chain) in the tree. -/
theorem tree_parent_in_tree (t : JTree) (e : String × List Call) (he : e ∈ chainsOf [] t) :
    ∃ c rest, e.2 = c :: rest ∧ (rest = [] ∨ ∃ e' ∈ chainsOf [] t, e'.2 = rest) := chains_parent [] t e he

/-- Monotone along every root-to-leaf path: each non-root node of a tree has its parent in the tree and exports at
least the parent's names (by transitivity: at least every ancestor's). -/
theorem tree_exports_monotone (t : JTree) (e : String × List Call) (he : e ∈ chainsOf [] t) :
    (∃ c, e.2 = [c]) ∨ ∃ e' ∈ chainsOf [] t, (∃ c, e.2 = c :: e'.2) ∧ ∀ n ∈ exportsOf e'.2, n ∈ exportsOf e.2 := by
  obtain ⟨c, rest, h1, h2⟩ := chains_parent [] t e he
  rcases h2 with h2 | ⟨e', he', h3⟩
  · exact Or.inl ⟨c, by rw [h1, h2]⟩
  · refine Or.inr ⟨e', he', ⟨c, by rw [h1, h3]⟩, ?_⟩
    intro n hn
    rw [h1, ← h3]
    exact List.mem_append_right _ hn

/-- non-vacuity: grandchild of a job exporting `x` whose child exports `y` exports both -/
example : exportsOf [⟨emptyTask, emptyTask⟩, ⟨emptyTask, ⟨[], [("y", .int 1)], ["y"]⟩⟩, ⟨emptyTask, ⟨[], [("x", .int 1)], ["x"]⟩⟩]
    = ["y", "x"] := rfl

/-- The inherited layer is the parent's effective options restricted to the parent's exported names. -/
theorem inherited_only_exported (p : JobInfo) (k : String) (v : CVal) :
    (inherited (some p)).lookup k = some v ↔ k ∈ p.exports ∧ p.evalOpts.lookup k = some v := by
  rw [lookup_inherited]
  by_cases h : k ∈ p.exports <;> simp [h]

/-- A key that the parent does not export (and the scheduler does not impose) has the value the job would have
with no parent at all: nothing of the ancestors' options leaks through. -/
theorem unexported_not_inherited (u : Bool) (p : JobInfo) (c : Call) (k : String) (h1 : k ≠ "cache_scope") (h2 : k ≠ "prov")
    (hc : CallWF c) (hp : WF p.evalOpts) (hk : k ∉ p.exports) :
    (evalOptions u (some p) c).lookup k = (evalOptions true none c).lookup k := by
  rw [lookup_evalOptions_other _ _ _ _ h1, lookup_evalOptions_other _ _ _ _ h1, precedence_raw u (some p) c k hc hp,
    precedence_raw true none c k hc trivial, lookup_forced_other _ _ _ h1 h2, lookup_forced_other _ _ _ h1 h2,
    lookup_inherited, if_neg hk]
  rfl

/-- An exported option reaches every descendant, any number of levels down, until a call sets it again.
Induction over the chain below the exporting ancestor (`jobInfo_below`). -/
theorem inherit_through (u : Bool) (k : String) (h1 : k ≠ "cache_scope") (h2 : k ≠ "prov") (below anc : List Call) (v : CVal)
    (hwf : ∀ c ∈ below ++ anc, CallWF c) (hex : k ∈ exportsOf anc) (hv : effective u anc k = some v)
    (hno : ∀ c ∈ below, c.var.over.lookup k = none) : effective u (below ++ anc) k = some v := by
  obtain ⟨p, hp, hv⟩ := Option.bind_eq_some_iff.1 hv
  -- what every call below the exporting ancestor passes on: the exported name and its value
  obtain ⟨j, hj, -, -, hjv⟩ := jobInfo_below (P := fun j => k ∈ j.exports ∧ j.evalOpts.lookup k = some v)
    u below anc hwf hp ⟨jobInfo_exports u anc p hp ▸ hex, hv⟩ (by
      intro c hc hcw j hjw ⟨hje, hjv⟩
      dsimp only [jobStep]
      refine ⟨List.mem_append_right _ hje, ?_⟩
      rw [lookup_evalOptions_other _ _ _ _ h1, precedence_raw u (some j) c k hcw hjw, lookup_forced_other _ _ _ h1 h2,
        hno c hc, lookup_inherited, if_pos hje, hjv]
      exact congrArg some (evalVal_embed v))
  rw [effective, hj]
  exact hjv

/-- non-vacuity: `x=7` exported two levels up arrives, although the job's task defines `x=0`; the unexported `y` does not -/
example :
    effective true [⟨⟨[("x", .int 0)], [], []⟩, ⟨[("x", .int 0)], [], []⟩⟩, ⟨emptyTask, emptyTask⟩,
      ⟨emptyTask, ⟨[], [("x", .int 7), ("y", .int 8)], ["x"]⟩⟩] "x" = some (.int 7) ∧
    effective true [⟨⟨[("x", .int 0)], [], []⟩, ⟨[("x", .int 0)], [], []⟩⟩, ⟨emptyTask, emptyTask⟩,
      ⟨emptyTask, ⟨[], [("x", .int 7), ("y", .int 8)], ["x"]⟩⟩] "y" = none := by
  constructor <;> rfl

/-- A run without cache: whatever the definition, the ancestors and the call say about `cache_scope`, the job runs
with `CSE` (or `NONE` when it records no provenance). -/
theorem forced_no_cache (p : Option JobInfo) (c : Call) (hc : CallWF c) (hp : InfoWF p) :
    (evalOptions false p c).lookup "cache_scope" =
      some (if recProv (evalOptions false p c) then scopeC "CSE" else scopeC "NONE") := by
  rw [recProv_evalOptions, lookup_evalOptions]
  cases recProv (mapVals evalVal (rawOptions false p c))
  · simp
  · rw [precedence_raw false p c _ hc hp, lookup_forced]
    simp [evalVal_embed]

/-- … for every job of every tree. -/
theorem forced_no_cache_chain (c : Call) (anc : List Call) (hwf : ∀ x ∈ c :: anc, CallWF x) :
    effective false (c :: anc) "cache_scope" = some (scopeC "CSE") ∨
    effective false (c :: anc) "cache_scope" = some (scopeC "NONE") := by
  have := forced_no_cache (jobInfo false anc) c (hwf c List.mem_cons_self)
    (Options.jobInfo_wf false anc fun x hx => hwf x (List.mem_cons_of_mem _ hx))
  rw [effective_cons, this]
  split
  · exact Or.inl rfl
  · exact Or.inr rfl

/-- Under a parent that records no provenance: `prov` is `False` and `cache_scope` is `NONE`, whatever the call asks. -/
theorem forced_prov_false (u : Bool) (p : JobInfo) (c : Call) (hc : CallWF c) (hp : WF p.evalOpts)
    (hoff : recProv p.evalOpts = false) :
    (evalOptions u (some p) c).lookup "prov" = some (.bool false) ∧
    (evalOptions u (some p) c).lookup "cache_scope" = some (scopeC "NONE") ∧
    recProv (evalOptions u (some p) c) = false := by
  have hne : ("prov" : String) ≠ "cache_scope" := by decide
  have hraw : (rawOptions u (some p) c).lookup "prov" = some (embed (.bool false)) := by
    rw [precedence_raw u (some p) c _ hc hp, lookup_forced]
    simp [parentOff, hoff, hne]
  have hrec : recProv (mapVals evalVal (rawOptions u (some p) c)) = false := by
    rw [recProv, lookup_mapVals, hraw]; rfl
  refine ⟨?_, ?_, ?_⟩
  · rw [lookup_evalOptions_other _ _ _ _ hne, hraw]; rfl
  · rw [lookup_evalOptions, if_pos ⟨rfl, hrec⟩]
  · rw [recProv_evalOptions]; exact hrec

/-- … and so for the whole subtree below a job that records no provenance (induction over the chain: `jobInfo_below`). -/
theorem prov_false_subtree (u : Bool) (below anc : List Call) (p : JobInfo) (hwf : ∀ c ∈ below ++ anc, CallWF c)
    (hp : jobInfo u anc = some p) (hoff : recProv p.evalOpts = false) (hne : below ≠ []) :
    ∃ j, jobInfo u (below ++ anc) = some j ∧ j.evalOpts.lookup "prov" = some (.bool false) ∧
      j.evalOpts.lookup "cache_scope" = some (scopeC "NONE") ∧ recProv j.evalOpts = false := by
  cases below with
  | nil => exact absurd rfl hne
  | cons c t =>
    -- not recording is passed on by every call below `p`; the last step gives the rest
    obtain ⟨j, hj, hjw, hjoff⟩ := jobInfo_below (P := fun j => recProv j.evalOpts = false) u t anc
      (fun x hx => hwf x (List.mem_cons_of_mem _ hx)) hp hoff (by
        intro x _ hxw j hjw hjoff
        dsimp only [jobStep]
        exact (forced_prov_false u j x hxw hjw hjoff).2.2)
    refine ⟨jobStep u (some j) c, by rw [List.cons_append, jobInfo_cons, hj], ?_⟩
    dsimp only [jobStep]
    exact forced_prov_false u j c (hwf c List.mem_cons_self) hjw hjoff

/-- non-vacuity: the call asks for `prov=True, cache_scope=BACKEND` under a `prov=False` parent in a no-cache run -/
example :
    (evalOptions false (some ⟨[("prov", .bool false)], ["prov"]⟩)
      ⟨emptyTask, ⟨[], [("prov", .bool true), ("cache_scope", scopeV "BACKEND")], ["prov"]⟩⟩) =
    [("prov", .bool false), ("cache_scope", scopeC "NONE")] := rfl

example :
    (evalOptions false none ⟨emptyTask, ⟨[], [("cache_scope", scopeV "BACKEND")], []⟩⟩) = [("cache_scope", scopeC "CSE")] := rfl

/-- Every value in `Job.get_options()` is the evaluation of the raw option (or the imposed `NONE`), and — being a
`CVal` — contains no expression: read back as a raw value it spawns no job. -/
theorem options_evaluated (u : Bool) (p : Option JobInfo) (c : Call) (k : String) (v : CVal)
    (h : (evalOptions u p c).lookup k = some v) :
    ((k = "cache_scope" ∧ v = scopeC "NONE") ∨ ∃ r, (rawOptions u p c).lookup k = some r ∧ v = evalVal r) ∧
    calls (embed v) = [] := by
  refine ⟨?_, calls_embed v⟩
  rw [lookup_evalOptions] at h
  split at h
  · rename_i hk; cases h; exact Or.inl ⟨hk.1, rfl⟩
  · obtain ⟨r, hr, rfl⟩ := Option.map_eq_some_iff.1 h
    exact Or.inr ⟨r, hr, rfl⟩

/-- Inherited (and imposed) values are already evaluated: evaluating them again changes nothing and creates no job;
the jobs created for a job's option expressions come from its own definition and call-time layers only. -/
theorem inherited_not_reevaluated (u : Bool) (p : Option JobInfo) (c : Call) :
    (∀ v : CVal, evalVal (embed v) = v ∧ calls (embed v) = []) ∧
    ∀ i ∈ optionJobs (rawOptions u p c), i ∈ optionJobs c.reg.base ∨ i ∈ optionJobs c.reg.over ∨ i ∈ optionJobs c.var.over := by
  refine ⟨fun v => ⟨evalVal_embed v, calls_embed v⟩, ?_⟩
  intro i hi
  -- a layer of already evaluated values contributes no job
  have evaluated : ∀ {a : Dict Val} {b : Dict CVal}, i ∈ optionJobs (dmerge a (mapVals embed b)) → i ∈ optionJobs a :=
    fun h => (optionJobs_dmerge h).resolve_right (optionJobs_embed _ ▸ List.not_mem_nil)
  rcases optionJobs_dmerge (evaluated hi) with h | h
  · exact (optionJobs_dmerge (evaluated h)).imp_right Or.inl
  · exact Or.inr (Or.inr h)

/-- The jobs evaluating a job's option expressions are jobs of the option-less task under the job's PARENT: they
export what the parent exports and run with the parent's exported options plus the imposed ones — nothing of the
job whose options they compute. -/
theorem option_jobs_under_parent (u : Bool) (p : Option JobInfo) (id : String) (c : Call) (ch : List JTree) (hp : InfoWF p) :
    (∀ i ∈ optionJobs (rawOptions u p c), (i, jobStep u p plainCall) ∈ walkOpt u p (.node id c ch)) ∧
    (jobStep u p plainCall).exports = parentExports p ∧
    ∀ k, (jobStep u p plainCall).evalOpts.lookup k = rightmost [inherited p, forced u p, provOffLayer u p plainCall] k := by
  refine ⟨?_, ?_, ?_⟩
  · intro i hi
    simp only [walkOpt, List.mem_append, List.mem_map]
    exact Or.inl ⟨i, hi, rfl⟩
  · simp [jobStep, exportsStep, plainCall, emptyTask]
  · intro k
    have hc : CallWF plainCall := by simp [CallWF, plainCall, emptyTask, WF, keys]
    have := precedence_layers u p plainCall k hc hp
    simpa [jobStep, layers, rightmost, plainCall, emptyTask, mapVals] using this

/-- non-vacuity: `memory=val("e", val("f", 7))` is evaluated to 7 and creates the jobs `e` and `f` -/
example :
    evalOptions true none ⟨emptyTask, ⟨[], [("memory", .call "e" (.call "f" (.int 7)))], []⟩⟩ = [("memory", .int 7)] ∧
    optionJobs (rawOptions true none ⟨emptyTask, ⟨[], [("memory", .call "e" (.call "f" (.int 7)))], []⟩⟩) = ["e", "f"] := by
  constructor <;> rfl

theorem evalOptions_wf (u : Bool) (p : Option JobInfo) (c : Call) (hc : CallWF c) : WF (evalOptions u p c) :=
  wf_evalOptions u p c hc.1

theorem jobInfo_wf (u : Bool) (chain : List Call) (h : ∀ c ∈ chain, CallWF c) : InfoWF (jobInfo u chain) :=
  Options.jobInfo_wf u chain h

/-- Tasks built by `@task(..)` and any sequence of `.options(..)` / `.export_options(..)` from dicts have dicts. -/
theorem constructed_calls_wf (opts defExport : Dict Val) (ops : List TaskOp) (reg var : TaskV) (ho : WF opts)
    (h1 : mkTask opts defExport = .ok reg) (h2 : applyOps reg reg ops = .ok var) : CallWF ⟨reg, var⟩ := by
  have hr := mkTask_wf ho h1
  have hv := applyOps_wf hr.1 hr.1 hr.2 h2
  exact ⟨hr.1, hr.2, hv.2⟩

/-- `Task.export_options` keeps the names already exported and adds the new ones. -/
theorem export_options_accumulates (t t' : TaskV) (upd : Dict Val) (h : t.exportOptions upd = .ok t') :
    (∀ n ∈ t.exports, n ∈ t'.exports) ∧ (∀ n ∈ keys upd, n ∈ t'.exports) := by
  -- the names handed to `_validate` include `t.exports ++ keys upd` (plus the synonym of `cache`)
  have hsub : ∀ n ∈ t.exports ++ keys upd, n ∈ t'.exports := fun n hn => by
    apply (validate_exports h).1
    dsimp only
    split
    · exact List.mem_append_left _ hn
    · exact hn
  exact ⟨fun n hn => hsub n (List.mem_append_left _ hn), fun n hn => hsub n (List.mem_append_right _ hn)⟩

/-- A Task VALUE that goes through pickle / the cache (`Task.__getstate__`/`__setstate__`) keeps every exported name
(and gains at most the automatic `prov`), keeps its call-time options up to the idempotent re-validation, and takes its
definition options from the registered task: calling it afterwards gives the same job options and exports. -/
theorem roundtrip_preserves_exports (reg t t' : TaskV) (h : t.roundtrip reg = .ok t') :
    (∀ n ∈ t.exports, n ∈ t'.exports) ∧ (∀ n ∈ t'.exports, n ∈ t.exports ∨ n = "prov") ∧
    normalize t.over = .ok t'.over ∧ normalize reg.base = .ok t'.base := by
  have he := validate_exports h
  exact ⟨he.1, he.2, (validate_ok h).2.1, (validate_ok h).1⟩

/-- For any task value built by `@task` / `.options` / `.export_options` / an earlier round trip (anything that
came out of `_validate`), the round trip keeps the call-time options EXACTLY (re-validation is idempotent). -/
theorem roundtrip_preserves_options (reg t0 t t' : TaskV) (hv : validate t0 = .ok t) (h : t.roundtrip reg = .ok t') :
    t'.over = t.over := by
  have := (roundtrip_preserves_exports reg t t' h).2.2.1
  rw [normalize_idem (validate_ok hv).2.1] at this
  exact (Except.ok.inj this).symm

/-- non-vacuity: `f.export_options(x=1, cache=False)` pickled and restored still exports `x`, `cache`, `cache_scope` -/
example : (TaskV.roundtrip ⟨[("m", .int 1)], [("x", .int 1), ("cache_scope", scopeV "CSE")], ["x", "cache", "cache_scope"]⟩
      ⟨[("m", .int 1)], [], []⟩) =
    .ok ⟨[("m", .int 1)], [("x", .int 1), ("cache_scope", scopeV "CSE")], ["x", "cache", "cache_scope"]⟩ := rfl

/-- Remark (API level): `Task.options` builds the new task without `export_options`, so names exported earlier on the
same task object are dropped (only the automatic `prov` can remain). -/
theorem options_drops_exports_note (t t' : TaskV) (upd : Dict Val) (h : t.options upd = .ok t') :
    ∀ n ∈ t'.exports, n = "prov" :=
  fun n hn => ((validate_exports h).2 n hn).elim (fun h => nomatch h) id

example : (TaskV.options ⟨[], [("x", .int 1)], ["x"]⟩ [("y", .int 2)]) = .ok ⟨[], [("x", .int 1), ("y", .int 2)], []⟩ := rfl

/-- Remark (API level): `@task(export_options={"cache": False})` stores `cache_scope` but exports the name `cache`
only (the synonym is added by `Task.export_options`, not by the decorator), so children do not inherit it. -/
theorem def_export_cache_note :
    mkTask [] [("cache", .bool false)] = .ok ⟨[("cache_scope", scopeV "CSE")], [], ["cache"]⟩ ∧
    emptyTask.exportOptions [("cache", .bool false)] = .ok ⟨[], [("cache_scope", scopeV "CSE")], ["cache", "cache_scope"]⟩ := by
  constructor <;> rfl

/-- Full-strength statement "every run evaluates its options and yields the jobs of the tree" is FALSE of the current
code: a root call with an expression-valued option dies with `KeyError` in `record_job_start`
(finding C27-root-option-expression-crash; witness `f.options(memory=val("e", 1))("r")`). -/
theorem run_evaluates_options_refuted :
    ¬ ∀ (u : Bool) (t : JTree), runTree u t = .ok (walk u none t, walkOpt u none t) := by
  intro h
  have := h true (.node "r" ⟨emptyTask, ⟨[], [("memory", .call "e" (.int 1))], []⟩⟩ [])
  have e : runTree true (.node "r" ⟨emptyTask, ⟨[], [("memory", .call "e" (.int 1))], []⟩⟩ []) = .error .keyError := rfl
  rw [e] at this
  cases this

/-- What holds: a run whose root call has no expression-valued option yields the jobs of the tree (and then all
theorems above apply to every job, expression-valued options of non-root jobs included). -/
theorem run_evaluates_options_partial (u : Bool) (id : String) (c : Call) (ch : List JTree)
    (h : optionJobs (rawOptions u none c) = []) :
    runTree u (.node id c ch) = .ok (walk u none (.node id c ch), walkOpt u none (.node id c ch)) := by
  have : ¬ parentlessRecorded u c ≥ 2 := by
    unfold parentlessRecorded; rw [h]; split <;> simp
  simp only [runTree, this, if_false]

/-- The exact condition in the current code: the run dies iff at least two parentless jobs record their start. -/
theorem run_crash_iff (u : Bool) (id : String) (c : Call) (ch : List JTree) :
    runTree u (.node id c ch) = .error .keyError ↔ parentlessRecorded u c ≥ 2 := by
  unfold runTree
  split <;> simp_all

/-- non-vacuity of the partial theorem, and the surviving corner: one option expression under a root with `prov=False` -/
example : runTree true (.node "r" ⟨emptyTask, ⟨[], [("memory", .int 1)], []⟩⟩ []) =
    .ok ([("r", ⟨[("memory", .int 1)], []⟩)], []) := rfl
example : (runTree true (.node "r" ⟨emptyTask, ⟨[], [("memory", .call "e" (.int 1)), ("prov", .bool false)], ["prov"]⟩⟩ [])).isOk = true := rfl

end RedunModel.C27
