/-
C15 — Cache keys separate every distinct call and only those.

Model: `RedunModel.Model.Keys` (`callKey` = `get_arg_defaults` + `{**defaults, **kwargs}` +
`hash_args_eval` + `hash_arguments`/`hash_eval`, with the repair of
harness/findings_proposed/C15-variadic-binding.fix.diff; `callKeyOld` = the code before the repair).
Keys are symbolic pre-images (`Model/Pre.lean`): equal pre-images ⇔ equal digests modulo SHA-512/160
collisions and modulo `TypeRegistry.get_hash` being injective on values (trusted, DESIGN §2).
`(callKey …).1` is the eval hash, `.2` the args hash.
-/
import RedunModel.Lemmas.Keys
namespace RedunModel.C15
open RedunModel.Pre RedunModel.Keys List

/-- A different task hash gives a different eval key, whatever the arguments. -/
theorem key_separates_task (th th' : Pre) (cfg cfg' : List String) (sig sig' : Sig)
    (args args' : List Arg) (kw kw' : Kwargs) (h : th ≠ th') :
    (callKey th cfg sig args kw).1 ≠ (callKey th' cfg' sig' args' kw').1 :=
  fun e => h (evalKey_eq_iff.mp e).1

/-- Positional arguments (named slots and variadic ones): if two calls of the same task with the same
number of positional arguments and JobInfo values at the same places get the same eval key, then
every positional argument that is not bound to a declared config parameter and is not a JobInfo has
the same value hash in both.  (Contrapositive: changing the hash of such an argument changes the key.) -/
theorem key_separates_positional (th : Pre) (cfg : List String) (sig : Sig) (args args' : List Arg)
    (kw kw' : Kwargs) (hlen : args.length = args'.length)
    (hji : ∀ (i : Nat) (a b : Arg), args[i]? = some a → args'[i]? = some b → a.ji = b.ji)
    (hkey : (callKey th cfg sig args kw).1 = (callKey th cfg sig args' kw').1)
    (i : Nat) (a b : Arg) (ha : args[i]? = some a) (hb : args'[i]? = some b)
    (hslot : isConfig cfg (slotOfPos sig i) = false) (hj : a.ji = false) : a.h = b.h :=
  kept_inj cfg (slotOfPos sig) args args' hlen hji (evalKey_eq_iff.mp hkey).2.1 i a b ha hb
    (by simp [keepArg_eq, hslot, hj])

/-- the mutation form of `key_separates_positional`: replacing one non-config, non-JobInfo positional
argument by a value with a different hash changes the eval key -/
theorem key_changes_positional (th : Pre) (cfg : List String) (sig : Sig) (args : List Arg) (kw : Kwargs)
    (i : Nat) (a b : Arg) (ha : args[i]? = some a) (hab : a.h ≠ b.h) (hja : a.ji = false) (hjb : b.ji = false)
    (hslot : isConfig cfg (slotOfPos sig i) = false) :
    (callKey th cfg sig args kw).1 ≠ (callKey th cfg sig (args.set i b) kw).1 := by
  intro e
  have hi : i < args.length := (List.getElem?_eq_some_iff.mp ha).1
  refine hab (key_separates_positional th cfg sig args (args.set i b) kw kw (by simp) ?_ e i a b ha
    (by simp [hi]) hslot hja)
  intro j x y hx hy
  by_cases hij : i = j
  · subst hij
    rw [ha] at hx
    simp only [getElem?_set_self hi, Option.some.injEq] at hy
    cases hx; cases hy; rw [hja, hjb]
  · rw [getElem?_set_ne hij, hx] at hy
    cases hy; rfl

/-- Keyword arguments: if two calls of the same task get the same eval key and both pass keyword `k`,
and `k` is not a declared config argument and the first value is not a JobInfo, then the two values
have the same hash.  No assumption relates the other arguments of the two calls. -/
theorem key_separates_keyword (th th' : Pre) (cfg : List String) (sig : Sig) (args args' : List Arg)
    (kw kw' : Kwargs) (hn : (keys kw).Nodup) (hn' : (keys kw').Nodup)
    (hkey : (callKey th cfg sig args kw).1 = (callKey th' cfg sig args' kw').1)
    (k : String) (a a' : Arg) (ha : (k, a) ∈ kw) (ha' : (k, a') ∈ kw')
    (hcfg : cfg.contains k = false) (hj : a.ji = false) : a.h = a'.h := by
  -- the item `(k, hash a)` is kept in the first key, hence in the second, where `k` is bound to `a'`
  have hm : ((k, Pre.val a.h) : String × Pre) ∈ sortKw (hashKw (filterKwargs cfg (finalKw sig args.length kw))) := by
    rw [mem_sortKw, mem_finalHash hn]
    have hc : k ∉ cfg := by simpa using hcfg
    exact ⟨a, Or.inr ha, by simp [keepArg, hc, hj], rfl⟩
  rw [(evalKey_eq_iff.mp hkey).2.2, mem_sortKw, mem_finalHash hn'] at hm
  obtain ⟨b, hb, _, hv⟩ := hm
  rcases hb with hb | hb
  · exact absurd (mem_map_of_mem (f := (·.1)) hb)
      (defaults_disjoint sig args'.length kw' k (mem_map_of_mem (f := (·.1)) ha'))
  · rw [Pre.val.inj hv, (Prod.mk.inj (inj_of_nodup_map hn' hb ha' rfl)).2]

/-- Keyword order: a permutation of the keyword arguments leaves both hashes unchanged. -/
theorem key_stable_keyword_order (th : Pre) (cfg : List String) (sig : Sig) (args : List Arg)
    (kw kw' : Kwargs) (hsig : (sig.map (·.name)).Nodup) (hn : (keys kw).Nodup) (hp : kw.Perm kw') :
    callKey th cfg sig args kw = callKey th cfg sig args kw' := by
  have hn' : (keys kw').Nodup := by
    unfold keys at *; exact (hp.map _).nodup_iff.mp hn
  have hk : ∀ k, k ∈ keys kw ↔ k ∈ keys kw' := fun k => by
    unfold keys; exact (hp.map _).mem_iff
  refine callKey_congr_kw hsig hn hn' fun k a _ => ?_
  simp only [mem_getArgDefaults, hk, hp.mem_iff]

/-- Config argument values and JobInfo placeholders in positional position (named or variadic slot)
do not influence the key: two calls whose positional arguments agree except at config slots, or where
both pass a JobInfo, get the same hashes. -/
theorem key_stable_positional (th : Pre) (cfg : List String) (sig : Sig) (args args' : List Arg)
    (kw : Kwargs) (hlen : args.length = args'.length)
    (hrel : ∀ (i : Nat) (a b : Arg), args[i]? = some a → args'[i]? = some b →
      a = b ∨ isConfig cfg (slotOfPos sig i) = true ∨ (a.ji = true ∧ b.ji = true)) :
    callKey th cfg sig args kw = callKey th cfg sig args' kw :=
  callKey_congr (kept_stable cfg (slotOfPos sig) args args' hlen hrel) (by rw [hlen])

/-- Config argument values and JobInfo placeholders passed by keyword do not influence the key:
`kw'` has the same keywords as `kw`, and each value is unchanged, or the keyword is a config argument,
or both values are JobInfos. -/
theorem key_stable_keyword_values (th : Pre) (cfg : List String) (sig : Sig) (args : List Arg)
    (kw kw' : Kwargs) (hsig : (sig.map (·.name)).Nodup) (hn : (keys kw).Nodup) (hkeys : keys kw = keys kw')
    (hrel : ∀ (k : String) (a b : Arg), (k, a) ∈ kw → (k, b) ∈ kw' →
      a = b ∨ cfg.contains k = true ∨ (a.ji = true ∧ b.ji = true)) :
    callKey th cfg sig args kw = callKey th cfg sig args kw' := by
  -- one direction; the other is the same with the two calls exchanged
  have dir : ∀ {k1 k2 : Kwargs}, keys k1 = keys k2 →
      (∀ (k : String) (a b : Arg), (k, a) ∈ k1 → (k, b) ∈ k2 →
        a = b ∨ cfg.contains k = true ∨ (a.ji = true ∧ b.ji = true)) →
      ∀ (k : String) (a : Arg), keepArg cfg (some k) a = true → (k, a) ∈ k1 → (k, a) ∈ k2 := by
    intro k1 k2 hks hr k a hka ha
    have : k ∈ keys k2 := hks ▸ mem_map_of_mem (f := (·.1)) ha
    obtain ⟨⟨k', b⟩, hb, rfl⟩ := mem_map.mp this
    rcases hr k' a b ha hb with r | r | r
    · exact r ▸ hb
    · have r' : k' ∈ cfg := by simpa using r
      simp [keepArg, r'] at hka
    · simp [keepArg, r.1] at hka
  refine callKey_congr_kw hsig hn (hkeys ▸ hn) fun k a hk => or_congr (by simp only [mem_getArgDefaults, hkeys])
    ⟨dir hkeys hrel k a hk, dir hkeys.symm (fun k b a hb ha => (hrel k a b ha hb).imp Eq.symm
      (Or.imp_right And.symm)) k a hk⟩

theorem param_unique {sig : Sig} (hsig : (sig.map (·.name)).Nodup) {p q : Param} {i j : Nat}
    (hp : (p, i) ∈ sig.zipIdx) (hq : (q, j) ∈ sig.zipIdx) (h : p.name = q.name) : p = q ∧ i = j := by
  rw [← zipIdx_map_fst 0 sig, map_map] at hsig
  exact Prod.mk.inj (inj_of_nodup_map hsig hp hq h)

/-- Passing a defaulted parameter by keyword with its default value does not change the key:
`p` is a parameter with default `d` that the call leaves unbound (not filled positionally — only
positional parameters can be — and not passed by keyword). -/
theorem key_stable_default_by_keyword (th : Pre) (cfg : List String) (sig : Sig) (args : List Arg)
    (kw : Kwargs) (hsig : (sig.map (·.name)).Nodup) (hn : (keys kw).Nodup)
    (p : Param) (i : Nat) (d : Arg) (hp : (p, i) ∈ sig.zipIdx) (hd : p.default = some d)
    (hpos : ¬ (i < args.length ∧ p.kind.positional = true)) (hk : p.name ∉ keys kw) :
    callKey th cfg sig args (kw ++ [(p.name, d)]) = callKey th cfg sig args kw := by
  have hn' : (keys (kw ++ [(p.name, d)])).Nodup := by
    rw [keys, map_append]
    exact (perm_append_singleton _ _).nodup_iff.mpr (nodup_cons.mpr ⟨hk, hn⟩)
  -- the keyword takes the place of the default of `p`; every other default stays
  have hD : ∀ x : String × Arg,
      x ∈ getArgDefaults sig args.length (kw ++ [(p.name, d)]) ∨ x = (p.name, d) ↔
        x ∈ getArgDefaults sig args.length kw := by
    intro x
    simp only [mem_getArgDefaults, keys, map_append, map_cons, map_nil, mem_append, mem_singleton, not_or]
    constructor
    · rintro (⟨q, j, h1, h2, h3, h4, h5⟩ | rfl)
      · exact ⟨q, j, h1, h2, h3.1, h4, h5⟩
      · exact ⟨p, i, hp, hpos, hk, hd, rfl⟩
    · rintro ⟨q, j, h1, h2, h3, h4, h5⟩
      by_cases hq : q.name = p.name
      · obtain ⟨rfl, rfl⟩ := param_unique hsig h1 hp hq
        exact Or.inr (Prod.ext h5 (Option.some.inj (h4.symm.trans hd)))
      · exact Or.inl ⟨q, j, h1, h2, ⟨h3, hq⟩, h4, h5⟩
  refine callKey_congr_kw hsig hn' hn fun k a _ => ?_
  rw [← hD, mem_append, mem_singleton]
  exact or_assoc.symm.trans or_right_comm

/-- The leading type tags of all record kinds are pairwise distinct, so (`ne_of_leadTag_ne`) records of
different kinds never share a pre-image. -/
theorem tags_distinct : recordTags.Nodup := by decide +kernel

theorem ne_of_leadTag_ne (a b : Pre) (h : leadTag a ≠ leadTag b) : a ≠ b := fun e => h (e ▸ rfl)

theorem evalKey_tag (th : Pre) (cfg : List String) (sig : Sig) (args : List Arg) (kw : Kwargs) :
    leadTag (callKey th cfg sig args kw).1 = some "Eval" ∧
    leadTag (callKey th cfg sig args kw).2 = some "TaskArguments" := ⟨rfl, rfl⟩

/-- `def g(*rest, cfg=1)` with `config_args=["cfg"]` -/
def sigRestCfg : Sig := [⟨"rest", .varPos, none⟩, ⟨"cfg", .kwOnly, some ⟨1, false⟩⟩]
/-- `def k(*rest, kk=1)` without config args -/
def sigRestKk : Sig := [⟨"rest", .varPos, none⟩, ⟨"kk", .kwOnly, some ⟨1, false⟩⟩]

/-- Finding F8.  Before the repair `g(1, 2, 3)` and `g(1, 5, 3)` have the same key: the variadic value at
index 1 is zipped with the keyword-only name `cfg` and dropped. -/
theorem refuted_old_variadic_zipped_with_kwonly_config :
    callKeyOld (.str "T") ["cfg"] sigRestCfg [⟨1, false⟩, ⟨2, false⟩, ⟨3, false⟩] []
      = callKeyOld (.str "T") ["cfg"] sigRestCfg [⟨1, false⟩, ⟨5, false⟩, ⟨3, false⟩] [] := by
  rfl

/-- … while the repaired code separates them (instance of `key_changes_positional`). -/
theorem fixed_variadic_separated :
    (callKey (.str "T") ["cfg"] sigRestCfg [⟨1, false⟩, ⟨2, false⟩, ⟨3, false⟩] []).1
      ≠ (callKey (.str "T") ["cfg"] sigRestCfg [⟨1, false⟩, ⟨5, false⟩, ⟨3, false⟩] []).1 :=
  key_changes_positional (.str "T") ["cfg"] sigRestCfg [⟨1, false⟩, ⟨2, false⟩, ⟨3, false⟩] [] 1
    ⟨2, false⟩ ⟨5, false⟩ rfl (by decide) rfl rfl (by decide)

/-- The twin of F8 in `get_arg_defaults`.  Before the repair `k(1, 2)` and `k(1, 2, kk=1)` have different
keys: the default of the keyword-only `kk` (parameter index 1 < 2 positional arguments) is not merged. -/
theorem refuted_old_kwonly_default_after_varargs :
    (callKeyOld (.str "T") [] sigRestKk [⟨1, false⟩, ⟨2, false⟩] []).1
      ≠ (callKeyOld (.str "T") [] sigRestKk [⟨1, false⟩, ⟨2, false⟩] [("kk", ⟨1, false⟩)]).1 := by
  intro h
  -- the keyword dict of the first key is empty, that of the second holds `kk`
  cases (taskArguments_inj.mp (evalHash_inj.mp h).2).2

/-- … while the repaired code gives them one key (instance of `key_stable_default_by_keyword`;
also shows its hypotheses are satisfiable). -/
theorem fixed_kwonly_default_merged :
    callKey (.str "T") [] sigRestKk [⟨1, false⟩, ⟨2, false⟩] [("kk", ⟨1, false⟩)]
      = callKey (.str "T") [] sigRestKk [⟨1, false⟩, ⟨2, false⟩] [] :=
  key_stable_default_by_keyword (.str "T") [] sigRestKk [⟨1, false⟩, ⟨2, false⟩] [] (by decide) (by decide)
    ⟨"kk", .kwOnly, some ⟨1, false⟩⟩ 1 ⟨1, false⟩ (by decide) rfl (by decide) (by decide)

-- The remaining implications applied to concrete calls: their hypotheses can be met.

/-- `def f(a, b=7, *rest, c=8, **kw)` with `config_args=["b"]` -/
def sigMixed : Sig := [⟨"a", .posOrKw, none⟩, ⟨"b", .posOrKw, some ⟨7, false⟩⟩, ⟨"rest", .varPos, none⟩,
  ⟨"c", .kwOnly, some ⟨8, false⟩⟩, ⟨"kw", .varKw, none⟩]

/-- keyword separation on a concrete pair: `f(1, c=3)` vs `f(1, c=4)` -/
example : (callKey (.str "T") ["b"] sigMixed [⟨1, false⟩] [("c", ⟨3, false⟩)]).1
    ≠ (callKey (.str "T") ["b"] sigMixed [⟨1, false⟩] [("c", ⟨4, false⟩)]).1 := fun e => by
  have := key_separates_keyword (.str "T") (.str "T") ["b"] sigMixed [⟨1, false⟩] [⟨1, false⟩]
    [("c", ⟨3, false⟩)] [("c", ⟨4, false⟩)] (by decide) (by decide) e "c" ⟨3, false⟩ ⟨4, false⟩
    (by simp) (by simp) (by decide) rfl
  simp at this

/-- keyword order on a concrete pair: `f(1, c=3, z=4)` vs `f(1, z=4, c=3)` -/
example : callKey (.str "T") ["b"] sigMixed [⟨1, false⟩] [("c", ⟨3, false⟩), ("z", ⟨4, false⟩)]
    = callKey (.str "T") ["b"] sigMixed [⟨1, false⟩] [("z", ⟨4, false⟩), ("c", ⟨3, false⟩)] :=
  key_stable_keyword_order _ _ _ _ _ _ (by decide) (by decide) (Perm.swap _ _ _)

/-- config value passed positionally: `f(1, 2, 9)` vs `f(1, 3, 9)` with `b` a config argument;
JobInfo in the variadic tail: `f(1, 2, J)` vs `f(1, 2, J')` -/
example : callKey (.str "T") ["b"] sigMixed [⟨1, false⟩, ⟨2, false⟩, ⟨9, true⟩] []
    = callKey (.str "T") ["b"] sigMixed [⟨1, false⟩, ⟨3, false⟩, ⟨10, true⟩] [] :=
  key_stable_positional _ _ _ _ _ _ rfl (by
    intro i a b ha hb
    match i with
    | 0 => simp at ha hb; subst ha; subst hb; exact Or.inl rfl
    | 1 => exact Or.inr (Or.inl (by decide))
    | 2 => simp at ha hb; subst ha; subst hb; exact Or.inr (Or.inr ⟨rfl, rfl⟩)
    | n + 3 => simp at ha)

/-- config value passed by keyword: `f(1, b=2)` vs `f(1, b=3)` -/
example : callKey (.str "T") ["b"] sigMixed [⟨1, false⟩] [("b", ⟨2, false⟩)]
    = callKey (.str "T") ["b"] sigMixed [⟨1, false⟩] [("b", ⟨3, false⟩)] :=
  key_stable_keyword_values _ _ _ _ _ _ (by decide) (by decide) rfl (by
    intro k a b ha hb
    simp at ha hb
    exact Or.inr (Or.inl (by rw [ha.1]; decide)))

end RedunModel.C15
