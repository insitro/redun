/-
C17 — Task hashes track code identity.

Model: `RedunModel.Model.TaskHash` (`calcHash` = `Task._calc_hash`, `funcSource` = `get_func_source`
with the repair of harness/findings_proposed/C17-async-def-source.fix.diff, `withOptions` = `Task.options` with
the repair of harness/findings_proposed/C17-options-keep-hash-includes.fix.diff, `partialHash`, `wrapTask`).
Hashes are symbolic pre-images; `hash_includes` digests are sorted by an externally supplied rank
(the digest order), and the theorems hold for every rank assignment.
The theorems that tell hashes apart assume `compat = []` (with `compat` the code returns `compat[0]`).
-/
import RedunModel.Lemmas.TaskHash
import RedunModel.Lemmas.ListAux
namespace RedunModel.C17
open RedunModel.Pre RedunModel.TaskHash List

theorem calcHash_eq (t : TaskDef) (hc : t.compat = []) :
    calcHash t = .hash (.list ([.str "Task", .str (fullname t)] ++ codeId taskSource t ++ inclHashes t ++ optsHash t)) := by
  simp [calcHash, calcHashWith, hc]

theorem codeId_length (t : TaskDef) : (codeId taskSource t).length = 2 := by
  unfold codeId; split <;> rfl

theorem inclHashes_perm (t : TaskDef) : (inclHashes t).Perm ((t.includes.getD []).map (·.2)) := by
  unfold inclHashes
  cases t.includes with
  | none => exact Perm.refl _
  | some l => exact (sortR_perm l).map _

theorem calcHash_congr {t t' : TaskDef} (hc : t.compat = t'.compat) (hn : fullname t = fullname t')
    (hs : codeId taskSource t = codeId taskSource t') (hi : inclHashes t = inclHashes t')
    (ho : optsHash t = optsHash t') : calcHash t = calcHash t' := by
  unfold calcHash calcHashWith
  rw [hc, hn, hs, hi, ho]

/-- Equal task hashes force equal full names, equal code identity (source or version)
and equal `includes ++ options` tails. -/
theorem calcHash_inj (t t' : TaskDef) (hc : t.compat = []) (hc' : t'.compat = []) (h : calcHash t = calcHash t') :
    fullname t = fullname t' ∧ codeId taskSource t = codeId taskSource t' ∧
      inclHashes t ++ optsHash t = inclHashes t' ++ optsHash t' := by
  rw [calcHash_eq t hc, calcHash_eq t' hc'] at h
  simp only [cons_append, nil_append, append_assoc, record_inj, cons.injEq, Pre.str.injEq, true_and] at h
  have := append_inj h.2 (by rw [codeId_length, codeId_length])
  exact ⟨h.1, this.1, this.2⟩

/-- A different full name gives a different hash (whatever else changes). -/
theorem hash_changes_fullname (t t' : TaskDef) (hc : t.compat = []) (hc' : t'.compat = [])
    (h : fullname t ≠ fullname t') : calcHash t ≠ calcHash t' :=
  fun e => h (calcHash_inj t t' hc hc' e).1

/-- `_validate` only admits names without a dot; then the full name determines namespace and name,
so a change of the name or of the namespace is a change of the full name. -/
theorem fullname_injective (t t' : TaskDef) (h1 : '.' ∉ t.name.toList) (h2 : '.' ∉ t'.name.toList)
    (h : fullname t = fullname t') : t.ns = t'.ns ∧ t.name = t'.name := by
  have dot : ∀ a b : String, '.' ∈ (a ++ "." ++ b).toList := fun a b => by simp [String.toList_append]
  unfold fullname at h
  by_cases e1 : t.ns = "" <;> by_cases e2 : t'.ns = "" <;> simp only [e1, e2, ne_eq, not_true_eq_false, not_false_eq_true, if_true, if_false] at h
  · exact ⟨by rw [e1, e2], h⟩
  · exact absurd (h ▸ dot _ _) h1
  · exact absurd (h ▸ dot _ _) h2
  · have := congrArg String.toList h
    simp only [String.toList_append, append_assoc] at this
    obtain ⟨a, b⟩ := append_cons_inj_right h1 h2 this
    exact ⟨String.ext a, String.ext b⟩

/-- Unversioned tasks: a different source gives a different hash (whatever else changes). -/
theorem hash_changes_source (t t' : TaskDef) (hc : t.compat = []) (hc' : t'.compat = [])
    (hv : t.version = none) (hv' : t'.version = none) (h : taskSource t ≠ taskSource t') :
    calcHash t ≠ calcHash t' := by
  intro e
  have := (calcHash_inj t t' hc hc' e).2.1
  simp only [codeId, hv, hv', cons.injEq, Pre.str.injEq, true_and, and_true] at this
  exact h this

/-- Versioned tasks: a different version gives a different hash; a versioned and an unversioned task
never share a hash. -/
theorem hash_changes_version (t t' : TaskDef) (hc : t.compat = []) (hc' : t'.compat = [])
    (h : t.version ≠ t'.version) : calcHash t ≠ calcHash t' := by
  intro e
  have := (calcHash_inj t t' hc hc' e).2.1
  unfold codeId at this
  cases h1 : t.version <;> cases h2 : t'.version <;> simp_all

/-- Versioned tasks ignore the source. -/
theorem hash_versioned_ignores_source (t : TaskDef) (lines : List String) (s : Option String)
    (hv : t.version ≠ none) : calcHash { t with srcLines := lines, srcGiven := s } = calcHash t := by
  cases h : t.version with
  | none => exact absurd h hv
  | some v => exact calcHash_congr rfl rfl (by simp only [codeId, h]) rfl rfl

/-- `hash_includes`: with the same option overrides, equal hashes force the included data to be the
same multiset of hashes.  (Contrapositive: changing the included data changes the hash.) -/
theorem hash_changes_includes (t t' : TaskDef) (hc : t.compat = []) (hc' : t'.compat = [])
    (ho : t.override = t'.override) (h : calcHash t = calcHash t') :
    ((t.includes.getD []).map (·.2)).Perm ((t'.includes.getD []).map (·.2)) := by
  have h3 := (calcHash_inj t t' hc hc' h).2.2
  rw [optsHash, optsHash, ho] at h3
  exact (inclHashes_perm t).symm.trans (append_cancel_right h3 ▸ inclHashes_perm t')

/-- Call-time option overrides: with the same included data (up to order), equal hashes force equal
overrides.  (Contrapositive: changing the overrides changes the hash.) -/
theorem hash_changes_override (t t' : TaskDef) (hc : t.compat = []) (hc' : t'.compat = [])
    (hi : (t.includes.getD []).Perm (t'.includes.getD [])) (h : calcHash t = calcHash t') :
    t.override = t'.override := by
  have h3 := (calcHash_inj t t' hc hc' h).2.2
  have hl : (inclHashes t).length = (inclHashes t').length := by
    rw [(inclHashes_perm t).length_eq, (inclHashes_perm t').length_eq, length_map, length_map, hi.length_eq]
  have := (append_inj h3 hl).2
  unfold optsHash at this
  cases h1 : t.override <;> cases h2 : t'.override <;> simp_all

/-- Definition-time options are not hashed. -/
theorem hash_ignores_base (t : TaskDef) (b : Nat) : calcHash { t with base := b } = calcHash t := rfl

/-- The order of `hash_includes` is irrelevant. -/
theorem hash_ignores_include_order (t : TaskDef) (l l' : List Inc) (hp : l.Perm l') (hr : RankOK l) :
    calcHash { t with includes := some l } = calcHash { t with includes := some l' } :=
  calcHash_congr rfl rfl rfl (by simp only [inclHashes, sortR_eq_of_perm hp hr]) rfl

/-- `hash_includes=None` and `hash_includes=[]` are the same. -/
theorem hash_ignores_empty_includes (t : TaskDef) :
    calcHash { t with includes := some [] } = calcHash { t with includes := none } := rfl

theorem cutAt_append (p : List Char → Bool) (ds rest : List String) (hd : ∀ d ∈ ds, p d.toList = false) :
    cutAt p (ds ++ rest) = cutAt p rest := by
  induction ds with
  | nil => rfl
  | cons d t ih =>
    have h1 : p d.toList = false := hd d (by simp)
    simp only [cons_append, cutAt, h1, Bool.false_eq_true, if_false]
    exact ih (fun x hx => hd x (by simp [hx]))

/-- Decorator lines are cut away: whatever lines precede the `def`/`async def` line (none of them a
def line themselves), the source is the text from the def line on. -/
theorem funcSource_ignores_decorators (ds : List String) (defLine : String) (body : List String)
    (hd : ∀ d ∈ ds, isDefLine d.toList = false) (h : isDefLine defLine.toList = true) :
    funcSource (ds ++ defLine :: body) = "\n".intercalate (defLine :: body) := by
  simp [funcSource, funcSourceWith, cutAt_append isDefLine ds _ hd, cutAt, h]

/-- …hence the task hash does not depend on the decorator lines. -/
theorem hash_ignores_decorators (t : TaskDef) (ds ds' : List String) (defLine : String) (body : List String)
    (hd : ∀ d ∈ ds, isDefLine d.toList = false) (hd' : ∀ d ∈ ds', isDefLine d.toList = false)
    (h : isDefLine defLine.toList = true) (hs : t.srcGiven = none) :
    calcHash { t with srcLines := ds ++ defLine :: body } = calcHash { t with srcLines := ds' ++ defLine :: body } := by
  refine calcHash_congr rfl rfl ?_ rfl rfl
  simp only [codeId, taskSource, hs, funcSource_ignores_decorators ds defLine body hd h,
    funcSource_ignores_decorators ds' defLine body hd' h]

/-- `def`, `async def`, tab-indented and nested definitions are recognised; decorator lines are not. -/
theorem isDefLine_table :
    isDefLine "def f(x):".toList = true ∧ isDefLine "    def f(x):".toList = true ∧
    isDefLine "async def f(x):".toList = true ∧ isDefLine "    async  def f(x):".toList = true ∧
    isDefLine "\tdef f(x):".toList = true ∧
    isDefLine "@task(memory=1)".toList = false ∧ isDefLine "    default=3,".toList = false ∧
    isDefLine "asyncdef f".toList = false ∧ isDefLine "define(x)".toList = false ∧ isDefLine ")".toList = false := by
  -- a literal is `String.ofList` of its characters; evaluating `toList` on it would decode UTF-8
  repeat rw [String.toList_ofList]
  decide

theorem taskSource_withOptions (t : TaskDef) (n : Nat) : taskSource (withOptions t n) = taskSource t := by
  unfold taskSource withOptions selfSource
  cases h : t.srcGiven with
  | none => simp only []; split <;> simp_all
  | some s => simp

/-- `Task.options` only replaces the override hash: name, code identity and `hash_includes` stay in
the hash (so the "changes when" theorems above apply to tasks with call-time options as well). -/
theorem withOptions_hash (t : TaskDef) (n : Nat) :
    calcHash (withOptions t n) = calcHash { t with override := some n } := by
  refine calcHash_congr rfl rfl ?_ rfl rfl
  unfold codeId
  rw [taskSource_withOptions]
  rfl

/-- A task with call-time options still changes its hash when its `hash_includes` data change. -/
theorem options_keep_includes (t t' : TaskDef) (n : Nat) (hc : t.compat = []) (hc' : t'.compat = [])
    (h : calcHash (withOptions t n) = calcHash (withOptions t' n)) :
    ((t.includes.getD []).map (·.2)).Perm ((t'.includes.getD []).map (·.2)) := by
  rw [withOptions_hash, withOptions_hash] at h
  exact hash_changes_includes { t with override := some n } { t' with override := some n } hc hc' rfl h

/-- Before the repair `Task.options` dropped `hash_includes`: whatever the included data, the hash
after `.options(...)` is the same. -/
theorem refuted_old_options_drop_includes (t : TaskDef) (l l' : Option (List Inc)) (n : Nat) :
    calcHash (withOptionsOld { t with includes := l } n) = calcHash (withOptionsOld { t with includes := l' } n) := rfl

/-- A wrapped task's hash changes when the task it wraps changes (same wrapper). -/
theorem wrapped_changes (w : Wrapper) (r r' : Nat) (inner inner' : TaskDef)
    (h : calcHash inner ≠ calcHash inner') : calcHash (wrapTask w r inner) ≠ calcHash (wrapTask w r' inner') := by
  intro e
  have := hash_changes_includes (wrapTask w r inner) (wrapTask w r' inner') rfl rfl rfl e
  simp only [wrapTask, Option.getD_some, map_append, map_cons, map_nil] at this
  have := (perm_append_left_iff _).mp this
  exact h (by simpa using this)

/-- …and when the wrapper's own included data change. -/
theorem wrapped_changes_wrapper_includes (w w' : Wrapper) (r : Nat) (inner : TaskDef)
    (h : calcHash (wrapTask w r inner) = calcHash (wrapTask w' r inner)) :
    (w.includes.map (·.2)).Perm (w'.includes.map (·.2)) := by
  have := hash_changes_includes (wrapTask w r inner) (wrapTask w' r inner) rfl rfl rfl h
  simp only [wrapTask, Option.getD_some, map_append, map_cons, map_nil] at this
  exact (perm_append_right_iff _).mp this

/-- A partial task's hash reflects the task and the bound arguments: equal hashes ⇒ same inner task
hash, same positional argument hashes, same keyword arguments (as a dict). -/
theorem partial_reflects_args (i i' : Pre) (a a' : List Pre) (k k' : List (String × Pre))
    (h : partialHash i a k = partialHash i' a' k') : i = i' ∧ a = a' ∧ k.Perm k' := by
  simp only [partialHash, record_inj, cons.injEq, taskArguments_inj, true_and, and_true] at h
  exact ⟨h.1, h.2.1, perm_of_sortKw_eq h.2.2⟩

/-- …and is insensitive to keyword order. -/
theorem partial_ignores_keyword_order (i : Pre) (a : List Pre) (k k' : List (String × Pre))
    (hp : k.Perm k') (hn : (keys k).Nodup) : partialHash i a k = partialHash i a k' := by
  simp [partialHash, taskArguments, sortKw_eq_of_perm hp hn]

theorem partial_ne_task (i : Pre) (a : List Pre) (k : List (String × Pre)) (t : TaskDef) :
    partialHash i a k ≠ calcHash t := by
  unfold calcHash calcHashWith
  split
  · exact Pre.noConfusion
  · exact fun e => absurd (record_inj.mp e).1 (by decide)

/-- Noted, not claimed as a defect: includes and options share one flat list.
`@task(hash_includes=[d])` without overrides and no includes with `.options(**d)` collide when the
included value is the override dict itself (both changed at once; the one-dimension theorems above are
not contradicted). -/
theorem flat_list_collision_note (t : TaskDef) (hc : t.compat = []) (n r : Nat) :
    calcHash { t with includes := some [(r, .val n)], override := none }
      = calcHash { t with includes := none, override := some n } := by
  simp only [calcHash, calcHashWith, hc, inclHashes, optsHash, sortR, foldr, insertR, map, append_nil]
  rfl

def asyncSrc (mem : String) : List String :=
  ["@task(cache=False, memory=" ++ mem ++ ")", "async def f(x):", "    return x", ""]

/-- No line of `asyncSrc m` matches the old pattern, so the code before the repair cuts nothing. -/
theorem funcSourceOld_asyncSrc (m : String) : funcSourceOld (asyncSrc m) = "\n".intercalate (asyncSrc m) := by
  have : cutAt isDefLineOld (asyncSrc m) = none := by
    simp only [asyncSrc, cutAt, String.toList_append]
    repeat rw [String.toList_ofList]
    rfl
  rw [funcSourceOld, funcSourceWith, this, Option.getD_none]

/-- With the repair the source starts at the `async def` line (instance of `funcSource_ignores_decorators`). -/
theorem funcSource_asyncSrc (m : String) :
    funcSource (asyncSrc m) = "\n".intercalate ["async def f(x):", "    return x", ""] := by
  refine funcSource_ignores_decorators ["@task(cache=False, memory=" ++ m ++ ")"] _ _ ?_ ?_
  · simp only [mem_singleton, forall_eq, String.toList_append]
    rw [String.toList_ofList]
    rfl
  · rw [String.toList_ofList]
    rfl

/-- Finding F22.  Before the repair the decorator line of an `async def` task stays in the hashed source:
two definitions that differ only in a decorator argument have different sources (hence, unversioned and
without `compat`, different hashes). -/
theorem refuted_old_async_decorator : funcSourceOld (asyncSrc "1") ≠ funcSourceOld (asyncSrc "2") := by
  rw [funcSourceOld_asyncSrc, funcSourceOld_asyncSrc]
  decide +kernel

/-- …with the repair they hash the same. -/
theorem fixed_async_decorator : funcSource (asyncSrc "1") = funcSource (asyncSrc "2") := by
  rw [funcSource_asyncSrc, funcSource_asyncSrc]

-- The implications above applied to a concrete task: their hypotheses can be met.

def tdef : TaskDef :=
  { name := "f", ns := "ns", srcLines := ["@task()", "def f(x):", "    return x", ""], srcGiven := none,
    version := none, compat := [], includes := some [(2, .val 7), (1, .val 9)], base := 0, override := some 5 }

example : calcHash tdef ≠ calcHash { tdef with name := "g" } :=
  hash_changes_fullname _ _ rfl rfl (by decide)
example : calcHash tdef ≠ calcHash { tdef with srcLines := ["@task()", "def f(x):", "    return x + 1", ""] } :=
  hash_changes_source _ _ rfl rfl rfl rfl (by decide +kernel)
example : calcHash { tdef with version := some "1" } ≠ calcHash { tdef with version := some "2" } :=
  hash_changes_version _ _ rfl rfl (by simp)
example : calcHash tdef ≠ calcHash { tdef with includes := some [(2, .val 7)] } := fun e => by
  have := (hash_changes_includes tdef { tdef with includes := some [(2, .val 7)] } rfl rfl rfl e).length_eq
  simp [tdef] at this
example : calcHash tdef ≠ calcHash { tdef with override := some 6 } := fun e => by
  have := hash_changes_override tdef { tdef with override := some 6 } rfl rfl (Perm.refl _) e
  simp [tdef] at this
example : calcHash tdef = calcHash { tdef with includes := some [(1, .val 9), (2, .val 7)] } :=
  hash_ignores_include_order tdef _ _ (Perm.swap _ _ _) (by
    intro a ha b hb; simp at ha hb; rcases ha with rfl | rfl <;> rcases hb with rfl | rfl <;> simp)
example : calcHash (withOptions tdef 3) ≠ calcHash (withOptions { tdef with includes := some [(2, .val 7)] } 3) :=
  fun e => by
    have := (options_keep_includes tdef { tdef with includes := some [(2, .val 7)] } 3 rfl rfl e).length_eq
    simp [tdef] at this
example : calcHash (wrapTask ⟨["def w():", ""], [], none, 0⟩ 0 tdef)
    ≠ calcHash (wrapTask ⟨["def w():", ""], [], none, 0⟩ 0 { tdef with override := some 6 }) :=
  wrapped_changes _ _ _ _ _ (fun e => by
    have := hash_changes_override tdef { tdef with override := some 6 } rfl rfl (Perm.refl _) e
    simp [tdef] at this)

example : fullname { tdef with ns := "a.b", name := "c" } ≠ fullname { tdef with ns := "a", name := "c" } := fun h => by
  have := (fullname_injective _ _ (by decide) (by decide) h).1
  simp at this

end RedunModel.C17
