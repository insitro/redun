/-
C19 — Nested values are traversed and rebuilt faithfully.

Models: `RedunModel.Model.Nested` (`NV`, `mapNV`, `leaves`, the explicit-stack
iterator `iterNested`, the visiting order `visited` of `map_nested_value`) and
`RedunModel.Model.NestedMap` (`mapPy` = `map_nested_value` of the repaired code written over the Python
attribute primitives that can raise; `mapOld` = the same before the repair).
Left out: Python merges set elements and dict keys that `func` makes equal; the model keeps one entry per
entry of the argument, so for sets and dicts the theorems describe `func` injective on those entries.
-/
import RedunModel.Lemmas.Nested
import RedunModel.Lemmas.NestedMap
namespace RedunModel.C19
open RedunModel.Nested RedunModel.Nested.NV RedunModel.NestedMap
variable {α β γ : Type}

/-- For every function and every nested value of the grammar (lists, tuples, named tuples, sets, dicts
with nested keys, dataclasses with init and non-init fields, frozen or not, with or without `__dict__`)
the repaired `map_nested_value` returns, and what it returns is the structural map. -/
theorem total (f : α → β) (v : NV α) : mapPy f v = .ok (mapNV f v) := mapWith_new f v

/-- The container skeleton (types, class names, arities, dict layout, dataclass field layout) is unchanged. -/
theorem shape_preserved (f : α → β) (v : NV α) : shape (mapNV f v) = shape v :=
  -- `shape` is `mapNV fun _ => ()`, and `(fun _ => ()) ∘ f` unfolds to that function again
  mapNV_comp _ f v

theorem leaves_map (f : α → β) (v : NV α) : leaves (mapNV f v) = (leaves v).map f := by
  rw [leaves, leaves, leavesDfs_mapNV, List.map_reverse]

/-- Every leaf of the result is `f` of a leaf of the argument: an expression nested anywhere is replaced. -/
theorem every_leaf_replaced (f : α → β) (v : NV α) (b : β) (hb : b ∈ leaves (mapNV f v)) :
    ∃ a ∈ leaves v, b = f a := by
  rw [leaves_map] at hb
  obtain ⟨a, ha, rfl⟩ := List.mem_map.1 hb
  exact ⟨a, ha, rfl⟩

/-- Shape and leaves determine a nested value: the result of `map_nested_value` is the *only* value
with the argument's shape whose leaves are the mapped leaves. -/
theorem rebuild_unique (f : α → β) (v : NV α) (r : NV β) (hs : shape r = shape v)
    (hl : leaves r = (leaves v).map f) : r = mapNV f v := by
  apply eq_of_shape_leavesDfs
  · rw [hs, shape_preserved]
  · exact List.reverse_inj.1 (hl.trans (leaves_map f v).symm)

theorem wf_preserved (f : α → β) (v : NV α) (h : WF v) : WF (mapNV f v) := (WF_mapNV f v).2 h

theorem functor_id (v : NV α) : mapNV id v = v := mapNV_id v
theorem functor_comp (g : β → γ) (f : α → β) (v : NV α) : mapNV g (mapNV f v) = mapNV (g ∘ f) v := mapNV_comp g f v

/-- The explicit-stack loop of `iter_nested_value` yields the mirror image of depth-first order. -/
theorem iter_eq_leaves (v : NV α) : iterNested v = leaves v := by
  rw [iterNested, iterLoop_eq, List.flatMap_singleton]

theorem iter_perm_dfs (v : NV α) : (iterNested v).Perm (leavesDfs v) := by
  rw [iter_eq_leaves]; exact List.reverse_perm _

/-- The leaves `map_nested_value` applies `func` to are exactly (as a multiset) the ones the iterator yields
(the two orders differ: left-to-right with interleaved dict items vs. mirror-image depth-first). -/
theorem visited_perm_iter (v : NV α) : (visited v).Perm (iterNested v) := by
  rw [iter_eq_leaves]; exact (visited_perm_leavesDfs v).trans (List.reverse_perm _).symm

theorem visited_map (f : α → β) (v : NV α) : visited (mapNV f v) = (visited v).map f := visited_mapNV f v

/-- The code before the repair (finding F20) is not total.  A frozen dataclass with a non-init field:
`setattr` raises `FrozenInstanceError`. -/
theorem old_refuted_frozen_noninit :
    mapOld (fun n : Nat => n + 10)
      (.dcls { name := "FN", fields := [("a", true), ("b", false)], frozen := true } [.leaf 1, .leaf 7])
      = .error .frozenInstanceError := by rfl

/-- `slots=True` dataclass: `value.__dict__` raises `AttributeError`. -/
theorem old_refuted_slots :
    mapOld (fun n : Nat => n + 10)
      (.dcls { name := "SL", fields := [("a", true)], hasDict := false } [.leaf 1])
      = .error .attributeError := by rfl

/-- The same two inputs on the repaired code. -/
example : mapPy (fun n : Nat => n + 10)
      (.dcls { name := "FN", fields := [("a", true), ("b", false)], frozen := true } [.leaf 1, .leaf 7])
      = .ok (.dcls { name := "FN", fields := [("a", true), ("b", false)], frozen := true } [.leaf 11, .leaf 17]) := by
  rfl
example : mapPy (fun n : Nat => n + 10) (.dcls { name := "SL", fields := [("a", true)], hasDict := false } [.leaf 1])
      = .ok (.dcls { name := "SL", fields := [("a", true)], hasDict := false } [.leaf 11]) := by rfl

/-- Partial totality of the old code: fine when every dataclass has a `__dict__` and no frozen one has a
non-init field. -/
theorem old_partial (f : α → β) (v : NV α) (h : OldOk v) : mapOld f v = .ok (mapNV f v) := mapWith_old_ok f v h

/-- … and that condition is exact: everywhere else the old code raises. -/
theorem old_fails_iff (f : α → β) (v : NV α) : (∃ e, mapOld f v = .error e) ↔ ¬ OldOk v := by
  constructor
  · rintro ⟨e, he⟩ hok
    rw [old_partial f v hok] at he
    cases he
  · intro hv
    cases hm : mapOld f v with
    | error e => exact ⟨e, rfl⟩
    | ok r => exact absurd (oldOk_of_ok f v r hm) hv

/-- A nesting through every container type, for the examples below. -/
private def ex : NV Nat :=
  .list [.dict [.tuple [.leaf 1, .leaf 2], .leaf 3] [.set [.leaf 4, .leaf 5], .ntuple "P" [.leaf 6, .leaf 7]],
         .dcls { name := "D", fields := [("n", false), ("x", true), ("y", true)] } [.leaf 8, .list [.leaf 9], .leaf 10]]

example : iterNested ex = [10, 9, 8, 7, 6, 5, 4, 3, 2, 1] := by rw [iter_eq_leaves]; decide
example : leavesDfs ex = [1, 2, 3, 4, 5, 6, 7, 8, 9, 10] := by decide
/-- dict items interleaved; the non-init field `n` (declared first) is visited last -/
example : visited ex = [1, 2, 4, 5, 3, 6, 7, 9, 10, 8] := by decide
example : WF ex := by simp [ex, WF, WFs]
example : OldOk ex := by simp [ex, OldOk, OldOks]
example : leaves (mapNV (· * 2) ex) = [20, 18, 16, 14, 12, 10, 8, 6, 4, 2] := by decide

end RedunModel.C19
