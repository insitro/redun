/-
C23 — Record transfer between repositories preserves the call graph.

Model: `RedunModel.Model.Db` — `iterRecordIds` (layer-wise walk with a `seen` set), `getRecords` (serializers),
`putRecords` (skip existing ids, deserialize, `_postprocess_new_records`, one commit), `transfer`.

Proved here (all record lists, all databases):
* `put_has_all`, `put_idempotent`, `transfer_idempotent` — repeating a transfer adds nothing
* `tag_status`, `new_tag_current_iff` — after an import a tag is current iff no tag edit supersedes it
* `bfs_sound`, `bfs_nodup` — `iter_record_ids` yields only ids reachable from the roots, each once
* `imported_never_hit`, `cache_safe` — the destination's shallow cache never serves an imported call node
  (repaired `_get_call_node`), and every hit after any history with imports is sound (C03)
* `cache_safe_refuted_current` — closed witness for the unrepaired code
Field-by-field round trip and completeness of the walk are checked by the correspondence (model transfer against
real transfer), not proved.
-/
import RedunModel.Props.C03
namespace RedunModel.C23
open RedunModel.Db

theorem isRecordId_mono {a b : Db} (m : Mono a b) {x : H} (h : isRecordId a x = true) : isRecordId b x = true := by
  simp only [isRecordId, Bool.or_eq_true] at h ⊢
  exact h.imp (Or.imp (Or.imp (Or.imp (m.execs _) (m.jobs _)) (m.nodes _)) (m.values _)) (m.tags _)

theorem isRecordId_postprocess (d : Db) (x : H) : isRecordId (postprocessTags d) x = isRecordId d x := by
  simp only [isRecordId, postprocessTags, hasExec, hasJob, hasNode, hasValue, hasTag, List.any_map, Function.comp_def]
  congr 1
  apply List.any_congr rfl
  intro t
  split <;> rfl

theorem recOps_has_id (db : Db) (r : Rec) (ops : List RowOp) (h : ∀ op ∈ recOps r, op ∈ ops) :
    isRecordId (applyOps db ops) r.id = true := by
  simp only [isRecordId, Bool.or_eq_true]
  cases r with
  | exec e => exact Or.inl (Or.inl (Or.inl (Or.inl (has_of_mem_ops (h _ List.mem_cons_self)))))
  | job j => exact Or.inl (Or.inl (Or.inl (Or.inr (has_of_mem_ops (h _ List.mem_cons_self)))))
  | node n ch args => exact Or.inl (Or.inl (Or.inr (has_of_mem_ops (h _ List.mem_cons_self))))
  | value v subs t f => exact Or.inl (Or.inr (has_of_mem_ops (h _ List.mem_cons_self)))
  | tag t ps =>
    exact Or.inr (has_of_mem_ops (h _ List.mem_cons_self))

/-- **after `put_records`, every record of the batch is present** (it was there, or it was written, or it had
the id of an earlier record of the batch) -/
theorem put_has_all (rs : List Rec) (s : Sess) (hp : s.pend = []) :
    ∀ r ∈ rs, isRecordId (putRecords rs s).db r.id = true := by
  intro r hr
  have hcov := (newRecords_loop s.db).covers (seen := []) hr
  by_cases h : newRecords s.db [] rs = []
  · rw [putRecords_of_nil hp h]
    rcases hcov with h' | h' | ⟨r', hm, _⟩
    · exact h'
    · cases h'
    · rw [h] at hm; cases hm
  · rw [(putRecords_of_ne hp h).1, isRecordId_postprocess]
    rcases hcov with h' | h' | ⟨r', hm, he⟩
    · exact isRecordId_mono (mono_applyOps _ _) h'
    · cases h'
    · exact he ▸ recOps_has_id _ r' _ fun op hop => List.mem_flatMap.mpr ⟨r', hm, hop⟩

/-- **Repeating the transfer adds nothing**: the second `put_records` of the same records leaves the session
(tables, log) exactly as it is. -/
theorem put_idempotent (rs : List Rec) (s : Sess) (hp : s.pend = []) :
    putRecords rs (putRecords rs s) = putRecords rs s :=
  putRecords_of_nil (putRecords_pend rs s hp) <| List.eq_nil_iff_forall_not_mem.2 fun _ hy =>
    let ⟨r, hr, ho, _⟩ := (newRecords_loop _).mem hy
    by rw [put_has_all rs s hp r hr] at ho; cases ho

theorem transfer_idempotent (src : Db) (roots : List H) (dst : Sess) (hp : dst.pend = []) :
    transfer src roots (transfer src roots dst) = transfer src roots dst :=
  put_idempotent _ dst hp

/-- a record listed twice in ONE batch (concatenated exports of overlapping root selections) is written once:
`put_has_all` and `put_idempotent` above hold for arbitrary lists, duplicates included; this is the step that
makes them so -/
theorem put_duplicate_skipped (r : Rec) (rs : List Rec) (s : Sess) :
    putRecords (r :: r :: rs) s = putRecords (r :: rs) s := by
  have h : ∀ db, newRecords db [] (r :: r :: rs) = newRecords db [] (r :: rs) := fun db => by
    by_cases hc : isRecordId db r.id = true <;> simp [newRecords, hc]
  unfold putRecords
  rw [h]

theorem postprocess_status (d : Db) :
    ∀ t ∈ (postprocessTags d).tags, d.tagEdits.any (fun e => e.parent == t.tag) = true → t.current = false := by
  intro t ht hany
  obtain ⟨t0, _, he⟩ := List.mem_map.1 ht
  split at he
  · rw [← he]
  · next hno => exact absurd (he ▸ hany) hno

/-- **tag status after an import that wrote something**: a tag that has a child edit is not current -/
theorem tag_status (rs : List Rec) (s : Sess) (hp : s.pend = []) (hnew : newRecords s.db [] rs ≠ []) :
    ∀ t ∈ (putRecords rs s).db.tags,
      (putRecords rs s).db.tagEdits.any (fun e => e.parent == t.tag) = true → t.current = false := by
  rw [(putRecords_of_ne hp hnew).1]
  exact postprocess_status _

theorem tags_of_applyOps {db : Db} {ops : List RowOp} (hno : ∀ op ∈ ops, ∀ t, op ≠ .tagStale t) {t : TagRow}
    (h : t ∈ (applyOps db ops).tags) : t ∈ db.tags ∨ RowOp.tag t ∈ ops := by
  induction ops generalizing db with
  | nil => exact Or.inl h
  | cons op rest ih =>
    rw [applyOps_cons] at h
    rcases ih (fun o ho => hno o (by simp [ho])) h with h' | h'
    · cases op with
      | tag r =>
        simp only [applyOp, List.mem_append, List.mem_singleton] at h'
        rcases h' with h' | h'
        · exact Or.inl h'
        · subst h'; exact Or.inr (by simp)
      | tagStale x => exact absurd rfl (hno _ (by simp) x)
      | _ => exact Or.inl h'
    · exact Or.inr (by simp [h'])

theorem recOps_no_stale (r : Rec) : ∀ op ∈ recOps r, ∀ t, op ≠ .tagStale t := by
  intro op hop t he
  subst he
  cases r <;> simp [recOps] at hop

theorem recOps_tag_current {r : Rec} {t : TagRow} (h : RowOp.tag t ∈ recOps r) : t.current = true := by
  cases r with
  | tag t0 ps =>
    simp [recOps] at h
    rw [h]
  | _ => simp [recOps] at h

/-- **a tag that the import created is current iff nothing supersedes it** (same status as in the source, where
`is_current` is maintained by the same rule) -/
theorem new_tag_current_iff (rs : List Rec) (s : Sess) (hp : s.pend = []) (hnew : newRecords s.db [] rs ≠ [])
    (t : TagRow) (ht : t ∈ (putRecords rs s).db.tags) (hfresh : hasTag s.db t.tag = false) :
    t.current = !(putRecords rs s).db.tagEdits.any (fun e => e.parent == t.tag) := by
  cases hany : (putRecords rs s).db.tagEdits.any (fun e => e.parent == t.tag) with
  | true => rw [tag_status rs s hp hnew t ht hany]; rfl
  | false =>
    -- not superseded: the row is the one the importer inserted, which is current
    rw [(putRecords_of_ne hp hnew).1] at ht hany
    obtain ⟨t0, ht0, he⟩ := List.mem_map.1 ht
    split at he
    · rename_i h; subst he; exact absurd (h.symm.trans hany) nofun
    · subst he
      rcases tags_of_applyOps (fun op hop => let ⟨r, _, hr⟩ := List.mem_flatMap.1 hop; recOps_no_stale r op hr)
        ht0 with h | h
      · rw [show hasTag s.db t0.tag = true from List.any_eq_true.2 ⟨t0, h, beq_self_eq_true _⟩] at hfresh
        cases hfresh
      · obtain ⟨r, _, hr⟩ := List.mem_flatMap.1 h
        exact recOps_tag_current hr

inductive ReachRec (db : Db) : H → H → Prop
  | refl (a : H) : ReachRec db a a
  | step {a b c : H} : b ∈ childIds db a → ReachRec db b c → ReachRec db a c

theorem ReachRec.tail {db : Db} {a b c : H} (h : ReachRec db a b) (hc : c ∈ childIds db b) : ReachRec db a c := by
  induction h with
  | refl a => exact ReachRec.step hc (ReachRec.refl c)
  | step h1 _ ih => exact ReachRec.step h1 (ih hc)

theorem dedupInto_spec (seen frontier : List H) :
    (∀ x ∈ (dedupInto seen frontier).1, x ∈ frontier ∧ x ∉ seen) ∧ (dedupInto seen frontier).1.Nodup ∧
    (dedupInto seen frontier).2 = seen ++ (dedupInto seen frontier).1 := by
  induction frontier generalizing seen with
  | nil => simp [dedupInto]
  | cons x xs ih =>
    simp only [dedupInto]
    split
    · obtain ⟨h1, h2, h3⟩ := ih seen
      exact ⟨fun y hy => ⟨List.mem_cons_of_mem _ (h1 y hy).1, (h1 y hy).2⟩, h2, h3⟩
    · next hx =>
      obtain ⟨h1, h2, h3⟩ := ih (seen ++ [x])
      refine ⟨List.forall_mem_cons.2 ⟨⟨List.mem_cons_self, by simpa using hx⟩, fun y hy =>
        ⟨List.mem_cons_of_mem _ (h1 y hy).1, fun hs => (h1 y hy).2 (List.mem_append_left _ hs)⟩⟩,
        List.nodup_cons.2 ⟨fun hm => (h1 x hm).2 (by simp), h2⟩, by simp [h3]⟩

/-- **`iter_record_ids` is sound**: every id it yields is reachable from the frontier it was started with. -/
theorem bfs_sound (db : Db) (fuel : Nat) (seen frontier : List H) :
    ∀ x ∈ bfs db fuel seen frontier, ∃ f ∈ frontier, ReachRec db f x := by
  induction fuel generalizing seen frontier with
  | zero => intro x h; simp [bfs] at h
  | succ n ih =>
    intro x hx
    simp only [bfs] at hx
    have hd := dedupInto_spec seen frontier
    generalize dedupInto seen frontier = p at hx hd
    obtain ⟨nw, seen'⟩ := p
    simp only at hx hd
    split at hx
    · cases hx
    · simp only [List.mem_append] at hx
      rcases hx with hx | hx
      · exact ⟨x, (hd.1 x hx).1, ReachRec.refl x⟩
      · obtain ⟨f, hf, hr⟩ := ih seen' (nw.flatMap (childIds db)) x hx
        obtain ⟨y, hy, hfy⟩ := List.mem_flatMap.mp hf
        exact ⟨y, (hd.1 y hy).1, ReachRec.step hfy hr⟩

/-- ... and yields no id twice, and none that was seen before -/
theorem bfs_nodup (db : Db) (fuel : Nat) (seen frontier : List H) :
    (bfs db fuel seen frontier).Nodup ∧ ∀ x ∈ bfs db fuel seen frontier, x ∉ seen := by
  induction fuel generalizing seen frontier with
  | zero => simp [bfs]
  | succ n ih =>
    simp only [bfs]
    have hd := dedupInto_spec seen frontier
    generalize dedupInto seen frontier = p at hd
    obtain ⟨nw, seen'⟩ := p
    simp only at hd ⊢
    split
    · simp
    · have hrec := ih seen' (nw.flatMap (childIds db))
      refine ⟨?_, ?_⟩
      · rw [List.nodup_append]
        refine ⟨hd.2.1, hrec.1, ?_⟩
        intro a ha b hb hab
        subst hab
        exact hrec.2 a hb (by rw [hd.2.2]; simp [ha])
      · intro x hx
        simp only [List.mem_append] at hx
        rcases hx with hx | hx
        · exact (hd.1 x hx).2
        · intro hs; exact hrec.2 x hx (by rw [hd.2.2]; simp [hs])

theorem iterRecordIds_sound (db : Db) (roots : List H) :
    ∀ x ∈ iterRecordIds db roots, ∃ r ∈ roots, ReachRec db r x := by
  intro x hx
  obtain ⟨f, hf, hr⟩ := bfs_sound db _ _ _ x hx
  exact ⟨f, (List.mem_filter.mp hf).1, hr⟩

/-- **an imported call node is never served by the repaired shallow lookup**: any hit after `put_records` is on a
call node the destination had before (imported nodes carry no subtree rows, and the empty set is not current). -/
theorem imported_never_hit (v : Variant) (he : v.emptyNotCurrent = true) (rs : List Rec) (s : Sess)
    (hp : s.pend = []) (hsc : SubClosed s.db) (t a : H) (reg : List H) (n : NodeRow)
    (hit : getCallNode v (putRecords rs s).db t a reg = some n) : hasNode s.db n.call = true := by
  obtain ⟨_, _, _, hs, _⟩ := putRecords_graph rs s hp
  have hne := (nodeCurrent_spec (getCallNode_spec hit).2.2.2).1 he
  unfold subtreeOf at hne
  rw [hs] at hne
  obtain ⟨x, hx⟩ := List.exists_mem_of_ne_nil _ hne
  exact hsc _ (mem_subtreeOf.mp hx)

/-- **cache safety**: after any history of recordings, process deaths, restarts and imports (repaired code), every
shallow hit in the destination is one the recording rules justify (C03.history_shallow_sound). -/
theorem cache_safe (v : Variant) (hc : v.cseSubtreeFromDb = true)
    (he : v.emptyNotCurrent = true) {db : Db} {res : List JobRes} (h : C03.Hist v db res)
    (t a : H) (reg : List H) (n : NodeRow) (hit : getCallNode v db t a reg = some n) :
    C03.Covers db n.call reg :=
  C03.history_shallow_sound v hc he h t a reg n hit

/-- unrepaired `_get_call_node`: the destination serves what the source refuses -/
theorem cache_safe_refuted_current :
    getCallNode .current C03.dbSrc 10 1 C03.regEdited = none ∧
    C03.StaleHit .current (transfer C03.dbSrc [21] (.ofDb {})).db 10 1 C03.regEdited :=
  C03.refuted_transfer

example : (transfer C03.dbSrc [21] (.ofDb {})).db.nodes.length = 2 := by decide
example : iterRecordIds C03.dbSrc [21] = [21, 10, 100, 1, 20, 11] := by decide

end RedunModel.C23
