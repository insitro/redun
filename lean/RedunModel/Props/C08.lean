/-
C08 — Resource limits are never exceeded.

Model: `RedunModel.Model.SchedCore` (the scheduler's job bookkeeping as a transition system; mirrors
/repo after the `fix:` commit "release a job's resource limits exactly once").  Every theorem
quantifies over ALL programs (`p : Prog`: any finite forest of job specifications, any limit
configuration, list- or dict-form demands, failing jobs, cache hits, duplicates, unknown executors)
and ALL schedules (`Reachable p s`: any interleaving of queue processing and executor reports).
All of them are read off the invariant `Inv` (stated in `Lemmas/SchedCore`, established in `Lemmas/SchedTwin`:
`reachable_inv`).
-/
import RedunModel.Lemmas.SchedTwin
namespace RedunModel.C08
open RedunModel.SchedCore

/-- `limits_used` is exactly the sum of the demands of the jobs that currently hold limits
(consumed and not yet released): nothing is released twice, nothing is forgotten. -/
theorem used_eq_held (p : Prog) (s : S) (h : Reachable p s) (r : Res) : s.used r = held p s r :=
  (reachable_inv p s h).core.used_eq r

/-- A job in the hands of an executor holds its limits. -/
theorem inflight_holds (p : Prog) (s : S) (h : Reachable p s) (j : JobId) (hj : s.inflight j = true) :
    s.holds j = true := (reachable_inv p s h).core.infl_holds j hj

/-- At every moment, for every resource, the units held by the jobs that were submitted and have not
yet been reported done or failed never exceed the configured limit. -/
theorem never_exceeded (p : Prog) (s : S) (h : Reachable p s) (r : Res) : heldInflight p s r ≤ p.limit r := by
  have inv := (reachable_inv p s h).core
  calc heldInflight p s r ≤ held p s r := by
        unfold heldInflight held
        apply sumTo_le
        intro i
        by_cases hi : s.inflight i = true
        · simp [hi, inv.infl_holds i hi]
        · have : s.inflight i = false := by simpa using hi
          simp only [this, Bool.false_eq_true, if_false]
          split
          · simp [demOf]
          · exact Int.le_refl 0
    _ = s.used r := (inv.used_eq r).symm
    _ ≤ p.limit r := inv.le_limit r

/-- The same bound for all holders (including jobs whose report is queued but not yet processed). -/
theorem holders_within_limit (p : Prog) (s : S) (h : Reachable p s) (r : Res) : held p s r ≤ p.limit r := by
  have inv := (reachable_inv p s h).core
  rw [← inv.used_eq r]; exact inv.le_limit r

/-- Jobs served from the cache or by deduplication hold no units. -/
theorem cached_hold_nothing (p : Prog) (s : S) (h : Reachable p s) (j : JobId)
    (hc : (s.jobs j).wasCached = true) : s.holds j = false :=
  holds_false_of_occA ((reachable_inv p s h).core.cached_quiet j hc)

/-- Units are returned: a holder is in flight or its completion/rejection event is queued … -/
theorem holder_is_live (p : Prog) (s : S) (h : Reachable p s) (j : JobId) (hj : s.holds j = true) :
    s.inflight j = true ∨ C s j := (reachable_inv p s h).core.holds_wit j (by simp) hj

/-- … so when nothing is queued and nothing is in flight, every unit has been returned
(`limits_used` is all zero at the end of a run; with `used_eq_held` this is "exactly once"). -/
theorem all_released_at_quiescence (p : Prog) (s : S) (h : Reachable p s) (hq : s.queue = [])
    (hi : ∀ j, s.inflight j = false) (r : Res) : s.used r = 0 := by
  have inv := (reachable_inv p s h).core
  rw [inv.used_eq r]
  exact held_zero p (idle_no_holder inv hq hi) r

/-- A dry run never consumes a unit. -/
theorem dryrun_consumes_nothing (p : Prog) (s : S) (h : Reachable p s) (hd : p.dryrun = true) (j : JobId) :
    s.holds j = false := ((reachable_inv p s h).core.dry hd).2 j

/-- every executable run of the model is a reachable state -/
theorem run_reachable (p : Prog) (cs : List Choice) : Reachable p (run p cs) := reachable_run p cs

/-! non-vacuity: a parent with two children that both ask for the one unit of resource 0; after the parent is done one
child is in flight holding the unit and the other waits -/
def demoProg : Prog :=
  { specs := [ { key := 0, ctx := 0, limits := [], scope := .backend, cseOk := true, prov := true, execOk := true,
                 fails := false, pre := .miss, children := [1, 2] },
               { key := 1, ctx := 0, limits := [(0, 1)], scope := .backend, cseOk := true, prov := true, execOk := true,
                 fails := false, pre := .miss, children := [] },
               { key := 2, ctx := 0, limits := [(0, 1)], scope := .backend, cseOk := true, prov := true, execOk := true,
                 fails := false, pre := .miss, children := [] } ],
    limit := fun _ => 1, dryrun := false }

def demoState : S := run demoProg [.pop, .complete 0, .pop, .pop, .pop]

example : demoState.inflight 1 = true ∧ demoState.pendingLimits = [2] ∧ demoState.used 0 = 1 := by decide
example : heldInflight demoProg demoState 0 ≤ 1 := never_exceeded demoProg demoState (run_reachable _ _) 0

end RedunModel.C08
