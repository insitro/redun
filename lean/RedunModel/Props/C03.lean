/-
C03 — Shallow (ultimate-reduction) cache hits respect code changes in the subtree.

Model: `RedunModel.Model.Db` (`_get_call_node`, `record_call_node` statement by statement with its commit points,
`put_records`, the scheduler's `calc_subtree_tasks` / `_get_subtree_tasks` bookkeeping).  Hashes are symbolic.

Full-strength statement (`history_shallow_sound`): in every database state reachable by ANY history of recording
operations, process deaths at ANY commit point, restarts, cache hits and record imports, a shallow hit on call node
`n` implies that every call node reachable from `n` through recorded child edges has a task hash that is in the
current registry.  Jobs that record no provenance (prov=False, `no_prov`) are part of the histories
(`Hist.resolveNoProv`): they write nothing but hand their subtree set to their parent.
It is proved for every `Variant` with `cseSubtreeFromDb` and `emptyNotCurrent` — atomicity of `record_call_node` is
NOT needed: the two-commit code can leave a node with an EMPTY set behind, which is never served.  `healSubtree` is no
hypothesis, but the histories assume what the code has only with it: `Hist.cseHit` wants subtree rows on the node a
CSE hit lands on, and a node left without rows gets them only if `record_call_node` heals it when the job runs again.
Without healing the two flags do not suffice (the CSE-served job hands up `{task}` and the parent's set is short again).
For `Variant.current` (the unrepaired tree) the statement is false: four closed witnesses (`refuted_crash`,
`refuted_retry`, `refuted_transfer`, `refuted_cse_twin`).
The invariant of the histories (`GraphInv`, `Covers`, `GoodRes`) and the lemmas that keep it are in `Lemmas/DbGraph`.
-/
import RedunModel.Lemmas.DbGraph
namespace RedunModel.C03
open RedunModel.Db

/-- **Soundness of the shallow lookup** on any database satisfying the invariant: a hit on `n` means every task
recorded at or beneath `n` is in the registry (i.e. has an unchanged code hash). -/
theorem shallow_sound (v : Variant) (db : Db) (t a : H) (reg : List H) (n : NodeRow)
    (hinv : SubtreeInv db) (hne : v.emptyNotCurrent = true ∨ ∀ n ∈ db.nodes, subtreeOf db n.call ≠ [])
    (h : getCallNode v db t a reg = some n) : Covers db n.call reg := by
  obtain ⟨hn, _, _, hcur⟩ := getCallNode_spec h
  have hnonempty : subtreeOf db n.call ≠ [] := hne.elim (nodeCurrent_spec hcur).1 fun hc => hc n hn
  exact fun d m hr hm hmd => (nodeCurrent_spec hcur).2 _ (hinv n.call d m hnonempty hr hm hmd)

/-- and the hit itself is on the requested task / arguments -/
theorem shallow_hit_matches (v : Variant) (db : Db) (t a : H) (reg : List H) (n : NodeRow)
    (h : getCallNode v db t a reg = some n) : n ∈ db.nodes ∧ n.task = t ∧ n.args = a :=
  ⟨(getCallNode_spec h).1, (getCallNode_spec h).2.1, (getCallNode_spec h).2.2.1⟩

/-- **Crash safety of `record_call_node`, repaired or not**: whatever commit the process dies at, the durable state
satisfies the invariant — the new call node is absent, or present with its complete subtree set, or (unrepaired
two-commit code only) present with an EMPTY set, which the repaired `_get_call_node` never serves. -/
theorem record_crash_safe (v : Variant) (a : CallArgs) (s : Sess)
    (hp : s.pend = []) (hI : GraphInv s.db)
    (hown : a.node.task ∈ a.subtree) (hacyc : a.node.call ∉ a.children)
    (hch : ∀ ch ∈ a.children, hasNode s.db ch = true → Covers s.db ch a.subtree)
    (hself : hasNode s.db a.node.call = true → Covers s.db a.node.call a.subtree) :
    (∀ snap ∈ (recordCallNode v a s).log, snap ∈ s.log ∨ GraphInv snap.db) ∧
    GraphInv (recordCallNode v a s).db := by
  have h := recordCallNode_shapes v a s hp
  exact ⟨fun snap hmem => (h.2.1 snap hmem).imp_right (graphInv_of_shape hI ⟨hown, hacyc, hch, hself⟩),
    graphInv_of_snap hI ⟨hown, hacyc, hch, hself⟩ (snap_of_final h.2.2)⟩

theorem hasNode_ext {db d : Db} {ns : List NodeRow} (hn : d.nodes = db.nodes ++ ns) {c : H}
    (h : hasNode db c = true) : hasNode d c = true := hasNode_append hn h

theorem goodRes_of_bare {a : CallArgs} {db0 d : Db} {r : JobRes} (hI : GraphInv db0)
    (hfr : hasNode db0 a.node.call = false → r.call ≠ some a.node.call)
    (h : CallNodeBare a db0 d) (hg : GoodRes db0 r) : GoodRes d r :=
  goodRes_of_shape (v := .current) hI hfr (Or.inr h) hg

/-- the durable states an operation logged, one per writing commit: what a process death during it can leave behind -/
def crashStates (s' : Sess) : List Db := s'.log.map (·.db)

/-- Histories of one repository: any interleaving of recording operations of (possibly many) scheduler
processes, process deaths at any commit, restarts, cache hits and imports.  `res` are the finished jobs the
running scheduler process remembers (`Job.subtree_tasks`, `Job.call_hash`). -/
inductive Hist (v : Variant) : Db → List JobRes → Prop
  | init : Hist v {} []
  /-- the scheduler process ends (normally or not); a new one starts with no jobs -/
  | restart {db res} : Hist v db res → Hist v db []
  | value {db res} (r : ValueSpec) (d : Db) : Hist v db res →
      (d = (recordValue v r (.ofDb db)).db ∨ d ∈ crashStates (recordValue v r (.ofDb db))) → Hist v d res
  | evalCache {db res} (e : EvalRow) (val : ValueSpec) (d : Db) : Hist v db res →
      (d = (setEvalCache v e val (.ofDb db)).db ∨ d ∈ crashStates (setEvalCache v e val (.ofDb db))) → Hist v d res
  | jobStart {db res} (j : JobRow) (root : Bool) (execs : List H) (s' : Sess) (d : Db) : Hist v db res →
      recordJobStart v j root { db := db, pendingExecs := execs } = .ok s' →
      (d = s'.db ∨ d ∈ crashStates s') → Hist v d res
  | jobEnd {db res} (id : H) (call : Option H) (cached : Bool) (d : Db) : Hist v db res →
      (d = (recordJobEnd id call cached (.ofDb db)).db ∨ d ∈ crashStates (recordJobEnd id call cached (.ofDb db))) →
      Hist v d res
  /-- a job that was evaluated resolves: `calc_subtree_tasks` over finished children, then `record_call_node` -/
  | resolve {db res} (node : NodeRow) (children : List JobRes) (args : List ArgSpec) : Hist v db res →
      (∀ r ∈ children, r ∈ res) →
      node.call ∉ children.filterMap (·.call) →
      (hasNode db node.call = true → MerkleOK db node.call node.task (children.filterMap (·.call))) →
      -- a call hash this process already handed to a parent (by a job that records no provenance) is not recorded
      -- as a NEW node afterwards
      (hasNode db node.call = false → ∀ r ∈ res, r.call ≠ some node.call) →
      Hist v (recordCallNode v ⟨node, children.filterMap (·.call), args, execSubtree node.task children⟩ (.ofDb db)).db
        (res ++ [⟨some node.call, execSubtree node.task children⟩])
  /-- a job that records NO provenance (prov=False, `no_prov`) resolves: nothing is written, but it has a call
  hash and hands `calc_subtree_tasks` over its finished children to its parent like any other job -/
  | resolveNoProv {db res} (task c : H) (children : List JobRes) : Hist v db res →
      (∀ r ∈ children, r ∈ res) →
      (hasNode db c = true → MerkleOK db c task (children.filterMap (·.call))) →
      Hist v db (res ++ [⟨some c, execSubtree task children⟩])
  /-- `resolve`, but the process dies at one of the commits of its `record_call_node` -/
  | resolveCrash {db res} (node : NodeRow) (children : List JobRes) (args : List ArgSpec) (d : Db) : Hist v db res →
      (∀ r ∈ children, r ∈ res) →
      node.call ∉ children.filterMap (·.call) →
      (hasNode db node.call = true → MerkleOK db node.call node.task (children.filterMap (·.call))) →
      d ∈ crashStates (recordCallNode v ⟨node, children.filterMap (·.call), args, execSubtree node.task children⟩ (.ofDb db)) →
      Hist v d []
  /-- a job served by an ultimate-reduction hit (registry `reg` = the code as it is now) -/
  | ultimateHit {db res} (reg : List H) (task args : H) (n : NodeRow) : Hist v db res →
      getCallNode v db task args reg = some n →
      Hist v db (res ++ [⟨some n.call, cachedSubtree v db reg task true n.call⟩])
  /-- a job served by CSE from a call node recorded by this execution: its tasks are registered, and it has subtree
  rows (with `healSubtree`; a node left without rows by a crash or an import, and met again, keeps none otherwise) -/
  | cseHit {db res} (reg : List H) (task : H) (shallow : Bool) (c : H) : Hist v db res →
      hasNode db c = true → subtreeOf db c ≠ [] → (∀ t ∈ subtreeOf db c, t ∈ reg) →
      Hist v db (res ++ [⟨some c, cachedSubtree v db reg task shallow c⟩])
  /-- push / pull / import of a child-closed set of records -/
  | imp {db res} (rs : List Rec) : Hist v db res → EdgesClosed (putRecords rs (.ofDb db)).db →
      Hist v (putRecords rs (.ofDb db)).db []

/-- **Invariant of all histories** of the repaired recording code. -/
theorem hist_inv (v : Variant) (hc : v.cseSubtreeFromDb = true)
    (he : v.emptyNotCurrent = true) {db : Db} {res : List JobRes} (h : Hist v db res) :
    GraphInv db ∧ ∀ r ∈ res, GoodRes db r := by
  induction h with
  | init => exact ⟨graphInv_empty, forall_mem_nil⟩
  | restart _ ih => exact ⟨ih.1, forall_mem_nil⟩
  | value r d _ hd ih => exact frame_step ih (recordValue_frame v r _) rfl rfl hd
  | evalCache e val d _ hd ih => exact frame_step ih (setEvalCache_frame v e val _) rfl rfl hd
  | jobStart j root execs s' d _ hok hd ih => exact frame_step ih (recordJobStart_frame v j root _ s' hok) rfl rfl hd
  | jobEnd id call cached d _ hd ih => exact frame_step ih (recordJobEnd_frame id call cached _) rfl rfl hd
  | resolve node children args _ hch hacyc hmerkle hfresh ih =>
    exact resolve_step ih.1 ih.2 (exec_argsOk (fun r hr => ih.2 r (hch r hr)) ih.1.edges hacyc hmerkle) hfresh
      (recordCallNode_shapes v _ (.ofDb _) rfl).2.2
  | resolveCrash node children args d _ hch hacyc hmerkle hd ih =>
    obtain ⟨snap, hs, rfl⟩ := List.mem_map.1 hd
    exact ⟨graphInv_of_shape ih.1 (exec_argsOk (fun r hr => ih.2 r (hch r hr)) ih.1.edges hacyc hmerkle)
      (((recordCallNode_shapes v _ (.ofDb _) rfl).2.1 snap hs).resolve_left List.not_mem_nil), forall_mem_nil⟩
  | resolveNoProv task c children _ hch hmerkle ih =>
    exact ⟨ih.1, forall_mem_snoc ih.2 (goodRes_of_covers fun hnd =>
      exec_covers_self _ c task children (fun r hr => ih.2 r (hch r hr)) ih.1.edges (hmerkle hnd))⟩
  | ultimateHit reg task args n _ hhit ih =>
    have hcur := (getCallNode_spec hhit).2.2.2
    exact ⟨ih.1, forall_mem_snoc ih.2 (cached_good hc ih.1 ((nodeCurrent_spec hcur).1 he) (nodeCurrent_spec hcur).2)⟩
  | cseHit reg task shallow c _ hn hne hreg ih =>
    exact ⟨ih.1, forall_mem_snoc ih.2 (cached_good hc ih.1 hne hreg)⟩
  | imp rs _ hclosed ih =>
    obtain ⟨ns, es, hx, hs, _⟩ := putRecords_graph rs (.ofDb _) rfl
    exact ⟨ih.1.ext (ss := []) hx (hs.trans (List.append_nil _).symm)
      (fun e he => hclosed e (hx.edges ▸ List.mem_append_right _ he)) forall_mem_nil, forall_mem_nil⟩

/-- **C03, full strength, for the repaired code**: after ANY history (runs, edits — the registry is arbitrary —,
process deaths at any commit, restarts, retries seen as death + re-run, record imports), a shallow hit implies
that every task recorded at or beneath the hit call node is in the current registry. -/
theorem history_shallow_sound (v : Variant) (hc : v.cseSubtreeFromDb = true)
    (he : v.emptyNotCurrent = true) {db : Db} {res : List JobRes} (h : Hist v db res)
    (t a : H) (reg : List H) (n : NodeRow) (hit : getCallNode v db t a reg = some n) :
    Covers db n.call reg :=
  shallow_sound v db t a reg n (hist_inv v hc he h).1.inv (Or.inl he) hit

theorem history_shallow_sound_repaired {db : Db} {res : List JobRes} (h : Hist Variant.repaired db res)
    (t a : H) (reg : List H) (n : NodeRow) (hit : getCallNode Variant.repaired db t a reg = some n) :
    Covers db n.call reg :=
  history_shallow_sound Variant.repaired rfl rfl h t a reg n hit

/-- instance: the tree with the proposed small fixes (two-commit `record_call_node` kept) -/
theorem history_shallow_sound_proposed {db : Db} {res : List JobRes} (h : Hist Variant.proposed db res)
    (t a : H) (reg : List H) (n : NodeRow) (hit : getCallNode Variant.proposed db t a reg = some n) :
    Covers db n.call reg :=
  history_shallow_sound Variant.proposed rfl rfl h t a reg n hit

/-- Uninterrupted, import-free part that also holds for the CURRENT code (`_partial`): a single complete
`record_call_node` of a new node whose `subtree_tasks` cover its recorded children keeps the invariant.
Missing for the full statement on the current code: crash points / retries inside `record_call_node`,
imports, CSE-collapsed children (see the four `refuted_*` witnesses). -/
theorem record_complete_partial (a : CallArgs) (db d : Db) (hI : GraphInv db)
    (hshape : hasNode db a.node.call = false ∧ d.nodes = db.nodes ++ [a.node] ∧
      d.edges = db.edges ++ edgeRows (applyOp db (.node a.node)) a.node.call a.children ∧
      d.subtree = db.subtree ++ a.subtree.map (fun t => ⟨a.node.call, t⟩))
    (hown : a.node.task ∈ a.subtree) (hacyc : a.node.call ∉ a.children)
    (hch : ∀ ch ∈ a.children, hasNode db ch = true → Covers db ch a.subtree) : GraphInv d :=
  graphInv_of_snap (v := Variant.current) hI ⟨hown, hacyc, hch, fun h => by rw [hshape.1] at h; cases h⟩
    (Or.inr (Or.inl hshape))

/-- task hashes: A = 10 (shallow parent), g = 11 (child), g edited = 12; values 1 (argument), 100 (result) -/
def db0 : Db :=
  { values := [⟨10, .task⟩, ⟨11, .task⟩, ⟨1, .plain⟩, ⟨100, .plain⟩], tasks := [10, 11],
    nodes := [⟨20, 11, 1, 100, 0⟩], subtree := [⟨20, 11⟩] }

def callA : CallArgs := ⟨⟨21, 10, 1, 100, 1⟩, [20], [⟨0, ⟨⟨1, .plain⟩, []⟩, []⟩], [10, 11]⟩

/-- the child `g` was edited: its old hash 11 is no longer registered -/
def regEdited : List H := [10, 12]

/-- what the full-strength statement forbids: a hit although a task beneath the node is not registered -/
def StaleHit (v : Variant) (db : Db) (task args : H) (reg : List H) : Prop :=
  ∃ n, getCallNode v db task args reg = some n ∧ ∃ m ∈ db.nodes, Reach db n.call m.call ∧ m.task ∉ reg

theorem reach_edge {db : Db} {a b : H} (e : EdgeRow) (he : e ∈ db.edges) (hp : e.parent = a) (hc : e.child = b) :
    Reach db a b := Reach.step e he hp hc (Reach.refl b)

/-- `record_call_node` (current code) commits the CallNode before its subtree rows: dying between the two
commits leaves a node with an empty set, which is "current" for every registry. -/
theorem refuted_crash :
    newCommits (.ofDb db0) (recordCallNode .current callA (.ofDb db0)) = 2 ∧
    StaleHit .current (crashDb (.ofDb db0) (recordCallNode .current callA (.ofDb db0)) 1) 10 1 regEdited := by
  refine ⟨by decide, ⟨21, 10, 1, 100, 1⟩, by decide, ⟨20, 11, 1, 100, 0⟩, by decide, ?_, by decide⟩
  exact reach_edge ⟨21, 20, 0⟩ (by decide) rfl rfl

/-- a transient error at the second commit: `db_retry` rolls back and re-runs, the re-run returns early because
the CallNode exists, the subtree rows are never written. -/
theorem refuted_retry :
    StaleHit .current
      (recordCallNode .current callA (retryState (.ofDb db0) (recordCallNode .current callA (.ofDb db0)) 1)).db
      10 1 regEdited := by
  refine ⟨⟨21, 10, 1, 100, 1⟩, by decide, ⟨20, 11, 1, 100, 0⟩, by decide, ?_, by decide⟩
  exact reach_edge ⟨21, 20, 0⟩ (by decide) rfl rfl

/-- the source repository after the complete recording -/
def dbSrc : Db := (recordCallNode .current callA (.ofDb db0)).db

/-- `CallNodeSerializer` carries no subtree rows: after push/pull/import the destination serves the stale hit
that the source refuses. -/
theorem refuted_transfer :
    getCallNode .current dbSrc 10 1 regEdited = none ∧
    StaleHit .current (transfer dbSrc [21] (.ofDb {})).db 10 1 regEdited := by
  refine ⟨by decide, ⟨21, 10, 1, 100, 1⟩, by decide, ⟨20, 11, 1, 100, 0⟩, by decide, ?_, by decide⟩
  exact reach_edge ⟨21, 20, 0⟩ (by decide) rfl rfl

/-- CSE twin (no interruption, no transfer): `B` (task 13, shallow) calls `f` (task 14), which was already run in
this execution under another parent (call node 22 with child `g` = node 20).  The CSE-served job contributes only
`{f}`; `B`'s recorded set `{B, f}` misses `g`. -/
def dbTwin : Db :=
  { values := [⟨11, .task⟩, ⟨13, .task⟩, ⟨14, .task⟩, ⟨1, .plain⟩, ⟨100, .plain⟩], tasks := [11, 13, 14],
    nodes := [⟨20, 11, 1, 100, 0⟩, ⟨22, 14, 1, 100, 1⟩], edges := [⟨22, 20, 0⟩],
    subtree := [⟨20, 11⟩, ⟨22, 14⟩, ⟨22, 11⟩] }

def twinRes : JobRes := ⟨some 22, cachedSubtree .current dbTwin [11, 13, 14] 14 false 22⟩

def callB : CallArgs := ⟨⟨23, 13, 1, 100, 2⟩, [22], [⟨0, ⟨⟨1, .plain⟩, []⟩, []⟩], execSubtree 13 [twinRes]⟩

theorem refuted_cse_twin :
    twinRes.sub = [14] ∧
    StaleHit .current (recordCallNode .current callB (.ofDb dbTwin)).db 13 1 [13, 14, 12] := by
  refine ⟨by decide, ⟨23, 13, 1, 100, 2⟩, by decide, ⟨20, 11, 1, 100, 0⟩, by decide, ?_, by decide⟩
  exact Reach.step ⟨23, 22, 0⟩ (by decide) rfl rfl (reach_edge ⟨22, 20, 0⟩ (by decide) rfl rfl)

/-! ### non-vacuity: the same scenarios on the repaired code -/

/-- `Hist.resolve` applies: recording node 21 (task 10, no children) on the empty database is a history -/
example : Hist .repaired (recordCallNode .repaired ⟨⟨21, 10, 1, 100, 1⟩, [], [⟨0, ⟨⟨1, .plain⟩, []⟩, []⟩], execSubtree 10 []⟩ (.ofDb {})).db
    ([] ++ [⟨some 21, execSubtree 10 []⟩]) :=
  Hist.resolve ⟨21, 10, 1, 100, 1⟩ [] [⟨0, ⟨⟨1, .plain⟩, []⟩, []⟩] Hist.init (by simp) (by simp) (by intro h; cases h) (by simp)

example : ∀ snap ∈ (recordCallNode .repaired callA (.ofDb db0)).log, getCallNode .repaired snap.db 10 1 regEdited = none := by
  decide

example : getCallNode .repaired (transfer (recordCallNode .repaired callA (.ofDb db0)).db [21] (.ofDb {})).db 10 1 regEdited = none := by
  decide

example : getCallNode .repaired (recordCallNode .repaired callA (.ofDb db0)).db 10 1 [10, 11] = some ⟨21, 10, 1, 100, 1⟩ := by
  decide

/-- the two-commit code with the proposed fixes: no crash point of the recording serves the edited registry -/
example : ∀ snap ∈ (recordCallNode .proposed callA (.ofDb db0)).log, getCallNode .proposed snap.db 10 1 regEdited = none := by
  decide
example : (recordCallNode .proposed callA (.ofDb db0)).log.length = 2 := by decide

/-- non-vacuity of `resolveNoProv`: report(10, records) -> stage(14, records nothing, call hash 30) -> fetch(11,
node 20): the recording ancestor's set contains the task beneath the non-recording job -/
example : Hist .proposed {} ([] ++ [⟨some 30, execSubtree 14 []⟩]) :=
  Hist.resolveNoProv 14 30 [] Hist.init (by simp) (by intro h; cases h)
example : (11 : H) ∈ execSubtree 10 [⟨some 30, execSubtree 14 [⟨some 20, [11]⟩]⟩] := by decide

end RedunModel.C03
