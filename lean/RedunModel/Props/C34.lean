/-
C34 — Tag values survive display and re-parsing.

Model: `RedunModel.Model.TagValue` (`parse` = `parse_tag_value`, `format` = `format_tag_value` as it is
since the fix eb07f20, `formatOld` = the code before it, `parseKeyValue` = `parse_tag_key_value`).
`int()`, `float()`, `json.loads`, `json.dumps` are parameters; `LexLaws` lists what is assumed of them (each law
is exercised against the real functions by the harness on every run).
-/
import RedunModel.Model.TagValue
namespace RedunModel.C34
open RedunModel.TagValue

variable {F C : Type}

/-- What the proofs assume of Python's `int`, `float` and `json` on JSON-compatible values. -/
structure LexLaws (L : Lex F C) : Prop where
  dumps_null : L.dumps .null = sNull
  dumps_true : L.dumps (.bool true) = sTrue
  dumps_false : L.dumps (.bool false) = sFalse
  /-- `int("null")`, `float("true")`, … raise `ValueError` -/
  null_not_int : L.pyInt sNull = none
  true_not_int : L.pyInt sTrue = none
  false_not_int : L.pyInt sFalse = none
  null_not_float : L.pyFloat sNull = none
  true_not_float : L.pyFloat sTrue = none
  false_not_float : L.pyFloat sFalse = none
  /-- `json.dumps(z)` is a non-empty text not starting with `[`, `{`, `"` which `int()` reads back -/
  dumps_int : ∀ z : Int, L.dumps (.int z) ≠ [] ∧ startsBracket (L.dumps (.int z)) = false ∧
    L.pyInt (L.dumps (.int z)) = some z
  /-- `json.dumps(f)` (= `repr(f)`) is rejected by `int()` and read back by `float()` -/
  dumps_float : ∀ f : F, L.dumps (.float f) ≠ [] ∧ startsBracket (L.dumps (.float f)) = false ∧
    L.pyInt (L.dumps (.float f)) = none ∧ L.pyFloat (L.dumps (.float f)) = some f
  /-- `json.dumps(str)` starts with `"` and `json.loads` reads it back -/
  dumps_str : ∀ s : Str, startsBracket (L.dumps (.str s)) = true ∧ L.loads (L.dumps (.str s)) = some (.str s)
  /-- `json.dumps(list | dict, sort_keys=True)` starts with `[` / `{` and `json.loads` reads it back (`==`) -/
  dumps_compound : ∀ c : C, startsBracket (L.dumps (.compound c)) = true ∧
    L.loads (L.dumps (.compound c)) = some (.compound c)

theorem startsBracket_ne_nil {s : Str} (h : startsBracket s = true) : s ≠ [] := by
  intro e; subst e; simp [startsBracket] at h

theorem parse_bracket (L : Lex F C) (s : Str) (hb : startsBracket s = true) :
    parse L s = match L.loads s with
      | some v => .ok v
      | none => .error .valueError := by
  unfold parse
  rw [if_neg (startsBracket_ne_nil hb), if_pos hb]
  cases L.loads s <;> rfl

theorem parse_nonbracket (L : Lex F C) (s : Str) (h0 : s ≠ []) (hb : startsBracket s = false) :
    parse L s = .ok (match L.pyInt s with
      | some z => .int z
      | none => match L.pyFloat s with
        | some f => .float f
        | none => match str2literal s with
          | some v => v
          | none => .str s) := by
  simp only [parse, h0, if_false, hb, Bool.false_eq_true]
  cases L.pyInt s <;> cases L.pyFloat s <;> cases (str2literal s : Option (JV F C)) <;> rfl

theorem parse_total_nonbracket (L : Lex F C) (s : Str) (h : startsBracket s = false) :
    ∃ p, parse L s = .ok p := by
  by_cases e : s = []
  · exact ⟨.null, by simp [parse, e]⟩
  · exact ⟨_, parse_nonbracket L s e h⟩

theorem str2literal_not_str (s : Str) (p : JV F C) (h : str2literal s = some p) : isStr p = false := by
  unfold str2literal at h
  repeat' split at h
  all_goals cases h <;> rfl

theorem parse_isStr (L : Lex F C) (s : Str) (p : JV F C) (hb : startsBracket s = false)
    (hp : parse L s = .ok p) (hs : isStr p = true) : p = .str s := by
  by_cases e : s = []
  · subst e; cases hp; cases hs
  · rw [parse_nonbracket L s e hb] at hp
    cases hp
    revert hs
    cases L.pyInt s with
    | some z => exact nofun
    | none =>
      cases L.pyFloat s with
      | some f => exact nofun
      | none =>
        cases hl : (str2literal s : Option (JV F C)) with
        | none => exact fun _ => rfl
        | some v => exact fun hs => nomatch (str2literal_not_str s v hl).symm.trans hs

/-- The string branch of `parse_tag_value` is the identity: a non-empty text that does not start with `[`, `{`, `"` and
is rejected by `int()`, `float()` and the literal table is returned unchanged — code point by code point (the model text
is the list of code points; no normalisation, folding or stripping).  The harness checks the same statement on the real
function for every generated text. -/
theorem parse_string_identity (L : Lex F C) (s : Str) (h0 : s ≠ []) (hb : startsBracket s = false)
    (hi : L.pyInt s = none) (hf : L.pyFloat s = none) (hl : (str2literal s : Option (JV F C)) = none) :
    parse L s = .ok (.str s) := by
  rw [parse_nonbracket L s h0 hb, hi, hf, hl]

/-- non-vacuity: a decomposed `é` (`e` followed by U+0301), for any `L` whose `int()` and `float()` reject it -/
example (L : Lex F C) (hi : L.pyInt ['e', '\u0301'] = none) (hf : L.pyFloat ['e', '\u0301'] = none) :
    parse L ['e', '\u0301'] = .ok (.str ['e', '\u0301']) :=
  parse_string_identity L _ (by simp) (by simp [startsBracket]) hi hf (by simp [str2literal, sTrue, sFalse, sNull])

theorem parse_dumps (L : Lex F C) (h : LexLaws L) (v : JV F C) : parse L (L.dumps v) = .ok v := by
  cases v with
  | null => rw [h.dumps_null, parse_nonbracket L sNull (by decide) rfl, h.null_not_int, h.null_not_float]; rfl
  | bool b =>
    cases b
    · rw [h.dumps_false, parse_nonbracket L sFalse (by decide) rfl, h.false_not_int, h.false_not_float]; rfl
    · rw [h.dumps_true, parse_nonbracket L sTrue (by decide) rfl, h.true_not_int, h.true_not_float]; rfl
  | int z =>
    have ⟨h1, h2, h3⟩ := h.dumps_int z
    rw [parse_nonbracket L _ h1 h2, h3]
  | float f =>
    have ⟨h1, h2, h3, h4⟩ := h.dumps_float f
    rw [parse_nonbracket L _ h1 h2, h3, h4]
  | str s =>
    have ⟨h1, h2⟩ := h.dumps_str s
    rw [parse_bracket L _ h1, h2]
  | compound c =>
    have ⟨h1, h2⟩ := h.dumps_compound c
    rw [parse_bracket L _ h1, h2]

/-- What `format_tag_value` displays: the JSON text, or — for a string that does not start with `[`, `{`, `"` and
that `parse_tag_value` reads as itself — the string. -/
theorem format_cases (L : Lex F C) (v : JV F C) :
    format L v = .ok (L.dumps v) ∨
      ∃ s, v = .str s ∧ startsBracket s = false ∧ format L v = .ok s ∧ parse L s = .ok (.str s) := by
  cases v with
  | str s =>
    unfold format
    by_cases h1 : hasSpaceComma s = true
    · exact .inl (by simp [h1])
    · by_cases h2 : startsBracket s = true
      · exact .inl (by simp [h1, h2])
      · have hb : startsBracket s = false := by simpa using h2
        have ⟨p, hp⟩ := parse_total_nonbracket L s hb
        simp only [h1, h2, hp]
        by_cases h3 : isStr p = true
        · exact .inr ⟨s, rfl, hb, by simp [h3], parse_isStr L s p hb hp h3 ▸ hp⟩
        · exact .inl (by simp [h3])
  | _ => exact .inl rfl

/-- **Display never fails** (full strength: every JSON-compatible value; no law needed). -/
theorem total (L : Lex F C) (v : JV F C) : ∃ t, format L v = .ok t := by
  rcases format_cases L v with h | ⟨s, _, _, h, _⟩
  · exact ⟨_, h⟩
  · exact ⟨_, h⟩

/-- **Round trip** (full strength): the displayed text parses back to the original value — for every value,
in particular for strings that look like numbers, literals or JSON. -/
theorem roundtrip (L : Lex F C) (h : LexLaws L) (v : JV F C) :
    ∃ t, format L v = .ok t ∧ parse L t = .ok v := by
  rcases format_cases L v with hf | ⟨s, rfl, _, hf, hp⟩
  · exact ⟨_, hf, parse_dumps L h v⟩
  · exact ⟨_, hf, hp⟩

/-- Strings stay strings, whatever they look like. -/
theorem strings_stay_strings (L : Lex F C) (h : LexLaws L) (s : Str) :
    ∃ t, format L (.str s) = .ok t ∧ parse L t = .ok (.str s) := roundtrip L h (.str s)

theorem splitEq_append (k v : Str) (hk : '=' ∉ k) : splitEq (k ++ '=' :: v) = some (k, v) := by
  induction k with
  | nil => simp [splitEq]
  | cons c t ih =>
    rw [List.mem_cons, not_or] at hk
    simp [splitEq, beq_false_of_ne (Ne.symm hk.1), ih hk.2]

/-- `key=` followed by the displayed value parses back to the key and the value (key non-empty, without `=`).
`format_tag_key_value` itself also trims key and value to 50 characters (`trim_string`); that is not modelled. -/
theorem key_value_roundtrip (L : Lex F C) (h : LexLaws L) (k : Str) (v : JV F C) (req : Bool)
    (hk : k ≠ []) (he : '=' ∉ k) :
    ∃ t, format L v = .ok t ∧ parseKeyValue L (k ++ '=' :: t) req = .ok (k, some v) := by
  have ⟨t, ht, hp⟩ := roundtrip L h v
  exact ⟨t, ht, by simp [parseKeyValue, splitEq_append k t he, hk, hp]⟩

/-- `format_tag_value('[abc')` raises (before the repair): `parse_tag_value` is called on the raw string,
and `[abc` is not valid JSON. -/
theorem formatOld_refuted_raises (L : Lex F C) (hl : L.loads ['[', 'a', 'b', 'c'] = none) :
    formatOld L (.str ['[', 'a', 'b', 'c']) = .error .valueError := by
  rw [formatOld, if_neg (by decide), parse_bracket L _ rfl, hl]

/-- `'"abc"'` is displayed raw (before the repair) and read back as `abc`. -/
theorem formatOld_refuted_quoted (L : Lex F C)
    (hl : L.loads ['"', 'a', 'b', 'c', '"'] = some (.str ['a', 'b', 'c'])) :
    formatOld L (.str ['"', 'a', 'b', 'c', '"']) = .ok ['"', 'a', 'b', 'c', '"'] ∧
    parse L ['"', 'a', 'b', 'c', '"'] = .ok (.str ['a', 'b', 'c']) ∧
    (JV.str ['a', 'b', 'c'] : JV F C) ≠ .str ['"', 'a', 'b', 'c', '"'] := by
  have hp := parse_bracket L _ (rfl : startsBracket ['"', 'a', 'b', 'c', '"'] = true)
  rw [hl] at hp
  exact ⟨by rw [formatOld, if_neg (by decide), hp]; rfl, hp, by simp⟩

/-- Before the repair the round trip holds for every value that is not a string starting with `[`, `{`, `"`. -/
theorem formatOld_partial (L : Lex F C) (h : LexLaws L) (v : JV F C)
    (hv : ∀ s, v = .str s → startsBracket s = false) :
    ∃ t, formatOld L v = .ok t ∧ parse L t = .ok v := by
  have : formatOld L v = format L v := by
    cases v with
    | str s => simp [formatOld, format, hv s rfl]
    | _ => rfl
  rw [this]; exact roundtrip L h v

/-! ### the laws are consistent: a toy instance (no floats, no compounds; ints in sign-unary) -/

def toyL : Lex Empty Empty where
  pyInt := fun s => match s with
    | '+' :: r => if r.all (· == '1') then some (r.length : Int) else none
    | '-' :: r => if r.all (· == '1') && r ≠ [] then some (-(r.length : Int)) else none
    | _ => none
  pyFloat := fun _ => none
  loads := fun s => match s with
    | '"' :: r => some (.str r)
    | _ => none
  dumps := fun v => match v with
    | .null => sNull
    | .bool true => sTrue
    | .bool false => sFalse
    | .int z => if z ≥ 0 then '+' :: List.replicate z.toNat '1' else '-' :: List.replicate (-z).toNat '1'
    | .str s => '"' :: s

theorem toyL_pyInt_plus (n : Nat) : toyL.pyInt ('+' :: List.replicate n '1') = some (n : Int) :=
  (if_pos (by simp)).trans (by rw [List.length_replicate])

theorem toyL_pyInt_minus (n : Nat) (hn : n ≠ 0) : toyL.pyInt ('-' :: List.replicate n '1') = some (-(n : Int)) :=
  (if_pos (by simp [hn])).trans (by rw [List.length_replicate])

theorem toyLaws : LexLaws toyL where
  dumps_null := rfl
  dumps_true := rfl
  dumps_false := rfl
  null_not_int := rfl
  true_not_int := rfl
  false_not_int := rfl
  null_not_float := rfl
  true_not_float := rfl
  false_not_float := rfl
  dumps_int := by
    intro z
    by_cases hz : z ≥ 0
    · rw [show toyL.dumps (.int z) = '+' :: List.replicate z.toNat '1' from if_pos hz, toyL_pyInt_plus,
        Int.toNat_of_nonneg hz]
      exact ⟨nofun, rfl, rfl⟩
    · rw [show toyL.dumps (.int z) = '-' :: List.replicate (-z).toNat '1' from if_neg hz,
        toyL_pyInt_minus _ (by omega), Int.toNat_of_nonneg (by omega), Int.neg_neg]
      exact ⟨nofun, rfl, rfl⟩
  dumps_float := fun f => nomatch f
  dumps_str := fun _ => ⟨rfl, rfl⟩
  dumps_compound := fun c => nomatch c

/-- non-vacuity: the round trip instantiated — the string `+11` (the toy's numeral for 2) is displayed quoted. -/
example : ∃ t, format toyL (.str ['+', '1', '1']) = .ok t ∧ parse toyL t = .ok (.str ['+', '1', '1']) :=
  roundtrip toyL toyLaws _

end RedunModel.C34
