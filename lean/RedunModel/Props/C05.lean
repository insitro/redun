/-
C05 — Results are never shared between calls with different contexts.

Model: `RedunModel.Model.SchedCore`.  The in-memory deduplication is keyed by (eval hash, context hash)
and is proved context-exact.  The backend lookup applies its context filter only when the job HAS a
context (`if context_hash:` in check_cache / _get_call_node); the model mirrors that, so the full
statement is refuted for a context-free call that runs after a context-bearing twin has finished
(known finding; repairing it needs the recorder to mark context-free call nodes — see DESIGN).
-/
import RedunModel.Lemmas.SchedTwin
namespace RedunModel.C05
open RedunModel.SchedCore

/-- In-execution deduplication never crosses contexts: a job collapses only into a pending job with
exactly its eval hash and exactly its context hash.  (All schedules; all programs in which a job that records no
provenance has cache scope NONE, `ProvScope`, which `options_then` in scheduler.py sees to.) -/
theorem collapse_same_context (p : Prog) (hps : ProvScope p) (s : S) (h : Reachable p s) (k : Nat × Nat) (t : JobId)
    (hl : lookupPending s k = some t) : (spec p s t).key = k.1 ∧ (spec p s t).ctx = k.2 := by
  have := ((reachable_cse p hps s h).reg_ok k t (mem_of_lookupPending hl)).1
  unfold keyOf at this
  exact ⟨congrArg Prod.fst this, congrArg Prod.snd this⟩

/-- PARTIAL (context-bearing calls): a same-execution backend hit for a job WITH a context comes from
an entry recorded under the same context hash. -/
theorem cse_hit_same_context_partial (s : S) (sp : Spec) (e : CseEntry) (hctx : sp.ctx ≠ 0)
    (h : cseLookup s sp = some e) : e.key = sp.key ∧ e.ctx = sp.ctx := by
  unfold cseLookup at h
  have := List.find?_some h
  simp only [Bool.and_eq_true, beq_iff_eq, Bool.or_eq_true] at this
  refine ⟨this.1, ?_⟩
  rcases this.2 with a | a
  · exact absurd a hctx
  · exact a

/-- the target statement for the backend lookup -/
def NoCrossContextHit : Prop :=
  ∀ (s : S) (sp : Spec) (e : CseEntry), cseLookup s sp = some e → e.ctx = sp.ctx

/-- REFUTED on the model of the current code: a context-free call (ctx = 0) is served the entry
recorded by a call that ran under context 1. -/
theorem refuted_context_free_after_context_bearing : ¬ NoCrossContextHit := by
  intro h
  have := h { init with cse := [{ key := 1, ctx := 1, isErr := false }] }
    { key := 1, ctx := 0, limits := [], scope := .backend, cseOk := true, prov := true, execOk := true,
      fails := false, pre := .miss, children := [] }
    { key := 1, ctx := 1, isErr := false } (by decide)
  simp at this

/-- the same failure as a reachable run: `a` (child `f` under context 1) completes first, then `b`'s child
`f` without context is looked up and served from the cache (`wasCached`) instead of being submitted -/
def witness : Prog :=
  { specs := [ { key := 0, ctx := 0, limits := [], scope := .backend, cseOk := true, prov := true, execOk := true,
                 fails := false, pre := .miss, children := [1, 2] },
               { key := 5, ctx := 1, limits := [], scope := .backend, cseOk := true, prov := true, execOk := true,
                 fails := false, pre := .miss, children := [3] },     -- a, under context 1
               { key := 6, ctx := 0, limits := [], scope := .backend, cseOk := true, prov := true, execOk := true,
                 fails := false, pre := .miss, children := [4] },     -- b, no context
               { key := 1, ctx := 1, limits := [], scope := .backend, cseOk := true, prov := true, execOk := true,
                 fails := false, pre := .miss, children := [] },      -- f() under context 1
               { key := 1, ctx := 0, limits := [], scope := .backend, cseOk := true, prov := true, execOk := true,
                 fails := false, pre := .miss, children := [] } ],    -- f() without context
    limit := fun _ => 1, dryrun := false }

def witnessRun : S :=
  run witness [.pop, .complete 0, .pop, .pop, .pop, .complete 1, .pop, .pop, .complete 3, .pop, .pop,
               .complete 2, .pop, .pop, .pop]

theorem refuted_reachable : (witnessRun.jobs 4).wasCached = true ∧ witnessRun.submits = [0, 1, 2, 3] := by decide

end RedunModel.C05
