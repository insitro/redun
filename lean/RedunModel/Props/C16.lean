/-
C16 — Value hashes depend only on the value.

Model: `RedunModel.Model.ValueHash` — a value as laid out in one process (`V`: set / frozenset nodes list
their elements in iteration order), `Sim` = "the same value" laid out in another process or after
another insertion order, `getHash` = the pre-image `TypeRegistry.get_hash` feeds to SHA-512
(`Set.get_hash` sorts an exact top-level `set` — by `<`, or by the elements' own value hashes when `<` raises
TypeError; everything else is pickled as laid out).  The digest function `H` is a parameter.
The full-strength statement is `OrderIndependent`; it is FALSE of the code as it is
(`order_independent_refuted` and the closed witnesses); what holds is `hash_stable_setfree`,
`partial_top_set*`, `partial_top_set_unorderable` and the exact characterisation `nonset_hash_eq_iff`.
-/
import RedunModel.Lemmas.ValueHash
namespace RedunModel.C16
open RedunModel.ValueHash

-- the digest function (SHA-512/160 of tag + pickle) is a parameter of every statement
variable (H : Pre → Nat)

/-- The property, full strength: the same value hashes the same however its sets are laid out. -/
def OrderIndependent (H : Pre → Nat) : Prop := ∀ a b : V, Sim a b → getHash H a = getHash H b

/-- "The same value up to set layout" is an equivalence relation, so the hash classes are well defined. -/
theorem sim_equivalence : Equivalence Sim := ⟨sim_refl, fun {a b} => sim_symm a b, fun {a b c} => sim_trans a b c⟩

/-- A value without any set/frozenset has a single layout, hence a single hash, in every process. -/
theorem hash_stable_setfree (a b : V) (hf : SetFree a) (h : Sim a b) : getHash H a = getHash H b := by
  rw [sim_eq_of_setFree a b hf h]

/-- More generally: a value all of whose sets/frozensets have at most one element has a single layout. -/
theorem hash_stable_rigid (a b : V) (hr : Rigid a) (h : Sim a b) : getHash H a = getHash H b := by
  rw [sim_eq_of_rigid a b hr h]

theorem allKind_iff {k : Kind} {xs : List V} : allKind k xs = true ↔ ∀ x ∈ xs, kind x = k := by
  simp [allKind]

theorem mixedKinds_eq_false {xs : List V} : mixedKinds xs = false ↔ ∀ a ∈ xs, ∀ b ∈ xs, kind a = kind b := by
  simp only [mixedKinds, List.any_eq_false, Bool.not_eq_true, bne_eq_false_iff_eq]

theorem pySorted_scalars {k : Kind} (hk : k = .num ∨ k = .str ∨ k = .bytes) (xs : List V)
    (h : ∀ x ∈ xs, kind x = k) : pySorted xs = .ok (isort ltV xs) := by
  match xs with
  | [] | [_] => rfl
  | x :: y :: r =>
    -- on elements that all have kind `k`, each test of `pySorted` is a test on `k`
    have hany : (x :: y :: r).any (fun z => kind z == .unhashable || kind z == .float) = false :=
      List.any_eq_false.2 fun z hz => by rw [h z hz]; rcases hk with rfl | rfl | rfl <;> decide
    have hno (k' : Kind) (hk' : k ≠ k') : allKind k' (x :: y :: r) = false :=
      Bool.eq_false_iff.2 fun hc => hk' ((h x (.head _)).symm.trans (allKind_iff.1 hc x (.head _)))
    rw [pySorted, if_neg (by simp), hany, mixedKinds_eq_false.2 fun a ha b hb => (h a ha).trans (h b hb).symm]
    rcases hk with rfl | rfl | rfl <;> simp [hno, allKind_iff.2 h]

theorem rigid_of_scalar {k : Kind} (hk : k = .num ∨ k = .str ∨ k = .bytes) {x : V} (h : kind x = k) : Rigid x := by
  cases x with
  | bool | int | str | bytes => trivial
  | _ => subst h; rcases hk with h | h | h <;> cases h

theorem top_set_stable {xs : List V} (hr : ∀ x ∈ xs, Rigid x)
    (hperm : ∀ ys, xs.Perm ys → getHash H (.set xs) = getHash H (.set ys)) (b : V) (h : Sim (.set xs) b) :
    getHash H (.set xs) = getHash H b := by
  obtain ⟨ys, rfl, hp⟩ := perm_of_sim_set hr h
  exact hperm ys hp

/-- **Partial (top-level `set` of scalars).**  If the value is an exact `set` whose elements are numbers, or
strs, or bytes, and Python's `<` is a strict total order on them, every layout has the same hash. -/
theorem partial_top_set {k : Kind} (hk : k = .num ∨ k = .str ∨ k = .bytes) (xs : List V)
    (hkind : ∀ x ∈ xs, kind x = k) (st : StrictTotalOn ltV xs) (b : V) (h : Sim (.set xs) b) :
    getHash H (.set xs) = getHash H b :=
  top_set_stable H (fun x hx => rigid_of_scalar hk (hkind x hx)) (fun ys hp => by
    simp only [getHash, pySorted_scalars hk xs hkind,
      pySorted_scalars hk ys fun x hx => hkind x (hp.mem_iff.2 hx), isort_eq_of_perm ltV hp st]) b h

/-- `a < b` as `sorted` sees it, for the three-way comparisons of the model -/
theorem cmp_beq_lt (p q : Prop) [Decidable p] [Decidable q] :
    ((if p then Cmp.lt else if q then .eq else .gt) == .lt) = decide p := by
  by_cases hp : p
  · rw [if_pos hp, decide_eq_true hp]; rfl
  · rw [if_neg hp, decide_eq_false hp]
    by_cases hq : q
    · rw [if_pos hq]; rfl
    · rw [if_neg hq]; rfl

theorem ltV_int (a b : Int) : ltV (.int a) (.int b) = decide (a < b) := cmp_beq_lt _ _

theorem ltV_str (a b : List Nat) : ltV (.str a) (.str b) = decide (a < b) := cmp_beq_lt _ _

theorem strictTotal_int (xs : List V) (h : ∀ x ∈ xs, ∃ z, x = .int z) : StrictTotalOn ltV xs where
  asymm a ha b hb := by
    obtain ⟨x, rfl⟩ := h a ha; obtain ⟨y, rfl⟩ := h b hb
    simp only [ltV_int, decide_eq_true_eq, decide_eq_false_iff_not]; omega
  trans a ha b hb c hc := by
    obtain ⟨x, rfl⟩ := h a ha; obtain ⟨y, rfl⟩ := h b hb; obtain ⟨z, rfl⟩ := h c hc
    simp only [ltV_int, decide_eq_true_eq]; omega
  connected a ha b hb := by
    obtain ⟨x, rfl⟩ := h a ha; obtain ⟨y, rfl⟩ := h b hb
    simp only [ltV_int, decide_eq_false_iff_not, V.int.injEq]; omega

/-- A top-level `set` of ints hashes the same in every layout (unconditionally). -/
theorem partial_top_set_int (xs : List V) (hi : ∀ x ∈ xs, ∃ z, x = .int z) (b : V) (h : Sim (.set xs) b) :
    getHash H (.set xs) = getHash H b :=
  partial_top_set H (Or.inl rfl) xs (fun x hx => by obtain ⟨z, rfl⟩ := hi x hx; rfl) (strictTotal_int xs hi) b h

theorem strictTotal_str (xs : List V) (h : ∀ x ∈ xs, ∃ s, x = .str s) : StrictTotalOn ltV xs where
  asymm a ha b hb := by
    obtain ⟨x, rfl⟩ := h a ha; obtain ⟨y, rfl⟩ := h b hb
    simp only [ltV_str, decide_eq_true_eq, decide_eq_false_iff_not]; exact List.lt_asymm
  trans a ha b hb c hc := by
    obtain ⟨x, rfl⟩ := h a ha; obtain ⟨y, rfl⟩ := h b hb; obtain ⟨z, rfl⟩ := h c hc
    simp only [ltV_str, decide_eq_true_eq]; exact List.lt_trans
  connected a ha b hb := by
    obtain ⟨x, rfl⟩ := h a ha; obtain ⟨y, rfl⟩ := h b hb
    simp only [ltV_str, decide_eq_false_iff_not, V.str.injEq]
    intro h1 h2
    exact List.le_antisymm (List.not_lt.1 h2) (List.not_lt.1 h1)

/-- A top-level `set` of strs hashes the same in every layout, whatever PYTHONHASHSEED did to the order. -/
theorem partial_top_set_str (xs : List V) (hs : ∀ x ∈ xs, ∃ s, x = .str s) (b : V) (h : Sim (.set xs) b) :
    getHash H (.set xs) = getHash H b :=
  partial_top_set H (Or.inr (Or.inl rfl)) xs (fun x hx => by obtain ⟨z, rfl⟩ := hs x hx; rfl) (strictTotal_str xs hs) b h

theorem mixedKinds_perm {xs ys : List V} (p : xs.Perm ys) : mixedKinds xs = mixedKinds ys := by
  unfold mixedKinds
  rw [p.any_eq]
  congr 1; funext a; rw [p.any_eq]

theorem allKind_perm (k : Kind) {xs ys : List V} (p : xs.Perm ys) : allKind k xs = allKind k ys := by
  unfold allKind; exact p.all_eq

theorem pySorted_eq_typeError_iff (xs : List V) :
    pySorted xs = .typeError ↔
      ¬ xs.length ≤ 1 ∧ xs.any (fun y => kind y == .unhashable || kind y == .float) = false ∧
        (mixedKinds xs || allKind .obj xs || allKind .none xs) = true := by
  unfold pySorted
  by_cases h1 : xs.length ≤ 1
  · rw [if_pos h1]; exact ⟨nofun, fun h => absurd h1 h.1⟩
  · rw [if_neg h1]
    cases xs.any (fun y => kind y == .unhashable || kind y == .float)
    · rw [if_neg Bool.false_ne_true]
      cases (mixedKinds xs || allKind .obj xs || allKind .none xs)
      · rw [if_neg Bool.false_ne_true]
        refine ⟨fun h => ?_, fun h => nomatch h.2.2⟩
        split at h
        · cases h
        · split at h <;> cases h
      · exact ⟨fun _ => ⟨h1, rfl, rfl⟩, fun _ => rfl⟩
    · exact ⟨nofun, fun h => nomatch h.2.1⟩

/-- whether `sorted` raises does not depend on the layout -/
theorem pySorted_typeError_perm {xs ys : List V} (p : xs.Perm ys) (h : pySorted xs = .typeError) :
    pySorted ys = .typeError := by
  rw [pySorted_eq_typeError_iff] at h ⊢
  rwa [← p.length_eq, ← p.any_eq, ← mixedKinds_perm p, ← allKind_perm .obj p, ← allKind_perm .none p]

theorem strictTotal_byHash (xs : List V) (hinj : ∀ a ∈ xs, ∀ b ∈ xs, H (.value a) = H (.value b) → a = b) :
    StrictTotalOn (ltByHash H) xs where
  asymm a _ b _ := by simp only [ltByHash, decide_eq_true_eq, decide_eq_false_iff_not]; omega
  trans a _ b _ c _ := by simp only [ltByHash, decide_eq_true_eq]; omega
  connected a ha b hb := by
    simp only [ltByHash, decide_eq_false_iff_not]
    intro h1 h2
    exact hinj a ha b hb (by omega)

/-- **Partial (top-level `set` whose `sorted` raises).**  Mixed element kinds, dataclass instances …: the
elements are ordered by their own value hash.  If every element has a single layout (`Rigid`: no set /
frozenset with two or more elements inside it) and different elements have different digests, every layout of
the set has the same hash. -/
theorem partial_top_set_unorderable (xs : List V) (hraise : pySorted xs = .typeError)
    (hr : ∀ x ∈ xs, Rigid x) (hinj : ∀ a ∈ xs, ∀ b ∈ xs, H (.value a) = H (.value b) → a = b)
    (b : V) (h : Sim (.set xs) b) : getHash H (.set xs) = getHash H b :=
  top_set_stable H hr (fun ys hp => by
    simp only [getHash, hraise, pySorted_typeError_perm hp hraise,
      isort_eq_of_perm (ltByHash H) hp (strictTotal_byHash H xs hinj)]) b h

theorem getHash_of_not_setLike (v : V) (h : isSetLike v = false) : getHash H v = .ok (.value v) := by
  cases v with
  | set => cases h
  | sub c b =>
    cases b with
    | set => cases h
    | _ => rfl
  | _ => rfl

/-- Everything that does not reach the `Set` proxy (i.e. is neither an exact top-level `set` nor an instance of a
subclass of `set`) is hashed as laid out: two layouts have the same hash iff they are the same layout.  (This is
what predicts, value by value, which hashes move.) -/
theorem nonset_hash_eq_iff (a b : V) (ha : isSetLike a = false) (hb : isSetLike b = false) :
    getHash H a = getHash H b ↔ a = b := by
  rw [getHash_of_not_setLike H a ha, getHash_of_not_setLike H b hb]
  constructor
  · intro h; simpa using h
  · rintro rfl; rfl

/-- MRO walk: an instance of a subclass of `set` is hashed by the `Set` proxy, exactly like the exact set with the
same elements (the class does not enter the pre-image: `sorted(value)` is a plain list). -/
theorem set_subclass_uses_set_proxy (c : String) (xs : List V) : getHash H (.sub c (.set xs)) = getHash H (.set xs) := rfl

/-- … hence a top-level instance of a `set` subclass holding strs hashes the same under every layout. -/
theorem partial_top_setsub_str (c : String) (xs : List V) (hs : ∀ x ∈ xs, ∃ s, x = .str s) (b : V)
    (h : Sim (.sub c (.set xs)) b) : getHash H (.sub c (.set xs)) = getHash H b := by
  cases h with
  | sub _ hs' =>
    cases hs' with
    | set hp hss =>
      exact partial_top_set_str H xs hs (.set _) (.set hp hss)

/-- subclasses of the other builtin containers have no proxy: a `frozenset` subclass is as order sensitive as a
frozenset -/
theorem fset_subclass_sensitive (c : String) (x y : V) (r : List V) (hxy : x ≠ y) :
    Sim (.sub c (.fset (x :: y :: r))) (.sub c (.fset (y :: x :: r))) ∧
    getHash H (.sub c (.fset (x :: y :: r))) ≠ getHash H (.sub c (.fset (y :: x :: r))) := by
  refine ⟨.sub c (sim_fset_of_perm (List.Perm.swap _ _ _)), ?_⟩
  simp [getHash, hxy]

/-- The hash the backend records for a task argument or result (`record_value`: `get_hash(data=serialize())`)
is the hash `TypeRegistry.get_hash` computes — so every statement of this file about `getHash` is a statement
about `Argument.value_hash` / `CallNode.value_hash` / `Value.value_hash` as well. -/
theorem recordValue_eq_getHash (v : V) : recordValue H v = getHash H v := by
  cases v with
  | sub c b => cases b <;> rfl
  | _ => rfl

/-- In particular a recorded top-level set of strs does not depend on the layout. -/
theorem recorded_top_set_str (xs : List V) (hs : ∀ x ∈ xs, ∃ s, x = .str s) (b : V) (h : Sim (.set xs) b) :
    recordValue H (.set xs) = recordValue H b := by
  rw [recordValue_eq_getHash, recordValue_eq_getHash]; exact partial_top_set_str H xs hs b h

/-- What fails (finding F9): ANY frozenset with two different first elements, and ANY such set directly inside a list, has two layouts
with different hashes. -/
theorem frozenset_sensitive (x y : V) (r : List V) (hxy : x ≠ y) :
    Sim (.fset (x :: y :: r)) (.fset (y :: x :: r)) ∧ getHash H (.fset (x :: y :: r)) ≠ getHash H (.fset (y :: x :: r)) := by
  refine ⟨sim_fset_of_perm (List.Perm.swap _ _ _), ?_⟩
  simp [getHash, hxy]

theorem nested_set_sensitive (x y : V) (r pre post : List V) (hxy : x ≠ y) :
    Sim (.list (pre ++ .set (x :: y :: r) :: post)) (.list (pre ++ .set (y :: x :: r) :: post)) ∧
    getHash H (.list (pre ++ .set (x :: y :: r) :: post)) ≠ getHash H (.list (pre ++ .set (y :: x :: r) :: post)) := by
  constructor
  · refine .list ?_
    induction pre with
    | nil => exact .cons (sim_set_of_perm (List.Perm.swap _ _ _)) (sims_refl _)
    | cons p ps ih => exact .cons (sim_refl p) ih
  · simp [getHash, hxy]

private def sa : V := .str [97]
private def sb : V := .str [98]

private theorem sa_ne_sb : sa ≠ sb := by simp [sa, sb]

/-- `[{"a","b"}]` -/
theorem refuted_nested_list :
    Sim (.list [.set [sa, sb]]) (.list [.set [sb, sa]]) ∧
    getHash H (.list [.set [sa, sb]]) ≠ getHash H (.list [.set [sb, sa]]) :=
  nested_set_sensitive H sa sb [] [] [] sa_ne_sb

/-- `{"k": {"a","b"}}` -/
theorem refuted_dict_value :
    Sim (.dict [.str [107]] [.set [sa, sb]]) (.dict [.str [107]] [.set [sb, sa]]) ∧
    getHash H (.dict [.str [107]] [.set [sa, sb]]) ≠ getHash H (.dict [.str [107]] [.set [sb, sa]]) := by
  refine ⟨.dict (.cons (.str _) .nil) (.cons (sim_set_of_perm (List.Perm.swap _ _ _)) .nil), ?_⟩
  simp [getHash, sa_ne_sb]

/-- a top-level `frozenset({"a","b"})` (the `Set` proxy is registered for `set` only) -/
theorem refuted_frozenset :
    Sim (.fset [sa, sb]) (.fset [sb, sa]) ∧ getHash H (.fset [sa, sb]) ≠ getHash H (.fset [sb, sa]) :=
  frozenset_sensitive H sa sb [] sa_ne_sb

/-- a top-level `set` is sorted, but its elements are still pickled as laid out: `{frozenset({"a","b"})}` -/
theorem refuted_set_of_frozenset :
    Sim (.set [.fset [sa, sb]]) (.set [.fset [sb, sa]]) ∧
    getHash H (.set [.fset [sa, sb]]) ≠ getHash H (.set [.fset [sb, sa]]) := by
  refine ⟨.set (List.Perm.refl _) (.cons (sim_fset_of_perm (List.Perm.swap _ _ _)) .nil), ?_⟩
  simp [getHash, pySorted, sa_ne_sb]

/-- ints: no hash randomisation needed, the insertion history is enough (`[{8, 0}]` vs `[{0, 8}]`: both
land in slot 0 of the table). -/
theorem refuted_insertion_order_ints :
    Sim (.list [.set [.int 8, .int 0]]) (.list [.set [.int 0, .int 8]]) ∧
    getHash H (.list [.set [.int 8, .int 0]]) ≠ getHash H (.list [.set [.int 0, .int 8]]) :=
  nested_set_sensitive H (.int 8) (.int 0) [] [] [] (by simp)

/-- the fallback does not help when an element itself has two layouts: `{frozenset({"a","b"}), 1}` — the
element's digest (sort key) and its pickle both follow its layout -/
theorem refuted_unorderable_with_frozenset :
    Sim (.set [.fset [sa, sb], .int 1]) (.set [.fset [sb, sa], .int 1]) ∧
    getHash H (.set [.fset [sa, sb], .int 1]) ≠ getHash H (.set [.fset [sb, sa], .int 1]) := by
  refine ⟨.set (List.Perm.refl _) (.cons (sim_fset_of_perm (List.Perm.swap _ _ _)) (.cons (.int 1) .nil)), ?_⟩
  have h1 : pySorted [.fset [sa, sb], .int 1] = .typeError := rfl
  have h2 : pySorted [.fset [sb, sa], .int 1] = .typeError := rfl
  simp only [getHash, h1, h2, ne_eq, HashRes.ok.injEq, Pre.valueSet.injEq]
  -- the two sorted lists do not even have the same members
  intro heq
  have hm : V.fset [sa, sb] ∈ isort (ltByHash H) [.fset [sb, sa], .int 1] :=
    heq ▸ (isort_perm _ _).mem_iff.2 (.head _)
  rw [(isort_perm _ _).mem_iff] at hm
  simp [sa_ne_sb] at hm

/-- The full-strength property does not hold of the code as it is. -/
theorem order_independent_refuted : ¬ OrderIndependent H := fun h =>
  (refuted_nested_list H).2 (h _ _ (refuted_nested_list H).1)

/-- look-alikes: `(1, 2)` and `(1.0, 2.0)` are `==` in Python but pickle differently - different pre-images -/
example : getHash H (.tuple [.int 1, .int 2]) ≠ getHash H (.tuple [.float 0x3ff0000000000000, .float 0x4000000000000000]) := by
  simp [getHash]
/-- `0.0` and `-0.0` -/
example : getHash H (.float 0) ≠ getHash H (.float 0x8000000000000000) := by simp [getHash]

example : getHash H (.set [sb, sa]) = getHash H (.set [sa, sb]) :=
  partial_top_set_str H [sb, sa] (by simp [sa, sb]) _ (sim_set_of_perm (List.Perm.swap _ _ _))
example : getHash H (.set [sb, sa]) = .ok (.valueSet [sa, sb]) := rfl

end RedunModel.C16
