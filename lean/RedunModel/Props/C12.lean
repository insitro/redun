/-
C12 — Failures propagate and are never replayed from the cache.

Part 1 (propagation), on `Model/EvalCore`: `Demand` is "the parent evaluation evaluates the child with nothing
in between that could catch" (container element, argument / keyword argument / unspecified default of a task
call, operator argument and result, the expression a task body returned — the job/child-job edge —, the
selected `cond` branch, `seq` elements in order, `apply_tags` arguments, a joined thread, `subrun`, `map_`).
`propagates`: along any chain of demands, an error of the innermost evaluation is an outcome of the root
(same class, same message); `ancestors_fail`: every expression on the chain — every ancestor job — fails
with it; `raising_body_fails`: the failing job itself.  Full strength for the modelled forms.
`not_swallowed_*`: a demanded failure cannot turn into a value (for the purely structural frames).

Part 2 (no replay), on `Model/CacheLookup` (decision logic of `check_cache` + `_get_cache`):
`error_only_from_cse`, `cse_needs_same_execution`, `not_replayed` — an `ErrorValue` is used only when the
same-execution (CSE) query answered, which requires a job of the *same execution*; in a later execution
no lookup makes a job cached with an error, so the task function runs again.  Full strength (finite table).
-/
import RedunModel.Lemmas.EvalCore
import RedunModel.Model.EvalLib
import RedunModel.Model.CacheLookup
namespace RedunModel.C12
open RedunModel.EvalCore

variable {cx : Ctx}

/-- `Demand lib cp p cc c`: evaluating `p` in context `cp` evaluates `c` in context `cc`, and nothing between them can
catch: `c` is an element of the container / argument list / operator arguments of `p`, an unspecified default or the
expression the task body (job `p`) returned — both evaluated in the job's own context —, the branch `p` selects, ... -/
inductive Demand (lib : Lib) : Ctx → Expr → Ctx → Expr → Prop
  | item {cx k items c} : c ∈ items → Demand lib cx (.cont k items) cx c
  | dictItem {cx ks vs c} : c ∈ ks ++ vs → Demand lib cx (.dict ks vs) cx c
  /-- an argument or keyword argument of a task call -/
  | arg {cx t args kwn kwv ovn ovv td c} : lib.task t = some td → c ∈ args ++ kwv →
      Demand lib cx (.call t args kwn kwv ovn ovv) cx c
  /-- an unspecified default of a task call, evaluated in the job's context -/
  | dflt {cx t args kwn kwv ovn ovv td c} : lib.task t = some td →
      c ∈ (argDefaults td.params args.length kwn).map Prod.snd →
      Demand lib cx (.call t args kwn kwv ovn ovv) (cx.override ovn ovv) c
  /-- the expression returned by the task body: `p` is the job, `c` is evaluated as its child -/
  | body {cx t args kwn kwv ovn ovv td akv dvs c} : lib.task t = some td →
      Eval lib cx (L (args ++ kwv)) (.ok (L akv)) →
      Eval lib (cx.override ovn ovv) (L ((argDefaults td.params args.length kwn).map Prod.snd)) (.ok (L dvs)) →
      td.body (akv.take args.length) ((argDefaults td.params args.length kwn).map Prod.fst ++ kwn)
        (dvs ++ akv.drop args.length) = .ok c →
      Demand lib cx (.call t args kwn kwv ovn ovv) (cx.override ovn ovv) c
  | opArg {cx name args c} : c ∈ args → Demand lib cx (.op name args) cx c
  | opResult {cx name args vs c} : Eval lib cx (L args) (.ok (L vs)) → applyOp lib name vs = .ok c →
      Demand lib cx (.op name args) cx c
  | condTest {cx c t rest} : Demand lib cx (.cond (c :: t :: rest)) cx c
  | condThen {cx c t rest cv} : Eval lib cx c (.ok cv) → truthy cv = true → Demand lib cx (.cond (c :: t :: rest)) cx t
  | condElse {cx c t e cv} : Eval lib cx c (.ok cv) → truthy cv = false → Demand lib cx (.cond [c, t, e]) cx e
  | condElif {cx c t c2 t2 rest cv} : Eval lib cx c (.ok cv) → truthy cv = false →
      Demand lib cx (.cond (c :: t :: c2 :: t2 :: rest)) cx (.cond (c2 :: t2 :: rest))
  | seqHead {cx e es} : Demand lib cx (.seq (e :: es)) cx e
  | seqTail {cx e es v} : Eval lib cx e (.ok v) → Demand lib cx (.seq (e :: es)) cx (.seq es)
  | tagsArg {cx v t j e c} : c ∈ [v, t, j, e] → Demand lib cx (.applyTags v t j e) cx c
  | joined {cx e} : Demand lib cx (.join (.threadv e)) cx e
  /-- the sub-workflow, in the context `subrun` forwards -/
  | subrun {cx e ne} : Demand lib cx (.subrun e ne) (if ne then lib.config.over cx else Ctx.empty.over cx) e
  | mapTask {cx f values} : Demand lib cx (.map_ f values) cx (mapTask (mapFuse [f] values).1)
  | mapValues {cx f values av} : Eval lib cx (mapTask (mapFuse [f] values).1) (.ok av) →
      rawSeq (mapFuse [f] values).2 = none → Demand lib cx (.map_ f values) cx (mapFuse [f] values).2
  | mapCallsRaw {cx f values av items c} : Eval lib cx (mapTask (mapFuse [f] values).1) (.ok av) →
      rawSeq (mapFuse [f] values).2 = some items → mapCalls lib av items = .ok c → Demand lib cx (.map_ f values) cx c
  | mapCallsEval {cx f values av vv items c} : Eval lib cx (mapTask (mapFuse [f] values).1) (.ok av) →
      rawSeq (mapFuse [f] values).2 = none → Eval lib cx (mapFuse [f] values).2 (.ok vv) →
      iterOf vv = .ok (L items) → mapCalls lib av items = .ok c → Demand lib cx (.map_ f values) cx c

theorem Demand.propagates {lib : Lib} {cp cc : Ctx} {p c : Expr} {x : Err} (d : Demand lib cp p cc c)
    (h : Eval lib cc c (.err x)) : Eval lib cp p (.err x) := by
  cases d with
  | item hm =>
    rename_i k items
    by_cases hk : k = .list
    · subst hk; exact eval_list_err.mpr ⟨_, hm, h⟩
    · exact Eval.contErr hk (eval_list_err.mpr ⟨_, hm, h⟩)
  | dictItem hm => exact Eval.dictErr (eval_list_err.mpr ⟨_, hm, h⟩)
  | arg htd hm => exact Eval.callArgErr htd (eval_list_err.mpr ⟨_, hm, h⟩)
  | dflt htd hm => exact Eval.callDefaultErr htd (eval_list_err.mpr ⟨_, hm, h⟩)
  | body htd hargs hd hb => exact Eval.call htd hargs hd hb h
  | opArg hm => exact Eval.opArgErr (eval_list_err.mpr ⟨_, hm, h⟩)
  | opResult ha ho => exact Eval.op ha ho h
  | condTest => exact Eval.condErr h
  | condThen hc ht => exact Eval.condThen hc ht h
  | condElse hc ht => exact Eval.condElse hc ht h
  | condElif hc ht => exact Eval.condElif hc ht h
  | seqHead => exact Eval.seqErrHd h
  | seqTail hv => exact Eval.seqErrTl hv h
  | tagsArg hm => exact Eval.applyTagsErr (eval_list_err.mpr ⟨_, hm, h⟩)
  | joined => exact Eval.join h
  | subrun => exact Eval.subrunErr h
  | mapTask => exact Eval.mapTaskErr h
  | mapValues ha hr => exact Eval.mapValuesErr ha hr h
  | mapCallsRaw ha hr hc => exact Eval.mapRaw ha hr hc h
  | mapCallsEval ha hr hv hi hc => exact Eval.mapEval ha hr hv hi hc h

/-- a chain of demands from `root` (in its context) down to `e` (through containers, arguments, and job after job) -/
inductive Chain (lib : Lib) : Ctx → Expr → Ctx → Expr → Prop
  | refl {cx e} : Chain lib cx e cx e
  | step {c0 root cp p cc c} : Chain lib c0 root cp p → Demand lib cp p cc c → Chain lib c0 root cc c

theorem Chain.trans {lib : Lib} {ca cb cc : Ctx} {a b c : Expr} (h1 : Chain lib ca a cb b) (h2 : Chain lib cb b cc c) :
    Chain lib ca a cc c := by
  induction h2 with
  | refl => exact h1
  | step _ d ih => exact Chain.step ih d

/-- C12 (propagation, full strength for the modelled forms): an error of a sub-evaluation that the root demands
through any depth of containers, arguments, operators, control forms and jobs — with no `catch` / `catch_all`
in between — is an outcome of the root: `run` raises it (same class, same message). -/
theorem propagates {lib : Lib} {c0 ce : Ctx} {root e : Expr} {x : Err} (c : Chain lib c0 root ce e)
    (h : Eval lib ce e (.err x)) : Eval lib c0 root (.err x) := by
  induction c with
  | refl => exact h
  | step _ d ih => exact ih (d.propagates h)

/-- ... and every expression on the way (in particular every ancestor job, a `.call`) fails with that same error. -/
theorem ancestors_fail {lib : Lib} {c0 cm ce : Ctx} {root m e : Expr} {x : Err} (_ : Chain lib c0 root cm m)
    (c2 : Chain lib cm m ce e) (h : Eval lib ce e (.err x)) : Eval lib cm m (.err x) :=
  propagates c2 h

/-- the failing job itself: a task body that raises makes the call fail with that error -/
theorem raising_body_fails {lib : Lib} {t : String} {args : List Expr} {kwn ovn : List String} {kwv ovv akv dvs : List Expr}
    {td : TaskDef} {x : Err} (htd : lib.task t = some td)
    (hargs : Eval lib cx (L (args ++ kwv)) (.ok (L akv)))
    (hd : Eval lib (cx.override ovn ovv) (L ((argDefaults td.params args.length kwn).map Prod.snd)) (.ok (L dvs)))
    (hb : td.body (akv.take args.length) ((argDefaults td.params args.length kwn).map Prod.fst ++ kwn)
        (dvs ++ akv.drop args.length) = .err x) :
    Eval lib cx (.call t args kwn kwv ovn ovv) (.err x) :=
  Eval.callRaise htd hargs hd hb

def OnlyFails (lib : Lib) (cx : Ctx) (e : Expr) : Prop := ∀ r, Eval lib cx e r → ∃ x, r = .err x

theorem onlyFails_of_not_ok {lib : Lib} {e : Expr} (h : ∀ v, ¬ Eval lib cx e (.ok v)) : OnlyFails lib cx e := by
  intro r hr
  cases r with
  | err x => exact ⟨x, rfl⟩
  | unk => exact absurd rfl hr.ne_unk
  | ok v => exact absurd hr (h v)

theorem not_swallowed_list {lib : Lib} {es : List Expr} {e : Expr} (hm : e ∈ es) (hf : OnlyFails lib cx e) :
    OnlyFails lib cx (L es) :=
  onlyFails_of_not_ok fun _ h =>
    have ⟨_, hw⟩ := h.list_ok_mem e hm
    nomatch hf _ hw

theorem call_ok_args {lib : Lib} {t : String} {args : List Expr} {kwn ovn : List String} {kwv ovv : List Expr}
    {td : TaskDef} {v : Expr} (htd : lib.task t = some td) (h : Eval lib cx (.call t args kwn kwv ovn ovv) (.ok v)) :
    (∃ akv, Eval lib cx (L (args ++ kwv)) (.ok akv)) ∧
    ∃ dvs, Eval lib (cx.override ovn ovv) (L ((argDefaults td.params args.length kwn).map Prod.snd)) (.ok dvs) := by
  cases h with
  | leaf h => cases h
  | call htd' h1 h2 => rw [htd] at htd'; cases htd'; exact ⟨⟨_, h1⟩, _, h2⟩

/-- a failing argument or keyword argument makes the call fail (it never returns a value) -/
theorem not_swallowed_call {lib : Lib} {t : String} {args : List Expr} {kwn ovn : List String} {kwv ovv : List Expr}
    {td : TaskDef} {c : Expr} (htd : lib.task t = some td)
    (hm : c ∈ args ++ kwv) (hf : OnlyFails lib cx c) :
    OnlyFails lib cx (.call t args kwn kwv ovn ovv) :=
  onlyFails_of_not_ok fun _ h =>
    have ⟨_, ha⟩ := (call_ok_args htd h).1
    nomatch not_swallowed_list hm hf _ ha

/-- ... and so does a failing unspecified default (evaluated in the job's own context) -/
theorem not_swallowed_default {lib : Lib} {t : String} {args : List Expr} {kwn ovn : List String} {kwv ovv : List Expr}
    {td : TaskDef} {c : Expr} (htd : lib.task t = some td)
    (hm : c ∈ (argDefaults td.params args.length kwn).map Prod.snd) (hf : OnlyFails lib (cx.override ovn ovv) c) :
    OnlyFails lib cx (.call t args kwn kwv ovn ovv) :=
  onlyFails_of_not_ok fun _ h =>
    have ⟨_, hd⟩ := (call_ok_args htd h).2
    nomatch not_swallowed_list hm hf _ hd

open RedunModel.CacheLookup

/-- `_get_cache` uses an `ErrorValue` only when the answer came from the same-execution (CSE) query -/
theorem error_only_from_cse (ct : CacheResult) (valid : Bool) (h : getCache ct true valid = true) : ct = .cse := by
  cases ct <;> simp [getCache] at h ⊢

/-- a CSE answer needs a recorded job of the same execution with the same task and arguments -/
theorem cse_needs_same_execution (s : Scope) (cv : CheckValid) (al : Allowed) (f : Facts) (e : Option Bool)
    (h : checkCache s cv al f = (.cse, e)) : f.cse.isSome = true := by
  cases hc : f.cse with
  | some b => rfl
  | none =>
    -- without a same-execution answer the lookup ends in `ultimate`, `single` or `miss`
    simp only [checkCache, hc, ite_self] at h
    split at h
    · cases h
    · split at h
      · cases h
      · split at h
        · split at h <;> cases h
        · cases h

/-- In an execution in which no job with this task and arguments has been recorded yet (in particular: the first
time a call is reached in a *later* execution), whatever the backend holds, whatever the cache options, a lookup that
finds an error does not make the job cached: `_exec_job_main_thread` goes on to submit it and the task runs again. -/
theorem not_replayed (s : Scope) (cv : CheckValid) (al : Allowed) (f : Facts) (valid : Bool) (hc : f.cse = none) :
    (checkCache s cv al f).2 = some true → getCache (checkCache s cv al f).1 true valid = false := by
  intro h
  cases hct : (checkCache s cv al f).1 with
  | cse =>
    have := cse_needs_same_execution s cv al f (checkCache s cv al f).2 (by rw [← hct])
    simp [hc] at this
  | single | ultimate | miss => simp [getCache]

/-- the same for async tasks, whose options `_get_cache` adjusts first -/
theorem not_replayed_async (isAsync : Bool) (s : Scope) (cv : CheckValid) (al : Allowed) (f : Facts) (valid : Bool)
    (hc : f.cse = none) :
    (checkCache s (asyncAdjust isAsync s cv al).1 (asyncAdjust isAsync s cv al).2 f).2 = some true →
    getCache (checkCache s (asyncAdjust isAsync s cv al).1 (asyncAdjust isAsync s cv al).2 f).1 true valid = false :=
  not_replayed s _ _ f valid hc

/-! Non-vacuity, on the library the correspondence runs use. -/
open RedunModel.EvalLib

/-- `add(inc(fail_after(2, "S")))`: the raising leaf is three jobs below `fail_after(2, "S")`. -/
def exRoot : Expr := tcall "ev.add" [tcall "ev.inc" [tcall "ev.fail_after" [.int 2, .str "S"]]]
def exLeaf : Expr := tcall "ev.raiser" [.str "S", .str "deep"]

def exFail (n : Int) : Expr := tcall "ev.fail_after" [.int n, .str "S"]

/-- what the kernel computes once for the examples below: the outcome of the leaf and of the root, that `add` and
`inc` are tasks, and what the body of `fail_after` returns for `n = 2, 1, 0` -/
theorem evals :
    (evalsTo lib 10 Ctx.empty exLeaf (.err ⟨"LibSubError", "S-deep"⟩) = true ∧
    evalsTo lib 30 Ctx.empty exRoot (.err ⟨"LibSubError", "S-deep"⟩) = true) ∧
    (lib.task "ev.add").isSome = true ∧ (lib.task "ev.inc").isSome = true ∧
    (lib.task "ev.fail_after").any (fun td => (argDefaults td.params 2 []).isEmpty
      && ((td.body [.int 2, .str "S"] [] []).same? (.ok (exFail 1))).isSome
      && ((td.body [.int 1, .str "S"] [] []).same? (.ok (exFail 0))).isSome
      && ((td.body [.int 0, .str "S"] [] []).same? (.ok exLeaf)).isSome) = true := by
  decide +kernel

theorem exLeaf_fails : Eval lib Ctx.empty exLeaf (.err ⟨"LibSubError", "S-deep"⟩) :=
  evalFuel_sound (n := 10) (evalFuel_eq evals.1.1)

example : Eval lib Ctx.empty exLeaf (.err ⟨"LibSubError", "S-deep"⟩) := exLeaf_fails

/-- `Demand.body` for a call on concrete positional arguments that leaves no default to evaluate, with what is asked of
the task in `Bool` form (for a closed instance the kernel computes it) -/
theorem Demand.body_closed {lib : Lib} {t : String} {td : TaskDef} {args : List Expr} {c : Expr}
    (htd : lib.task t = some td) (hv : allValues args = true)
    (hd : (argDefaults td.params args.length []).isEmpty = true) (hb : ((td.body args [] []).same? (.ok c)).isSome = true) :
    Demand lib cx (.call t args [] [] [] []) cx c := by
  rw [List.isEmpty_iff] at hd
  refine Demand.body (ovn := []) (ovv := []) (akv := args) (dvs := []) htd ?_ ?_ ?_
  · simpa using values_self args hv
  · rw [hd]; exact .nil
  · simpa [hd] using of_isSome hb

theorem exChain : Chain lib Ctx.empty exRoot Ctx.empty exLeaf := by
  obtain ⟨_, hadd⟩ := Option.isSome_iff_exists.mp evals.2.1
  obtain ⟨_, hinc⟩ := Option.isSome_iff_exists.mp evals.2.2.1
  obtain ⟨td, htd, h⟩ := (Option.any_eq_true _ _).mp evals.2.2.2
  simp only [Bool.and_eq_true] at h
  obtain ⟨⟨⟨hd, h2⟩, h1⟩, h0⟩ := h
  exact ((((Chain.refl.step (.arg hadd (.head _))).step (.arg hinc (.head _))).step
    (.body_closed (args := [.int 2, .str "S"]) htd rfl hd h2)).step
    (.body_closed (args := [.int 1, .str "S"]) htd rfl hd h1)).step
    (.body_closed (args := [.int 0, .str "S"]) htd rfl hd h0)

example : Eval lib Ctx.empty exRoot (.err ⟨"LibSubError", "S-deep"⟩) :=
  propagates exChain exLeaf_fails

example : evalFuel lib 30 Ctx.empty exRoot = some (.err ⟨"LibSubError", "S-deep"⟩) := evalFuel_eq evals.1.2

example : checkCache .backend .full Allowed.all ⟨none, some true, none⟩ = (.miss, none) := by decide
example : checkCache .backend .shallow Allowed.all ⟨none, some true, none⟩ = (.ultimate, some true) := by decide
example : getCache .ultimate true true = false := by decide
example : getCache .cse true true = true := by decide

end RedunModel.C12
