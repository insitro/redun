/-
C35 — Configuration survives conversion to a dictionary and back.

Model: `RedunModel.Model.Config` (`getConfigDict` = `Config.get_config_dict` as it is since the fixes f104c76 and
a86d0e3: `$` in an effective value is written `$$`, and the root of the nested walk is `None` instead of `""`; `readDict` =
`Config(config_dict=…)`; `loop`/`getItem` = `ExtendedInterpolation` as subclassed by redun; `beforeSetOk` =
`ExtendedInterpolation.before_set`).
-/
import RedunModel.Lemmas.ConfigTrie
namespace RedunModel.C35
open RedunModel.Config

/-- Interpolating an escaped text gives the text back — in every configuration, section, environment and at
every depth: an escaped value never looks anything up. -/
theorem interp_escape (cfg : Cfg) (d : Nat) (sect : Str) (map : Str → Option Str) (s : Str) :
    loop cfg d (escape s) sect map = .ok s := loop_escape cfg d sect map s

/-- `read_dict` accepts every escaped text (`before_set` finds no stray `$`). -/
theorem beforeSet_escape (s : Str) : beforeSetOk (escape s) = true := beforeSetOk_escape s

/-- Reading an escaped two-level dictionary (distinct section names other than `""`/`DEFAULT`, distinct option
names, names that nest) succeeds, and every section's effective items are exactly the dictionary's — in any
environment. -/
theorem readDict_escaped (D : List (Str × Opts)) (hg : GoodDict D) (t : List (Str × Node))
    (hparse : parseSections (D.map (·.1)) [] = .ok t) :
    readDict (escD D) = .ok ⟨[], escD D⟩ ∧
    ∀ (env : Opts), ∀ s ∈ D, sectionItems ⟨[], escD D⟩ env s.1 = .ok s.2 := by
  constructor
  · have hread := readDictInto_append [] (escD D) [] (by rw [List.nil_append, escD_names]; exact hg.names_nodup)
      (escD_names D ▸ hg.no_empty) (escD_names D ▸ hg.no_default) fun s hs => by
        obtain ⟨s0, hs0, rfl⟩ := List.mem_map.mp hs
        refine ⟨escOpts_keys s0.2 ▸ hg.keys_nodup s0 hs0, fun kv hkv => ?_⟩
        obtain ⟨kv0, _, rfl⟩ := List.mem_map.mp hkv
        exact beforeSetOk_escape kv0.2
    rw [readDict, hread]
    simp only [List.nil_append, escD_names, hparse]
  · intro env s hs
    have hn : s.1 ≠ defaultSect := fun e => hg.no_default (e ▸ List.mem_map_of_mem hs)
    refine sectionItems_escaped _ env s.1 s.2 hn ?_ (hg.keys_nodup s hs)
    exact Assoc.lookup_of_mem (l := escD D) (escD_names D ▸ hg.names_nodup)
      (List.mem_map_of_mem (f := fun s => (s.1, escOpts s.2)) hs)

/-- The walk of `get_config_dict` over the nested sections rebuilds exactly the section names. -/
theorem walk_rebuilds_names (names : List Str) (hpf : PrefixFree names) (h1 : [] ∉ names) (h2 : defaultSect ∉ names) :
    ∃ trie, parseSections names [] = .ok trie ∧ GoodPaths (flattenKids none trie) ∧
      (flattenKids none trie).Perm (names.map fun n => (n, n)) := by
  obtain ⟨trie, ht1, ht2⟩ := parseSections_nil names hpf
  have hflat : (flattenKids none trie).Perm (names.map fun n => (n, n)) := by
    rw [flattenKids_none_paths]
    simpa [List.map_map, Function.comp_def, join_split] using ht2.map fun pf => (joinWith '.' pf.1, pf.2)
  have hnames : ((flattenKids none trie).map (·.1)).Perm names := by
    simpa [List.map_map, Function.comp_def] using hflat.map (·.1)
  refine ⟨trie, ht1, ⟨hnames.nodup_iff.mpr (nodup_of_prefixFree names hpf), fun h => h1 (hnames.mem_iff.mp h),
    fun h => h2 (hnames.mem_iff.mp h), ?_⟩, hflat⟩
  obtain ⟨t', ht', _⟩ := parseSections_nil _ (prefixFree_perm hnames hpf)
  exact ⟨t', ht'⟩

/-- **Round trip of effective values** (every configuration that converts at all, any values — `$`, references,
environment variables — any environment `env'` on the reading side): the re-read configuration has one section
per leaf of the nested sections, no DEFAULT section, and each section's effective items equal the original's.
`GoodPaths` (the dotted paths rebuilt by the walk are distinct, not `""`/`DEFAULT`, and nest again) holds for
distinct prefix-free section names. -/
theorem roundtrip_values (cfg : Cfg) (env env' : Opts) (localDir : Str) (trie : List (Str × Node))
    (D' : List (Str × Opts)) (hwf : CfgWF cfg)
    (hp : parseSections (cfg.sections.map (·.1)) [] = .ok trie)
    (hflat : GoodPaths (flattenKids none trie))
    (hd : getConfigDict cfg env localDir none = .ok D') :
    ∃ cfg', readDict D' = .ok cfg' ∧ cfg'.defaults = [] ∧
      cfg'.sections.map (·.1) = (flattenKids none trie).map (·.1) ∧
      ∀ pf ∈ flattenKids none trie, sectionItems cfg' env' pf.1 = sectionItems cfg env pf.2 := by
  rw [getConfigDict_eq cfg env localDir trie hp hflat.nodup] at hd
  cases hm : mapMExcept (leafItems cfg env) (flattenKids none trie) with
  | error e => rw [hm] at hd; cases hd
  | ok U =>
    rw [hm] at hd
    cases hd
    -- `U`: the dictionary before escaping, one entry per leaf
    have hmap := mapMExcept_ok.mp hm
    have hnames : U.map (·.1) = (flattenKids none trie).map (·.1) :=
      mapMExcept_keys (fun _ _ h => (leafItems_ok.mp h).2) hm
    have hg : GoodDict U := {
      names_nodup := hnames ▸ hflat.nodup
      no_empty := hnames ▸ hflat.no_empty
      no_default := hnames ▸ hflat.no_default
      keys_nodup := fun s hs => by
        obtain ⟨pf, _, hpf⟩ := List.mem_map.mp (hmap ▸ List.mem_map_of_mem (f := Except.ok) hs)
        rw [sectionItems_keys cfg env pf.2 _ (leafItems_ok.mp hpf).1]
        exact sectionKeys_nodup cfg hwf pf.2 }
    obtain ⟨t', ht'⟩ := hflat.parses
    have ⟨h1, h2⟩ := readDict_escaped U hg t' (hnames ▸ ht')
    refine ⟨_, h1, rfl, by rw [escD_names, hnames], fun pf hpf => ?_⟩
    obtain ⟨b, hb, hpb⟩ := List.mem_map.mp (hmap ▸ List.mem_map_of_mem (f := leafItems cfg env) hpf)
    obtain ⟨hit, hb1⟩ := leafItems_ok.mp hpb.symm
    rw [hit, ← hb1]
    exact h2 env' b hb

/-- **Round trip, full strength**: for every configuration with distinct prefix-free section names (none `""` /
`DEFAULT`; `CfgWF` = option names unique per section, a dict invariant) whose options all interpolate in the
environment `env`: the conversion succeeds, the re-read configuration (read in ANY environment `env'`) has the
same sections (up to order), no DEFAULT section, and in every section exactly the original effective items —
whatever the values contain (`$`, references, environment variables, the config dir). -/
theorem roundtrip (cfg : Cfg) (env env' : Opts) (localDir : Str) (E : List (Str × Opts))
    (hwf : CfgWF cfg) (hpf : PrefixFree (cfg.sections.map (·.1))) (h1 : [] ∉ cfg.sections.map (·.1))
    (h2 : defaultSect ∉ cfg.sections.map (·.1)) (he : effective cfg env = .ok E) :
    ∃ D' cfg', getConfigDict cfg env localDir none = .ok D' ∧ readDict D' = .ok cfg' ∧ cfg'.defaults = [] ∧
      (cfg'.sections.map (·.1)).Perm (cfg.sections.map (·.1)) ∧
      ∀ n ∈ cfg.sections.map (·.1), sectionItems cfg' env' n = sectionItems cfg env n := by
  obtain ⟨trie, ht, hg, hperm⟩ := walk_rebuilds_names _ hpf h1 h2
  have hmem (pf : Str × Str) : pf ∈ flattenKids none trie ↔ pf.1 ∈ cfg.sections.map (·.1) ∧ pf.2 = pf.1 := by
    rw [hperm.mem_iff, List.mem_map]
    exact ⟨fun ⟨n, hn, e⟩ => e ▸ ⟨hn, rfl⟩, fun ⟨hn, e⟩ => ⟨pf.1, hn, Prod.ext rfl e.symm⟩⟩
  -- every leaf is a section, so its options interpolate and the conversion succeeds
  obtain ⟨U, hU⟩ := mapMExcept_ok_of_forall (leafItems cfg env) _ fun pf hpf => by
    obtain ⟨it, hit⟩ := effective_ok_sections cfg env E he pf.2 (((hmem pf).mp hpf).2 ▸ ((hmem pf).mp hpf).1)
    exact ⟨(pf.1, it), leafItems_ok.mpr ⟨hit, rfl⟩⟩
  have hd : getConfigDict cfg env localDir none = .ok (escD U) := by
    rw [getConfigDict_eq cfg env localDir trie ht hg.nodup, hU]; rfl
  obtain ⟨cfg', hr, hd0, hs, hi⟩ := roundtrip_values cfg env env' localDir trie _ hwf ht hg hd
  refine ⟨_, cfg', hd, hr, hd0, ?_, fun n hn => hi (n, n) ((hmem (n, n)).mpr ⟨hn, rfl⟩)⟩
  rw [hs]
  simpa [List.map_map, Function.comp_def] using hperm.map (·.1)

/-- Same nesting: the nested sections built from a permutation of prefix-free names have the same leaf paths
(with `roundtrip`: the re-read configuration nests like the original). -/
theorem nesting_preserved (a b : List Str) (hp : a.Perm b) (hpf : PrefixFree b) :
    ∃ ta tb, parseSections a [] = .ok ta ∧ parseSections b [] = .ok tb ∧ (pathsKids ta).Perm (pathsKids tb) := by
  obtain ⟨ta, ha1, ha2⟩ := parseSections_nil a (prefixFree_perm hp hpf)
  obtain ⟨tb, hb1, hb2⟩ := parseSections_nil b hpf
  exact ⟨ta, tb, ha1, hb1, ha2.trans ((hp.map _).trans hb2.symm)⟩

/-- `replace_config_dir` only rewrites values that contain the local config dir. -/
theorem replace_only_containing (pat rep s : Str) (hp : pat ≠ []) (h : ¬ pat <:+: s) :
    replaceAll pat rep s = s := replaceAux_no_infix pat rep hp _ s h

/-- Without the escaping (the code before the fix f104c76) the F13 input is rejected when read back:
`pa$$word` has the effective value `pa$word`, which `read_dict` refuses. -/
theorem refuted_dollar_unescaped :
    (∀ cfg d sect map, loop cfg d "pa$$word".toList sect map = .ok "pa$word".toList) ∧
    readDict [(['a'], [(['x'], "pa$word".toList)])] = .error .valueError := by
  constructor
  · intro cfg d sect map
    have h : "pa$$word".toList = escape "pa$word".toList := by decide +kernel
    rw [h]
    exact loop_escape cfg d sect map _
  · have h : beforeSetOk "pa$word".toList = false := by decide +kernel
    rw [readDict, readDictInto, readOpts, if_pos ⟨by decide +kernel, h⟩]

/-- non-vacuity of `readDict_escaped`: a two-section dictionary with a `$` -/
example : readDict (escD [(['a', '.', 'b'], [(['x'], ['p', '$', 'w'])]), (['c'], [])]) =
    .ok ⟨[], [(['a', '.', 'b'], [(['x'], ['p', '$', '$', 'w'])]), (['c'], [])]⟩ :=
  (readDict_escaped _ ⟨by decide +kernel, by decide +kernel, by decide +kernel, by decide +kernel⟩ _ rfl).1

/-- non-vacuity of `roundtrip`: `[a.b] x = p$$w` and `[a.c] y = ${a.b:x}` — prefix-free, every option interpolates -/
example : PrefixFree [['a', '.', 'b'], ['a', '.', 'c']] ∧ CfgWF ⟨[], [(['a', '.', 'b'], [(['x'], ['p', '$', '$', 'w'])]),
    (['a', '.', 'c'], [(['y'], "${a.b:x}".toList)])]⟩ := by
  unfold PrefixFree CfgWF
  decide +kernel

example : effective ⟨[], [(['a', '.', 'b'], [(['x'], ['p', '$', '$', 'w'])]),
      (['a', '.', 'c'], [(['y'], ['$', '{', 'a', '.', 'b', ':', 'x', '}'])])]⟩ []
    = .ok [(['a', '.', 'b'], [(['x'], ['p', '$', 'w'])]), (['a', '.', 'c'], [(['y'], ['p', '$', 'w'])])] := by
  simp [effective, mapMExcept, sectionItems, sectionKeys, getItem, rawGet, sectionOpts, defaultSect, orElse, List.lookup,
    loop, takeRef, spanBrace, splitOn, resolve]

end RedunModel.C35
