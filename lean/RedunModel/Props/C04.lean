/-
C04 — Cached results with external values are replayed only while still valid.

Model: `Model/FileSys.lean` (file value classes, symbolic hashes, `validRec` = `is_valid` of an unpickled value)
and `Model/ExtCache.lean` (`run` = one `scheduler.run` of a task against the same backend: the
`_get_cache` validity branch, re-execution, `set_eval_cache`).  The task body is a parameter: every theorem
holds for every body.  The model mirrors /repo with the repair of `ContentFile._calc_hash` proposed in
harness/findings_proposed/C04-contentfile-missing.fix.diff (a missing file has a hash instead of raising), so
`calcHash` / `validRec` are total functions: that totality is the content of `no_raise`.

Statement, clause by clause:
 * "replayed only if every such value is still valid, meaning its current hash equals the recorded one;
   immutable file types are always valid"       → `replay_iff_valid`, `valid_means_hashes_equal`,
                                                  `replay_only_if_valid`, `immutable_never_invalidates`
 * "when a recorded output was deleted or altered the task re-executes without raising"
                                                → `invalid_reexecutes_once`, `no_raise`,
                                                  `deleted_file_invalidates`, `deleted_member_invalidates`
 * "the new result reflects the current external state"
                                                → `reexec_reflects_state`, `returned_is_current`,
                                                  `full_cache_is_returned`, `run_again_replays`,
                                                  `history_returned_is_current`, and downstream of the task:
                                                  `chain_answer_current`, `cinv_runChain`, `chain_consumer_runs_iff_new`
 `shallow : Bool` is `check_valid="shallow"` (newest CallNode instead of the Evaluation row); every theorem holds for both
 modes unless it says `false`; `shallow_rerun_remark` records why `run_again_replays` is stated for the default mode.
-/
import RedunModel.Lemmas.FileSys
import RedunModel.Model.ExtCache
namespace RedunModel.C04
open RedunModel.FileSys RedunModel.ExtCache

variable {ε : Type} (U : List Path) (shallow : Bool) (body : Body ε)

theorem execute_not_replay (s : St) : (execute U body s).2.isReplay = false := by
  unfold execute; split <;> rfl

theorem execute_failed (s : St) (e : ε) (h : (execute U body s).2 = .failed e) : body s.fs = .error e := by
  unfold execute at h
  split at h
  · cases h; assumption
  · cases h

theorem execute_leaves (s : St) (ls : List Leaf) (h : (execute U body s).2.leaves = some ls) :
    (∃ outs, ls = record U (execute U body s).1.fs outs) ∧ (execute U body s).1.cache = some ls := by
  unfold execute at h ⊢
  split at h
  · cases h
  · cases h; exact ⟨⟨_, rfl⟩, rfl⟩

theorem run_cases (s : St) :
    (∃ ls, cached shallow s = some ls ∧ allValid U s.fs ls = true ∧ run U shallow body s = (s, .replay ls)) ∨
    run U shallow body s = execute U body s := by
  unfold run
  split
  · split
    · exact Or.inl ⟨_, ‹_›, ‹_›, rfl⟩
    · exact Or.inr rfl
  · exact Or.inr rfl

theorem record_allValid (fs : FS) (outs : List (Option Val)) : allValid U fs (record U fs outs) = true := by
  simp only [allValid, record, List.all_map, List.all_eq_true]
  intro o _
  cases o <;> simp [leafValid, validRec]

theorem mem_record {fs : FS} {outs : List (Option Val)} {v : Val} {h : H} (hm : Leaf.ext v h ∈ record U fs outs) :
    h = calcHash U fs v := by
  obtain ⟨o, _, ho⟩ := List.mem_map.mp hm
  cases o with
  | none => cases ho
  | some v' => cases ho; rfl

/-- A cached result is replayed iff `is_valid_nested` holds for it in the current filesystem. -/
theorem replay_iff_valid (s : St) (ls : List Leaf) (hc : cached shallow s = some ls) :
    (run U shallow body s).2.isReplay = true ↔ allValid U s.fs ls = true := by
  unfold run
  simp only [hc]
  split
  · rename_i hv; simp [Outcome.isReplay, hv]
  · rename_i hv; simp [execute_not_replay, hv]

/-- … and `is_valid_nested` means: every external leaf is of an always-valid (immutable / staging) class or its
recorded hash equals its current hash. -/
theorem valid_means_hashes_equal (fs : FS) (ls : List Leaf) :
    allValid U fs ls = true ↔ ∀ v h, Leaf.ext v h ∈ ls → alwaysValid v = true ∨ h = calcHash U fs v := by
  simp only [allValid, List.all_eq_true]
  constructor
  · intro hall v h hm
    have := hall _ hm
    simpa [leafValid, validRec] using this
  · intro hall l hm
    cases l with
    | plain => rfl
    | ext v h => simpa [leafValid, validRec] using hall v h hm

theorem replay_only_if_valid (s : St) (ls : List Leaf) (h : (run U shallow body s).2 = .replay ls) :
    cached shallow s = some ls ∧ allValid U s.fs ls = true := by
  rcases run_cases U shallow body s with ⟨ls0, hc, hv, hr⟩ | hr <;> rw [hr] at h
  · cases h; exact ⟨hc, hv⟩
  · have := execute_not_replay U body s; rw [h] at this; cases this

theorem replay_changes_nothing (s : St) (h : (run U shallow body s).2.isReplay = true) : (run U shallow body s).1 = s := by
  rcases run_cases U shallow body s with ⟨ls0, _, _, hr⟩ | hr <;> rw [hr] at h ⊢
  rw [execute_not_replay] at h; cases h

/-- A recorded result with an invalid leaf: the task body runs exactly once (the counter goes up by one), no
error arises from the validity check, and the entry is overwritten by the new result. -/
theorem invalid_reexecutes_once (s : St) (ls : List Leaf) (hc : cached shallow s = some ls) (hv : allValid U s.fs ls = false)
    (fs' : FS) (outs : List (Option Val)) (hb : body s.fs = .ok (fs', outs)) :
    (run U shallow body s).2 = .exec (record U fs' outs) ∧ (run U shallow body s).1.execs = s.execs + 1 ∧
    (run U shallow body s).1.fs = fs' ∧ (run U shallow body s).1.cache = some (record U fs' outs) := by
  simp [run, hc, hv, execute, hb]

/-- `run` fails only if the task body itself fails: checking validity never raises, on any filesystem state. -/
theorem no_raise (s : St) (e : ε) (h : (run U shallow body s).2 = .failed e) : body s.fs = .error e := by
  rcases run_cases U shallow body s with ⟨ls0, _, _, hr⟩ | hr <;> rw [hr] at h
  · cases h
  · exact execute_failed U body s e h

/-- After a (re-)execution the returned values carry the hashes of the filesystem state the task left behind,
and that result is what the cache now holds. -/
theorem reexec_reflects_state (s : St) (ls : List Leaf) (h : (run U shallow body s).2 = .exec ls) :
    (∀ v hh, Leaf.ext v hh ∈ ls → hh = calcHash U (run U shallow body s).1.fs v) ∧ (run U shallow body s).1.cache = some ls := by
  rcases run_cases U shallow body s with ⟨ls0, _, _, hr⟩ | hr <;> rw [hr] at h ⊢
  · cases h
  · obtain ⟨⟨outs, rfl⟩, hc⟩ := execute_leaves U body s ls (by rw [h]; rfl)
    exact ⟨fun v hh hm => mem_record U hm, hc⟩

/-- Whatever `run` hands back — replayed or freshly computed — is valid in the filesystem it leaves behind. -/
theorem returned_is_current (s : St) (ls : List Leaf) (h : (run U shallow body s).2.leaves = some ls) :
    allValid U (run U shallow body s).1.fs ls = true := by
  rcases run_cases U shallow body s with ⟨ls0, _, hv, hr⟩ | hr <;> rw [hr] at h ⊢
  · cases h; exact hv
  · obtain ⟨⟨outs, rfl⟩, _⟩ := execute_leaves U body s ls h
    exact record_allValid U _ _

/-- Default (full) validity checking: what `run` hands back is what the Evaluation row now holds … -/
theorem full_cache_is_returned (s : St) (ls : List Leaf) (h : (run U false body s).2.leaves = some ls) :
    (run U false body s).1.cache = some ls := by
  rcases run_cases U false body s with ⟨ls0, hc, _, hr⟩ | hr <;> rw [hr] at h ⊢
  · cases h; exact hc
  · exact (execute_leaves U body s ls h).2

/-- … so running again straight away (no external change in between) replays the same result, whatever the body. -/
theorem run_again_replays (body' : Body ε) (s : St) (ls : List Leaf) (h : (run U false body s).2.leaves = some ls) :
    run U false body' (run U false body s).1 = ((run U false body s).1, .replay ls) := by
  have hv := returned_is_current U false body s ls h
  have hc := full_cache_is_returned U body s ls h
  generalize (run U false body s).1 = s1 at hv hc ⊢
  simp only [run, cached, Bool.false_eq_true, if_false, hc, hv, if_true]

/-- Over all histories of external filesystem mutations and runs (of any bodies), starting anywhere: the result
of a run is valid in the state it leaves behind. -/
theorem history_returned_is_current (s0 : St) (ops : List (HOp ε)) (ls : List Leaf)
    (h : (run U shallow body (hrun U s0 ops)).2.leaves = some ls) :
    allValid U (run U shallow body (hrun U s0 ops)).1.fs ls = true :=
  returned_is_current U shallow body _ ls h

theorem stale_leaf_invalidates (fs : FS) (ls : List Leaf) (v : Val) (h : H) (hm : Leaf.ext v h ∈ ls)
    (ha : alwaysValid v = false) (hne : h ≠ calcHash U fs v) : allValid U fs ls = false := by
  rw [Bool.eq_false_iff]
  intro hall
  rcases (valid_means_hashes_equal U fs ls).1 hall v h hm with h' | h'
  · rw [ha] at h'; cases h'
  · exact hne h'

/-- A recorded File / ContentFile whose file has since been deleted is invalid (so the task re-executes: see
`invalid_reexecutes_once`), for every recorded state in which the file existed. -/
theorem deleted_file_invalidates (fs0 fs : FS) (fam : Fam) (hf : fam ≠ .imm) (p : Path) (n : Node)
    (h0 : fs0 p = some n) (h1 : fs p = none) (ls : List Leaf)
    (hm : Leaf.ext (.file fam p) (calcHash U fs0 (.file fam p)) ∈ ls) : allValid U fs ls = false := by
  refine stale_leaf_invalidates U fs ls _ _ hm ?_ ?_ <;> cases fam <;>
    simp_all [alwaysValid, calcHash, statH, contentH]

/-- A recorded Dir / ContentDir one of whose member files has since been deleted is invalid. -/
theorem deleted_member_invalidates (fs0 : FS) (fam : Fam) (hf : fam ≠ .imm) (d p : Path) (n : Node)
    (hp : p ∈ U) (hu : under d p = true) (h0 : fs0 p = some n) (ls : List Leaf)
    (hm : Leaf.ext (.dir fam d) (calcHash U fs0 (.dir fam d)) ∈ ls) : allValid U (fs0.set p none) ls = false := by
  refine stale_leaf_invalidates U _ ls _ _ hm (by cases fam <;> simp_all [alwaysValid]) fun e => ?_
  have : p ∈ members U (fs0.set p none) (under d) :=
    ((dir_hash_eq_iff U _ _ hf d).mp e).1 ▸ mem_members.mpr ⟨hp, hu, by simp [h0]⟩
  simp [mem_members, FS.set] at this

/-- Immutable classes (IFile, IFileSet, IDir) recorded in any state stay valid in every state. -/
theorem immutable_never_invalidates (fs0 fs : FS) (v : Val)
    (hv : (∃ p, v = .file .imm p) ∨ (∃ d r, v = .fset .imm d r) ∨ (∃ p, v = .dir .imm p)) :
    leafValid U fs (.ext v (calcHash U fs0 v)) = true := by
  rcases hv with ⟨p, rfl⟩ | ⟨d, r, rfl⟩ | ⟨p, rfl⟩ <;> simp [leafValid, validRec, alwaysValid, calcHash]

/-- what the consumer's observation is according to the recorded hash alone -/
def summHF : HF → Int
  | .stat _ sz _ => sz
  | .content _ none => -1
  | .content _ (some b) => b.length
def summH : H → Int
  | .f h => summHF h
  | .coll _ _ ms => ms.length
  | _ => 0
def summLeaf : Leaf → Int
  | .ext (.file .imm _) _ => 0
  | .ext (.fset .imm _ _) _ => 0
  | .ext (.dir .imm _) _ => 0
  | .ext (.staging ..) _ => 0
  | .ext _ h => summH h
  | .plain => 0

theorem summLeaf_calcHash (fs : FS) (v : Val) : summLeaf (.ext v (calcHash U fs v)) = observe U fs v := by
  cases v with
  | file fam p => cases fam <;> simp only [summLeaf, summH, calcHash, statH, contentH, observe] <;> cases fs p <;> rfl
  | fset fam d r => cases fam <;> simp [summLeaf, summH, calcHash, observe]
  | dir fam p => cases fam <;> simp [summLeaf, summH, calcHash, observe]
  | staging d fam l r => rfl

/-- a valid leaf's observation is determined by its recorded hash -/
theorem observe_of_valid (fs : FS) (l : Leaf) (hv : leafValid U fs l = true) : observeLeaf U fs l = summLeaf l := by
  cases l with
  | plain => rfl
  | ext v h =>
    rcases (Bool.or_eq_true _ _).mp hv with ha | hh
    · -- the always-valid classes are observed and summarised as 0
      cases v with
      | file fam p => cases fam <;> first | rfl | cases ha
      | fset fam d r => cases fam <;> first | rfl | cases ha
      | dir fam p => cases ha
      | staging d fam l r => rfl
    · rw [beq_iff_eq.mp hh]
      exact (summLeaf_calcHash U fs v).symm

theorem observe_map_of_valid (fs : FS) (ls : List Leaf) (hv : allValid U fs ls = true) :
    ls.map (observeLeaf U fs) = ls.map summLeaf := by
  apply List.map_congr_left
  intro l hl
  exact observe_of_valid U fs l (by simpa [allValid, List.all_eq_true] using (List.all_eq_true.1 hv) l hl)

/-- invariant of the consumer's cache: every stored answer is the one determined by its key -/
def CInv (c : CSt) : Prop := ∀ ls sm, lookupL ls c.ccache = some sm → sm = ls.map summLeaf

theorem lookupL_cons_self (k : List Leaf) (b : List Int) (t) : lookupL k ((k, b) :: t) = some b := by simp [lookupL]

theorem cinv_runChain (c : CSt) (h : CInv c) : CInv (runChain U shallow body c).1 := by
  unfold runChain
  simp only
  split
  · exact h
  · rename_i ls hls
    split
    · exact h
    · intro ls' sm' hl
      simp only [lookupL] at hl
      split at hl
      · rename_i heq
        subst heq
        cases hl
        exact observe_map_of_valid U _ _ (returned_is_current U shallow body c.base _ hls)
      · exact h ls' sm' hl

theorem runChain_upstream (c : CSt) :
    (runChain U shallow body c).2.1 = (run U shallow body c.base).2 ∧ (runChain U shallow body c).1.base = (run U shallow body c.base).1 := by
  unfold runChain
  simp only
  split
  · exact ⟨rfl, rfl⟩
  · split <;> exact ⟨rfl, rfl⟩

/-- **The downstream answer is current.** Whether the consumer ran or was replayed from its own cache, the answer
handed back equals what the consumer would compute now from the filesystem the run leaves behind. -/
theorem chain_answer_current (c : CSt) (h : CInv c) (ran : Bool) (sm : List Int) (ls : List Leaf)
    (hl : (runChain U shallow body c).2.1.leaves = some ls) (hr : (runChain U shallow body c).2.2 = some (ran, sm)) :
    sm = ls.map (observeLeaf U (runChain U shallow body c).1.base.fs) := by
  rw [(runChain_upstream U shallow body c).1] at hl
  rw [(runChain_upstream U shallow body c).2]
  have hv := returned_is_current U shallow body c.base _ hl
  unfold runChain at hr
  simp only [hl] at hr
  split at hr
  · rename_i sm0 hlk
    simp only [Option.some.injEq, Prod.mk.injEq] at hr
    obtain ⟨_, rfl⟩ := hr
    rw [h _ _ hlk, observe_map_of_valid U _ _ hv]
  · simp only [Option.some.injEq, Prod.mk.injEq] at hr
    obtain ⟨_, rfl⟩ := hr
    rfl

/-- the consumer re-executes exactly when it has not yet seen this argument (these recorded hashes) -/
theorem chain_consumer_runs_iff_new (c : CSt) (ls : List Leaf) (hl : (run U shallow body c.base).2.leaves = some ls) :
    (∃ sm, (runChain U shallow body c).2.2 = some (true, sm)) ↔ lookupL ls c.ccache = none := by
  unfold runChain
  simp only [hl]
  cases hk : lookupL ls c.ccache <;> simp

-- The history of finding F3 on the model: a content-hashed output deleted between two runs.
section Examples
def exU : List Path := [["f"], ["d", "a"]]
def exBody (t : Int) : Body Empty := writerBody [(["f"], [97, 98])] [some (.file .content ["f"]), none, some (.dir .plain ["d"])] t
def exS1 : St := (run exU false (exBody 5) ⟨FS.empty, none, [], 0⟩).1

example : exS1.execs = 1 := by decide +kernel
example : (run exU false (exBody 6) exS1).2.isReplay = true := by decide +kernel
/-- delete the output: the next run re-executes (no failure), the file is back, and a further run replays -/
def exS2 : St := (run exU false (exBody 7) { exS1 with fs := exS1.fs.remove ["f"] }).1
example : allValid exU (exS1.fs.remove ["f"]) (exS1.cache.getD []) = false := by decide +kernel
example : exS2.execs = 2 ∧ (exS2.fs ["f"]).isSome = true := by decide +kernel
example : (run exU false (exBody 8) exS2).2.isReplay = true := by decide +kernel
/-- a new member below the returned Dir invalidates, too -/
example : (run exU false (exBody 8) { exS2 with fs := exS2.fs.write ["d", "a"] [] 3 }).2.isReplay = false := by decide +kernel

def exDirBody : Body Empty := writerBody [] [some (.dir .plain ["d"])] 0
def exT0 : St := (run exU true exDirBody ⟨FS.empty, none, [], 0⟩).1
def exT1 : St := (run exU true exDirBody { exT0 with fs := exT0.fs.write ["d", "a"] [] 3 }).1
def exT2 : St := (run exU true exDirBody { exT1 with fs := exT1.fs.remove ["d", "a"] }).1
/-- Remark (not demanded by the property, which only forbids replaying an *invalid* result): with
`check_valid="shallow"` the lookup takes the CallNode created last, and re-creating an *older* result refreshes no
timestamp — after  run; add a member; run; remove it; run  every further run re-executes although nothing changes.
`run_again_replays` is therefore stated for the default mode only. -/
theorem shallow_rerun_remark :
    exT2.execs = 3 ∧ (run exU true exDirBody exT2).2.isReplay = false ∧
    (run exU true exDirBody (run exU true exDirBody exT2).1).1.execs = 5 := by decide +kernel
/-- chain: the consumer's answer follows the re-executed upstream result -/
def exC1 : CSt := (runChain exU false (exBody 5) ⟨⟨FS.empty, none, [], 0⟩, [], 0⟩).1
example : (runChain exU false (exBody 6) exC1).2.2 = some (false, [2, 0, 0]) := by decide +kernel
example : (runChain exU false (exBody 6) { exC1 with base := { exC1.base with fs := exC1.base.fs.write ["d", "a"] [] 3 } }).2.2
    = some (true, [2, 0, 1]) := by decide +kernel
end Examples

end RedunModel.C04
