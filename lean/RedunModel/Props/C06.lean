/-
C06 — Each distinct call runs at most once per execution.

Model: `RedunModel.Model.SchedCore` (mirrors /repo after the `fix:` commits "keep the CSE registration
of a pending job until that job itself is finalized" and "do not collapse jobs into a twin that records
no provenance").  All theorems: every program, every schedule.
-/
import RedunModel.Lemmas.SchedCse
import RedunModel.Lemmas.SchedTwin
import RedunModel.Lemmas.ExprMemo
namespace RedunModel.C06
open RedunModel.SchedCore

/-- Within one execution, for every cache key (eval hash, context hash), at most one job that did not
opt out (cache_scope ≠ NONE, CSE allowed; hence recording provenance) is handed to an executor —
whatever the order in which jobs complete. -/
theorem submit_once (p : Prog) (hps : ProvScope p) (s : S) (h : Reachable p s) (k : Nat × Nat) :
    nSub p s k ≤ 1 := ((reachable_cse p hps s h).once k).1

/-- …because once such a job has been submitted, its key stays covered: a job is registered as pending
under the key, or the key has a recorded result visible to the same-execution lookup. -/
theorem submitted_key_covered (p : Prog) (hps : ProvScope p) (s : S) (h : Reachable p s) (k : Nat × Nat)
    (hk : nSub p s k = 1) : (lookupPending s k).isSome = true ∨ HasEntry s k :=
  ((reachable_cse p hps s h).once k).2 hk

/-- A job registered as pending under a key has exactly that eval hash and context, and records
provenance (so a duplicate that collapses into it inherits a recorded call node). -/
theorem registration_sound (p : Prog) (hps : ProvScope p) (s : S) (h : Reachable p s) (k : Nat × Nat) (j : JobId)
    (hm : (k, j) ∈ s.pendingJobs) : keyOf p s j = k ∧ (spec p s j).prov = true :=
  ⟨((reachable_cse p hps s h).reg_ok k j hm).1, ((reachable_cse p hps s h).reg_ok k j hm).2.1⟩

/-- In every reachable state a duplicate that collapsed into a pending twin is not in flight, holds no limits and is
neither queued for execution nor waiting for limits: it only waits for the twin's result (same value or same error,
`resolveJob`/`rejectJob`). -/
theorem collapsed_twin_is_quiet (p : Prog) (s : S) (h : Reachable p s) (X t : JobId)
    (ht : t ∈ (s.jobs X).twins) : occA s t = 0 ∧ s.inflight t = false :=
  ⟨((reachable_inv p s h).core.twins_quiet X t ht).1, ((reachable_inv p s h).core.twins_quiet X t ht).2.1⟩

/-! non-vacuity: three calls of the same task, one of them opted out (prov = false under an opted-out
parent is modelled by scope none / prov false).  Whatever the schedule, one opted-in submission. -/
def demo : Prog :=
  { specs := [ { key := 0, ctx := 0, limits := [], scope := .backend, cseOk := true, prov := true, execOk := true,
                 fails := false, pre := .miss, children := [1, 2, 3] },
               { key := 7, ctx := 0, limits := [], scope := .backend, cseOk := true, prov := true, execOk := true,
                 fails := false, pre := .miss, children := [] },
               { key := 7, ctx := 0, limits := [], scope := .none, cseOk := true, prov := false, execOk := true,
                 fails := false, pre := .miss, children := [] },
               { key := 7, ctx := 0, limits := [], scope := .backend, cseOk := true, prov := true, execOk := true,
                 fails := false, pre := .miss, children := [] } ],
    limit := fun _ => 1, dryrun := false }

example : (run demo [.pop, .complete 0, .pop, .pop, .pop, .pop]).submits = [0, 1, 2] := by decide
example : nSub demo (run demo [.pop, .complete 0, .pop, .pop, .pop, .pop]) (7, 0) = 1 := by decide

/-! ## each distinct expression reached from the same parent job is evaluated once (`_pending_expr`) -/
open RedunModel.ExprMemo in
/-- For every history of `_evaluate_apply` calls and job finalizations in which a finalized job evaluates
nothing any more (`Live`): a later request for an expression with the same hash under the same parent is
handed the evaluation of the earlier request and starts nothing; requests that differ in parent or hash
get different evaluations. -/
theorem expr_once (ops : List ExprMemo.Op) (hl : ExprMemo.Live ops) :
    (ExprMemo.run {} ops).Pairwise ExprMemo.Rel := ExprMemo.run_pairwise ExprMemo.inv_init hl

/-- …hence at most one evaluation is ever started per (parent job, expression hash). -/
theorem expr_started_at_most_once (ops : List ExprMemo.Op) (hl : ExprMemo.Live ops) (par h : Nat) :
    ((ExprMemo.run {} ops).filter
      (fun a => decide (a.parent = par ∧ a.hash = h) && a.out.started)).length ≤ 1 := by
  have hp := expr_once ops hl
  generalize ExprMemo.run {} ops = l at hp
  induction l with
  | nil => simp
  | cons a l ih =>
    have hrest := ih (List.Pairwise.of_cons hp)
    by_cases ha : (decide (a.parent = par ∧ a.hash = h) && a.out.started) = true
    · have hnone : l.filter (fun a => decide (a.parent = par ∧ a.hash = h) && a.out.started) = [] := by
        rw [List.filter_eq_nil_iff]
        intro b hb hbt
        have hr := (List.pairwise_cons.mp hp).1 b hb
        simp only [Bool.and_eq_true, decide_eq_true_eq] at ha hbt
        have := (hr.1 (by rw [ha.1.1, ha.1.2, hbt.1.1, hbt.1.2])).2
        rw [this] at hbt
        exact absurd hbt.2 (by simp)
      rw [List.filter_cons, if_pos ha, hnone]; simp
    · rw [List.filter_cons, if_neg ha]
      exact hrest

/-- the hypothesis is needed: after a (hypothetical) evaluation under a finalized parent the table is gone -/
example : (ExprMemo.run {} [.eval 1 7, .finalize 1, .eval 1 7]).map (·.out.started) = [true, true] := by decide
/-- non-vacuity: the same expression three times under parent 1 (one evaluation), once under parent 2, another one under 1 -/
example : (ExprMemo.run {} [.eval 1 7, .eval 1 7, .eval 2 7, .eval 1 8, .finalize 2, .eval 1 7]).map
    (fun a => (a.out.id, a.out.started)) = [(0, true), (0, false), (1, true), (2, true), (0, false)] := by decide
example : ExprMemo.Live [.eval 1 7, .eval 1 7, .eval 2 7, .eval 1 8, .finalize 2, .eval 1 7] := by
  simp [ExprMemo.Live]


/-! ## every duplicate receives the result or error of its twin (second clause of C06)

The model carries no values: "same result or error" is expressed as "settles on the same branch"
(resolved / rejected) — through the twin list while the representative is still running, through the
same-execution table once it has finished.  All theorems: every program (real and dry runs), every schedule. -/

/-- A settled promise keeps its branch: no later step changes the status of a job that is resolved or
rejected (a settled job has no token left — no queued event, no place in the waiting list, not in flight). -/
theorem settle_once (p : Prog) (s s' : S) (h : Reachable p s) (hs : Step p s s') (j : JobId)
    (hst : (s.jobs j).status ≠ Status.pending) : (s'.jobs j).status = (s.jobs j).status :=
  settled_stable p s s' h hs j hst

/-- …because of event uniqueness: every job has at most one token (queued event, waiting-list entry or being
in flight), and a settled job has none. -/
theorem one_token (p : Prog) (s : S) (h : Reachable p s) (j : JobId) :
    tot s j ≤ 1 ∧ ((s.jobs j).status ≠ Status.pending → tot s j = 0) :=
  ⟨((reachable_tok p s h).tok j).1, ((reachable_tok p s h).tok j).2.1⟩

/-- `Promise.all` is exact in real runs: while the evaluation of a job has not failed, `waiting` is the number
of its children whose promise is still pending. -/
theorem promise_all_exact (p : Prog) (hd : p.dryrun = false) (s : S) (h : Reachable p s) (j : JobId)
    (he : (s.jobs j).evalFailed = false) : (s.jobs j).waiting = cntPend s j :=
  Nat.le_antisymm ((reachable_live p hd s h).cnt j he) ((reachable_tok p s h).lb j (by simp) he)

/-- A duplicate collapsed onto a still-running twin: once it has settled, it has settled exactly like the
job it was collapsed onto (same branch: both resolved or both rejected). -/
theorem twin_same_outcome (p : Prog) (s : S) (h : Reachable p s) (X t : JobId) (hm : t ∈ (s.jobs X).twins)
    (hst : (s.jobs t).status ≠ Status.pending) : (s.jobs t).status = (s.jobs X).status :=
  twin_outcome p s h X t hm hst

/-- …and while the representative is pending the duplicate only waits (pending, no token); it belongs to
exactly one representative, which is itself not collapsed, and it never has children of its own. -/
theorem twin_waits (p : Prog) (s : S) (h : Reachable p s) (X t : JobId) (hm : t ∈ (s.jobs X).twins) :
    ((s.jobs X).status = Status.pending → (s.jobs t).status = Status.pending ∧ tot s t = 0) ∧
    (∀ Y, t ∈ (s.jobs Y).twins → Y = X) ∧ (∀ Y, X ∉ (s.jobs Y).twins) ∧
    (∀ c, c < s.next → (s.jobs c).parent ≠ some t) := by
  have ht := reachable_tok p s h
  exact ⟨ht.tw_wait hm, ht.tw_uniq hm, fun Y hY => ht.tw_notTw hm ⟨Y, hY⟩, ht.tw_noKids hm⟩

/-- The step that settles the representative settles or serves every twin: if `X` is rejected by the step
so is `t` (in-line, `rejectTwin`); if `X` is resolved by the step the twin's `done t true` event
(result replayed, no re-execution) is queued. -/
theorem twin_settles_with_rep (p : Prog) (s s' : S) (h : Reachable p s) (hs : Step p s s') (X t : JobId)
    (hm : t ∈ (s.jobs X).twins) (hpX : (s.jobs X).status = Status.pending) :
    ((s'.jobs X).status = Status.rejected → (s'.jobs t).status = Status.rejected) ∧
    ((s'.jobs X).status = Status.resolved → Ev.done t true ∈ s'.queue) :=
  twin_step p s s' h hs X t hm hpX

/-- A recorded same-execution entry is the outcome of a provenance-recording job with that key and context,
and that job is settled on the recorded branch. -/
theorem cse_entry_witness (p : Prog) (s : S) (h : Reachable p s) (e : CseEntry) (he : e ∈ s.cse) :
    ∃ j, j < s.next ∧ (spec p s j).key = e.key ∧ (spec p s j).ctx = e.ctx ∧ (spec p s j).prov = true ∧
      (s.jobs j).status = (if e.isErr then Status.rejected else Status.resolved) :=
  reachable_cseW p s h e he

/-- A duplicate arriving after its twin finished: whenever the cache lookup of `_exec_job_main_thread`
answers from the same-execution table (`Hit.cse b`; the job is then sent to `reject` if `b`, to `done … true`
otherwise), some job with the same eval hash (and the same context, unless the looking job has none) has
already settled on exactly that branch. -/
theorem late_duplicate_same_branch (p : Prog) (s : S) (h : Reachable p s) (sp : Spec) (b : Bool)
    (hh : cacheLookup s sp = Hit.cse b) :
    ∃ j, j < s.next ∧ (spec p s j).key = sp.key ∧ (sp.ctx = 0 ∨ (spec p s j).ctx = sp.ctx) ∧
      (spec p s j).prov = true ∧ (s.jobs j).status = (if b then Status.rejected else Status.resolved) :=
  cse_hit_witness p s h sp b hh

/-! non-vacuity: jobs 1 and 2 are the same call (2 collapses onto the running 1), job 4 is the same call
arriving after 1 has finished (served from the same-execution table, never submitted) -/
def twinProg (fails : Bool) : Prog :=
  { specs := [ { key := 0, ctx := 0, limits := [], scope := .backend, cseOk := true, prov := true, execOk := true,
                 fails := false, pre := .miss, children := [1, 2, 3] },
               { key := 7, ctx := 0, limits := [], scope := .backend, cseOk := true, prov := true, execOk := true,
                 fails := fails, pre := .miss, children := [] },
               { key := 7, ctx := 0, limits := [], scope := .backend, cseOk := true, prov := true, execOk := true,
                 fails := fails, pre := .miss, children := [] },
               { key := 8, ctx := 0, limits := [], scope := .backend, cseOk := true, prov := true, execOk := true,
                 fails := false, pre := .miss, children := [4] },
               { key := 7, ctx := 0, limits := [], scope := .backend, cseOk := true, prov := true, execOk := true,
                 fails := fails, pre := .miss, children := [] } ],
    limit := fun _ => 1, dryrun := false }

def twinSchedule : List Choice :=
  [.pop, .complete 0, .pop, .pop, .pop, .pop,          -- root done; 1 submitted; 2 collapses onto 1; 3 submitted
   .complete 1, .pop, .pop, .pop, .pop,                 -- 1 reports and settles; its twin 2 settles with it
   .complete 3, .pop, .pop, .pop, .pop]                 -- 3 spawns 4 = the same call again: served from the table

/-- the twin is resolved with its representative; the late duplicate is resolved from the table; one submission -/
example : 2 ∈ ((run (twinProg false) twinSchedule).jobs 1).twins ∧
    ((run (twinProg false) twinSchedule).jobs 1).status = Status.resolved ∧
    ((run (twinProg false) twinSchedule).jobs 2).status = Status.resolved ∧
    ((run (twinProg false) twinSchedule).jobs 4).status = Status.resolved ∧
    (run (twinProg false) twinSchedule).submits = [0, 1, 3] := by decide
/-- the twin is rejected with its representative (and the recorded entry is an error entry) -/
example : 2 ∈ ((run (twinProg true) twinSchedule).jobs 1).twins ∧
    ((run (twinProg true) twinSchedule).jobs 1).status = Status.rejected ∧
    ((run (twinProg true) twinSchedule).jobs 2).status = Status.rejected ∧
    { key := 7, ctx := 0, isErr := true } ∈ (run (twinProg true) twinSchedule).cse := by decide
example : ((run (twinProg false) twinSchedule).jobs 2).status = ((run (twinProg false) twinSchedule).jobs 1).status :=
  twin_same_outcome _ _ (reachable_run _ _) 1 2 (by decide) (by decide)
example : ((run (twinProg true) twinSchedule).jobs 2).status = ((run (twinProg true) twinSchedule).jobs 1).status :=
  twin_same_outcome _ _ (reachable_run _ _) 1 2 (by decide) (by decide)

end RedunModel.C06
