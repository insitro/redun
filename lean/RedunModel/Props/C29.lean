/-
C29 — Script tasks run exactly the given command with correct staging.

Model: `RedunModel.Model.Script` (`prepare` = `prepare_command`, `commandEof` = `get_command_eof`,
`wrap` = `get_wrapped_command`, `tempFileOf` = what bash writes to the temp file for a wrapped script,
`scriptCall` = `script()`, `postprocess` = `postprocess_script`, `executedScript` = what `script_task`
finally runs).
-/
import RedunModel.Lemmas.Script
import RedunModel.Lemmas.ScriptExec
namespace RedunModel.C29
open RedunModel.Script

/-- `get_command_eof` terminates: `len(lines) + 1` iterations of its `while True` loop always suffice
(pigeonhole over the pairwise distinct candidates `prefix, prefix1, prefix2, …`), for every command
text and every prefix. -/
theorem eof_fuel_suffices (cmd pfx : Str) : (commandEof cmd pfx).isSome = true := by
  obtain ⟨k, hk, _, _⟩ := commandEof_spec cmd pfx
  simp [hk]

/-- The terminator never equals a line of the command. -/
theorem eof_not_a_line (cmd pfx e : Str) (h : commandEof cmd pfx = some e) : e ∉ splitNL cmd := by
  obtain ⟨k, hk, hn, _⟩ := commandEof_spec cmd pfx
  rw [hk] at h; cases h; exact hn

/-- It is the first candidate that is not a line (so `EOF` itself whenever no line equals `EOF`). -/
theorem eof_is_first_free_candidate (cmd pfx e : Str) (h : commandEof cmd pfx = some e) :
    ∃ k, e = eofCand pfx k ∧ ∀ j, j < k → eofCand pfx j ∈ splitNL cmd := by
  obtain ⟨k, hk, _, hall⟩ := commandEof_spec cmd pfx
  rw [hk] at h; cases h; exact ⟨k, rfl, hall⟩

/-- non-vacuity: a command containing the lines `EOF` and `EOF1` gets `EOF2` -/
example : commandEof "echo\nEOF1\nEOF".toList "EOF".toList = some "EOF2".toList := by
  rw [toList_lit rfl, toList_lit rfl, toList_lit rfl]
  decide +kernel

/-- For every command text and every alphanumeric prefix: `get_wrapped_command` returns, and bash's
here-document reader applied to the wrapped script writes exactly `cmd + "\n"` to the temp file. -/
theorem heredoc_roundtrip (cmd pfx : Str) (hp : ∀ c ∈ pfx, c.isAlphanum = true) :
    ∃ w, wrap cmd pfx = some w ∧ tempFileOf w = some (cmd ++ ['\n']) := by
  obtain ⟨k, hk, hn⟩ := wrap_spec cmd pfx
  exact ⟨_, hk, heredoc_wrapWith cmd _ hn (eofCand_no_nl (fun hm => by have := hp _ hm; revert this; decide) k)⟩

/-- What `script()` does with a user command `c`: the temp file holds exactly `prepare_command(c)`
followed by a newline. -/
theorem wrapped_runs_exact_text (c : Str) :
    ∃ w, wrap (prepare c) "EOF".toList = some w ∧ tempFileOf w = some (prepare c ++ ['\n']) :=
  heredoc_roundtrip (prepare c) "EOF".toList (by decide)

/-- non-vacuity: a command whose lines include the default terminator -/
example : ∃ w, wrap "cat <<EOF\nhi\nEOF".toList "EOF".toList = some w ∧
    tempFileOf w = some "cat <<EOF\nhi\nEOF\n".toList := by
  refine (heredoc_roundtrip _ _ (by decide)).imp fun w h => ⟨h.1, h.2.trans ?_⟩
  rw [toList_lit rfl, toList_lit rfl]
  rfl

theorem shebang_kept (c : Str) (h : startsShebang (strip (dedent c)) = true) :
    prepare c = strip (dedent c) := by
  simp [prepare, h]

theorem default_shell_prepended (c : Str) (h : startsShebang (strip (dedent c)) = false) :
    prepare c = defaultShell ++ '\n' :: strip (dedent c) := by
  simp [prepare, h]

/-- Whatever the text, the file that is executed starts with an interpreter line. -/
theorem prepared_has_interpreter (c : Str) : startsShebang (prepare c) = true := by
  cases h : startsShebang (strip (dedent c)) with
  | true => rw [shebang_kept c h]; exact h
  | false =>
    rw [default_shell_prepended c h]
    unfold defaultShell
    rw [toList_lit rfl]
    rfl

example : prepare "\n    echo hi\n    echo there\n  ".toList =
    "#!/usr/bin/env bash\nset -exo pipefail\necho hi\necho there".toList := by
  unfold prepare defaultShell
  repeat rw [toList_lit rfl]
  decide +kernel
example : prepare "\n  #!/bin/sh\n  echo hi\n".toList = "#!/bin/sh\necho hi".toList := by
  rw [toList_lit rfl, toList_lit rfl]
  decide +kernel

/-- `command_parts` is `[cd tmp]? ++ stage commands ++ [wrapped command] ++ unstage commands`:
every input leaf's stage command lies before the wrapped user command, every (pre-processed) output
leaf's unstage command after it, and nothing else is in either part — for every nested
input/output structure. -/
theorem stage_before_unstage_after (cmd : Str) (ins outs : NV Leaf) (t : Option Str) (r : ScriptCall)
    (h : scriptCall cmd ins outs t = .ok r) :
    ∃ pre w post, r.parts = pre ++ w :: post ∧ r.full = joinNL r.parts ∧
      wrap (prepare cmd) "EOF".toList = some w ∧
      (∀ l ∈ iterNV ins, ∃ s, renderStage l = .ok s ∧ s ∈ pre) ∧
      (∀ l ∈ iterNV (mapNV preprocessOutput outs), ∀ s, renderUnstage l = some s → s ∈ post) ∧
      (∀ s ∈ pre, s ∈ cdPart t ∨ ∃ l ∈ iterNV ins, renderStage l = .ok s) ∧
      (∀ s ∈ post, ∃ l ∈ iterNV (mapNV preprocessOutput outs), renderUnstage l = some s) := by
  obtain ⟨stages, w, hs, hw, hp, hf, _, _⟩ := scriptCall_ok h
  obtain ⟨h1, h2⟩ := mapExcept_ok renderStage _ _ hs
  refine ⟨cdPart t ++ stages, w, (iterNV (mapNV preprocessOutput outs)).filterMap renderUnstage,
    by simp [hp], hf, hw, ?_, ?_, ?_, fun s => List.mem_filterMap.1⟩
  · intro l hl
    obtain ⟨s, hs', hr⟩ := h1 l hl
    exact ⟨s, hr, List.mem_append_right _ hs'⟩
  · exact fun l hl s hs' => List.mem_filterMap.2 ⟨l, hl, hs'⟩
  · exact fun s hs' => (List.mem_append.1 hs').imp_right (h2 s)

/-- Every leaf of `inputs` is a staging pair whose copy command `remote → local` is among the
commands before the user command (otherwise `script()` fails, as the code does). -/
theorem every_input_staged (cmd : Str) (ins outs : NV Leaf) (t : Option Str) (r : ScriptCall)
    (h : scriptCall cmd ins outs t = .ok r) (l : Leaf) (hl : l ∈ iterNV ins) :
    ∃ fam d loc rem, l = .staging fam d loc rem ∧
      ∃ pre w post, r.parts = pre ++ w :: post ∧ wrap (prepare cmd) "EOF".toList = some w ∧
        (if loc.path = rem.path then [] else shellCopy d rem.path loc.path) ∈ pre := by
  obtain ⟨pre, w, post, hp, _, hw, hin, _⟩ := stage_before_unstage_after cmd ins outs t r h
  obtain ⟨s, hs, hm⟩ := hin l hl
  obtain ⟨fam, d, loc, rem, rfl, rfl⟩ := renderStage_ok hs
  exact ⟨fam, d, loc, rem, rfl, pre, w, post, hp, hw, hm⟩

/-- Every staging pair among `outputs` is copied `local → remote` after the user command. -/
theorem every_output_unstaged (cmd : Str) (ins outs : NV Leaf) (t : Option Str) (r : ScriptCall)
    (h : scriptCall cmd ins outs t = .ok r) (fam : Fam) (d : Bool) (loc rem : FRef)
    (hl : Leaf.staging fam d loc rem ∈ iterNV outs) :
    ∃ pre w post, r.parts = pre ++ w :: post ∧ wrap (prepare cmd) "EOF".toList = some w ∧
      (if loc.path = rem.path then [] else shellCopy d loc.path rem.path) ∈ post := by
  obtain ⟨pre, w, post, hp, _, hw, _, hout, _⟩ := stage_before_unstage_after cmd ins outs t r h
  refine ⟨pre, w, post, hp, hw, hout (.staging fam d loc rem) ?_ _ (by simp [renderUnstage])⟩
  rw [iterNV_mapNV]
  exact List.mem_map.2 ⟨_, hl, by simp [preprocessOutput]⟩

/-- Specification of the leaf-wise result: stdout file ↦ the command's output, staging pair ↦ its
remote file (an object of the remote's own class), everything else (including self-staged output
files) ↦ itself. -/
def finalLeaf : Leaf → Leaf
  | .fref f => if !f.isDir && f.path = ['-'] then .result else .fref f
  | .staging _ _ _ rem => .fref rem
  | l => l

/-- The value `postprocess_script` returns for the outputs that `script()` passed on. -/
theorem output_leaves (outs : NV Leaf) :
    postprocess (mapNV preprocessOutput outs) = mapNV finalLeaf outs := by
  unfold postprocess
  rw [mapNV_comp]
  congr 1
  funext l
  cases l with
  | fref f =>
    by_cases hd : f.isDir = true <;> by_cases hp : f.path = ['-'] <;>
      simp [preprocessOutput, postLeaf, finalLeaf, hd, hp]
  | _ => rfl

/-- … and it has exactly the shape of `outputs`. -/
theorem output_shape (outs : NV Leaf) :
    shape (postprocess (mapNV preprocessOutput outs)) = shape outs := by
  rw [output_leaves, shape_mapNV]

/-- The `inputs` argument recorded for reactivity has the shape of `inputs`, staging pairs replaced
by their remote files. -/
theorem input_args_shape (cmd : Str) (ins outs : NV Leaf) (t : Option Str) (r : ScriptCall)
    (h : scriptCall cmd ins outs t = .ok r) :
    r.inputArgs = mapNV inputArg ins ∧ shape r.inputArgs = shape ins := by
  obtain ⟨_, _, _, _, _, _, hi, _⟩ := scriptCall_ok h
  exact ⟨hi, by rw [hi, shape_mapNV]⟩

/-- non-vacuity of the `scriptCall` hypotheses: one staged input, stdout and one staged output -/
example : ∃ r, scriptCall "cat in.local > out.local".toList
    (.node .list [.leaf (.staging .plain false ⟨.plain, false, "in.local".toList⟩ ⟨.plain, false, "in.remote".toList⟩)])
    (.node .tuple [.leaf (.fref ⟨.plain, false, "-".toList⟩),
      .leaf (.staging .plain false ⟨.plain, false, "out.local".toList⟩ ⟨.plain, false, "out.remote".toList⟩)])
    none = .ok r ∧ r.parts.length = 3 ∧ r.parts.head? = some "cp in.remote in.local".toList ∧
      r.parts.getLast? = some "cp out.local out.remote".toList := by
  refine (scriptCall_of_stages rfl).imp fun r h => ⟨h.1, ?_⟩
  obtain ⟨w, hp⟩ := h.2
  rw [hp]
  repeat rw [toList_lit rfl]
  exact ⟨rfl, rfl, rfl⟩

theorem shellCopy_ne_nil (d : Bool) (src dst : Str) : shellCopy d src dst ≠ [] := by
  cases d <;> simp [shellCopy]

/-- A staging pair renders no command exactly when its two paths are the same *string*; pairs that are
spelled differently (`x` / `./x`, relative / absolute) always get their copy command — whether the two
spellings denote one file depends on the directory the command runs in, which `script()` does not know
when it renders (it may start with `cd <tempdir>`). -/
theorem no_command_iff_same_string (fam : Fam) (d : Bool) (loc rem : FRef) :
    (renderStage (.staging fam d loc rem) = .ok [] ↔ loc.path = rem.path) ∧
    (renderUnstage (.staging fam d loc rem) = some [] ↔ loc.path = rem.path) := by
  by_cases e : loc.path = rem.path <;> simp [renderStage, renderUnstage, e, shellCopy_ne_nil]

/-- Every input pair with different path strings is copied `remote → local` before the command … -/
theorem distinct_paths_staged_in (cmd : Str) (ins outs : NV Leaf) (t : Option Str) (r : ScriptCall)
    (h : scriptCall cmd ins outs t = .ok r) (fam : Fam) (d : Bool) (loc rem : FRef)
    (hl : Leaf.staging fam d loc rem ∈ iterNV ins) (hne : loc.path ≠ rem.path) :
    ∃ pre w post, r.parts = pre ++ w :: post ∧ wrap (prepare cmd) "EOF".toList = some w ∧
      shellCopy d rem.path loc.path ∈ pre ∧ shellCopy d rem.path loc.path ≠ [] := by
  obtain ⟨fam', d', loc', rem', he, pre, w, post, hp, hw, hm⟩ := every_input_staged cmd ins outs t r h _ hl
  cases he
  rw [if_neg hne] at hm
  exact ⟨pre, w, post, hp, hw, hm, shellCopy_ne_nil _ _ _⟩

/-- … and every output pair with different path strings is copied `local → remote` after it, with
or without `tempdir`. -/
theorem distinct_paths_unstaged_out (cmd : Str) (ins outs : NV Leaf) (t : Option Str) (r : ScriptCall)
    (h : scriptCall cmd ins outs t = .ok r) (fam : Fam) (d : Bool) (loc rem : FRef)
    (hl : Leaf.staging fam d loc rem ∈ iterNV outs) (hne : loc.path ≠ rem.path) :
    ∃ pre w post, r.parts = pre ++ w :: post ∧ wrap (prepare cmd) "EOF".toList = some w ∧
      shellCopy d loc.path rem.path ∈ post ∧ shellCopy d loc.path rem.path ≠ [] := by
  obtain ⟨pre, w, post, hp, hw, hm⟩ := every_output_unstaged cmd ins outs t r h fam d loc rem hl
  rw [if_neg hne] at hm
  exact ⟨pre, w, post, hp, hw, hm, shellCopy_ne_nil _ _ _⟩

/-- non-vacuity: `File("/cwd/result.txt").stage("result.txt")` under `tempdir` is copied back -/
example : ∃ r, scriptCall "echo hi > result.txt".toList (.node .list [])
    (.leaf (.staging .plain false ⟨.plain, false, "result.txt".toList⟩ ⟨.plain, false, "/cwd/result.txt".toList⟩))
    (some "/tmp/t.tempdir".toList) = .ok r ∧ r.parts.head? = some "cd /tmp/t.tempdir".toList ∧
      r.parts.getLast? = some "cp result.txt /cwd/result.txt".toList := by
  refine (scriptCall_of_stages rfl).imp fun r h => ⟨h.1, ?_⟩
  obtain ⟨w, hp⟩ := h.2
  rw [hp]
  repeat rw [toList_lit rfl]
  exact ⟨rfl, rfl⟩

/-- `script_task` does not run `full_command` as is: `get_task_command` applies `prepare_command`
(dedent, strip, default shell) to it once more.  That second pass leaves the user's command inside
the here-document untouched: the temp file written by the script that is really executed still holds
exactly `prepare_command(cmd) + "\n"` — for every command text and every nested input/output
structure whose staging paths (and temp dir) contain no newline. -/
theorem second_prepare_keeps_command (cmd : Str) (ins outs : NV Leaf) (t : Option Str) (r : ScriptCall)
    (h : scriptCall cmd ins outs t = .ok r)
    (hin : ∀ l ∈ iterNV ins, leafOk l) (hout : ∀ l ∈ iterNV outs, leafOk l) (ht : ∀ d, t = some d → '\n' ∉ d) :
    tempFileOf (executedScript r.full) = some (prepare cmd ++ ['\n']) := by
  obtain ⟨stages, w, hs, hw, hp, hf, _, _⟩ := scriptCall_ok h
  obtain ⟨k, hk, hn⟩ := wrap_spec (prepare cmd) "EOF".toList
  obtain rfl : wrapWith (prepare cmd) (eofCand "EOF".toList k) = w := Option.some.inj (hk.symm.trans hw)
  have h2 := mapExcept_ok renderStage _ _ hs
  -- `hout` is not needed: what is unstaged comes after the terminator line, where nothing matters
  have _ := hout
  unfold executedScript
  rw [hf, hp, List.append_assoc, List.singleton_append]
  apply fullCommand_keeps_heredoc _ _ _ _ (prepare_lines cmd) hn (eofCand_word ⟨by decide, by decide⟩ k)
  intro p hp'
  rcases List.mem_append.1 hp' with e | e
  · exact cdPart_harmless t ht p e
  · obtain ⟨l, hl, hr⟩ := h2.2 p e
    exact renderStage_harmless l (hin l hl) p hr

set_option maxRecDepth 100000 in
/-- non-vacuity: the concrete script that is executed for one staged input and one staged output -/
example : ∃ r, scriptCall "  cat in.local > out.local\n  EOF\n".toList
    (.node .list [.leaf (.staging .plain false ⟨.plain, false, "in.local".toList⟩ ⟨.plain, false, "in.remote".toList⟩)])
    (.leaf (.staging .plain false ⟨.plain, false, "out.local".toList⟩ ⟨.plain, false, "out.remote".toList⟩))
    none = .ok r ∧
    tempFileOf (executedScript r.full) =
      some "#!/usr/bin/env bash\nset -exo pipefail\ncat in.local > out.local\nEOF\n".toList := by
  repeat rw [toList_lit rfl]
  refine (scriptCall_of_stages rfl).imp fun r h => ⟨h.1, ?_⟩
  rw [second_prepare_keeps_command _ _ _ _ _ h.1 (by simp [iterNV, iterNVs, leafOk])
    (by simp [iterNV, leafOk]) (by simp)]
  unfold prepare defaultShell
  rw [toList_lit rfl]
  decide +kernel

end RedunModel.C29
