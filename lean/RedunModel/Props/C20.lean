/-
C20 — Recorded call graphs are a consistent Merkle record of the run.

Property theorems; the model is `RedunModel.Model.Merkle` (symbolic hashes: a call hash is its
pre-image), helper lemmas and the invariants `Merkle`, `DbMerkle`, `FK` live in `RedunModel.Lemmas.Merkle`.

Reading guide.  `JT` is the job tree the scheduler built (a slot of `child_jobs` is a job of this parent
or a reference to a CSE twin that belongs elsewhere); `callHash` is `job.call_hash`; `Ev`/`run` replay the
database writes of the scheduler in the order they happened (`events` is the canonical fold over the tree,
every theorem about `run` holds for *all* event orders); `Db` holds the CallNode / CallEdge / Job /
Execution / Tag rows.
-/
import RedunModel.Lemmas.Merkle
namespace RedunModel.C20
open RedunModel.Merkle List

/-- `sorted(child_call_hashes)` does not depend on the order in which the children were collected
(= the order in which the child jobs were created, which depends on completion order). -/
theorem sortH_perm {l1 l2 : List H} (h : l1.Perm l2) : sortH l1 = sortH l2 := Merkle.sortH_perm h

/-- **Merkle equation, every job tree.** A job that ended and computed its own call hash (it
succeeded, or it failed while recording provenance) has the hash of its task hash, argument hash,
result hash and the sorted call hashes of the jobs its `child_jobs` showed, and those are given by the
same equation one level down (`views`/`callHash` recurse through the whole tree). -/
theorem callHash_merkle (i : Info) (l s : Bool) (kids : List JT)
    (h : i.fin = .ok ∨ (i.fin = .fail ∧ i.prov = true)) :
    callHash (.job i l s kids) = some (.call i.task i.args i.result (sortH (views kids))) ∧
    views kids = kids.flatMap (fun k => if k.visible then (callHash k).toList else []) := by
  refine ⟨?_, views_eq_flatMap kids⟩
  rw [callHash_job]; unfold finHash
  rcases h with h | ⟨h, hp⟩
  · rw [h]; rfl
  · rw [h, if_pos hp]; rfl

/-- The id of a job does not depend on the order of its children. -/
theorem callHash_perm (i : Info) (l s : Bool) {k1 k2 : List JT} (h : k1.Perm k2) :
    callHash (.job i l s k1) = callHash (.job i l s k2) := by
  rw [callHash_job, callHash_job]; exact finHash_perm i (views_perm h)

/-- **Database invariant, every history.** Starting from the empty database, after any sequence of
job starts / job ends (any trees, any interleaving, any number of executions): every CallNode id is
the pre-image of the row's own fields and a child list; every CallEdge leaving it sits at a position
of that list and points to a recorded node; edges start at recorded nodes; ids are unique. -/
theorem merkle_run (evs : List Ev) : Merkle (run {} evs) := Merkle.merkle_run merkle_empty evs

theorem computed_of {f : Fin} (hf : f = .ok ∨ f = .fail) : f.computed = true := by
  rcases hf with h | h <;> rw [h] <;> rfl

/-- Every job that ended with provenance has a CallNode carrying its hash and its task / argument /
result hashes (also when the node had been recorded before by an equal call). -/
theorem finish_records_node {db : Db} (m : Merkle db) (e : Nat) (p : Option Nat) (i : Info) (l s : Bool)
    (kids : List JT) (hp : i.prov = true) (hc : i.fin = .ok ∨ i.fin = .fail) :
    ∃ r ∈ (finishJob db e p (.job i l s kids)).nodes,
      some r.id = callHash (.job i l s kids) ∧ r.task = i.task ∧ r.args = i.args ∧ r.result = i.result :=
  Merkle.finish_records_node m e p i l s kids hp (computed_of hc)

/-- **Edges mirror the job tree.** When a job is the first to record its node, the CallEdge rows
leaving that node are exactly: one per slot `n` of its child list whose hash `c` is a recorded node,
as `(parent, c, n)`; all other edges are untouched. -/
theorem fresh_edges_mirror {db : Db} (e : Nat) (p : Option Nat) (i : Info) (l s : Bool)
    (kids : List JT) (hp : i.prov = true) (hc : i.fin = .ok ∨ i.fin = .fail) (h : H)
    (hh : callHash (.job i l s kids) = some h) (hfresh : db.hasNode h = false) (x c : H) (n : Nat) :
    (x, c, n) ∈ (finishJob db e p (.job i l s kids)).edges ↔
      (x, c, n) ∈ db.edges ∨
        (x = h ∧ (views kids)[n]? = some c ∧ (finishJob db e p (.job i l s kids)).hasNode c = true) := by
  rw [callHash_job, finHash_computed hp (computed_of hc)] at hh
  injection hh with hh
  subst hh
  rw [(finishJob_graph ..).2, hasNode_congr (finishJob_graph ..).1, nodeDb_computed hp (computed_of hc)]
  exact mem_recordCallNode_edges hfresh

/-- … and no edge of the old database left that node (so the `↔` above describes all its edges). -/
theorem fresh_node_had_no_edges {db : Db} (m : Merkle db) (h c : H) (n : Nat) (hfresh : db.hasNode h = false) :
    (h, c, n) ∉ db.edges := by
  intro hm; have := m.closed _ _ _ hm; simp [hfresh] at this

mutual
/-- **Ids recomputable from the rows alone (induction over trees).** If every job of a tree records
provenance, ended computing its own call hash (no cache hit, no collapse onto a twin) and is listed and seen by
its parent (`AllProv`), then after the canonical fold over the tree — from any database
that already has the property — every CallNode id equals the hash of the row's own fields and of the
children listed by its CallEdge rows, and the root's node is recorded. -/
theorem dbMerkle_run_tree (t : JT) (db : Db) (e : Nat) (p : Option Nat) (m : Merkle db) (d : DbMerkle db)
    (hall : AllProv t = true) :
    DbMerkle (run db (events e p t)) ∧ ∃ h, callHash t = some h ∧ (run db (events e p t)).hasNode h = true :=
  match t, hall with
  | .ref _, hall => by simp [AllProv] at hall
  | .job i l s kids, hall => by
    simp only [AllProv, Bool.and_eq_true] at hall
    obtain ⟨⟨⟨⟨hp, hc⟩, -⟩, -⟩, hk⟩ := hall
    have hst := startJob_graph db e p (.job i l s kids)
    have m1 := merkle_congr hst.1 hst.2 m
    obtain ⟨d2, hrec⟩ := dbMerkle_list kids _ e (some i.jid) m1 (dbMerkle_congr hst.1 hst.2 d) hk
    have hrun : run db (events e p (.job i l s kids)) =
        finishJob (run (startJob db e p (.job i l s kids)) (eventsL e (some i.jid) kids)) e p (.job i l s kids) := by
      simp only [events, run, foldl_cons, foldl_append, foldl_nil, step]
    rw [hrun]
    refine ⟨dbMerkle_finishJob (Merkle.merkle_run m1 _) d2 e p i l s kids hrec, _,
      (callHash_job ..).trans (finHash_computed hp hc), ?_⟩
    rw [hasNode_congr (finishJob_graph ..).1, nodeDb_computed hp hc]
    exact recordCallNode_hasNode_self ..
theorem dbMerkle_list : ∀ (ks : List JT) (db : Db) (e : Nat) (p : Option Nat), Merkle db → DbMerkle db → AllProvL ks = true →
    DbMerkle (run db (eventsL e p ks)) ∧ ∀ c ∈ views ks, (run db (eventsL e p ks)).hasNode c = true
  | [], db, e, p, _, d, _ => ⟨d, nofun⟩
  | k :: ks, db, e, p, m, d, hall => by
    simp only [AllProvL, Bool.and_eq_true] at hall
    obtain ⟨d1, h, hh, hrec1⟩ := dbMerkle_run_tree k db e p m d hall.1
    obtain ⟨d2, hrec2⟩ := dbMerkle_list ks _ e p (Merkle.merkle_run m (events e p k)) d1 hall.2
    simp only [eventsL, run_append]
    refine ⟨d2, fun c hc => ?_⟩
    rcases mem_append.1 hc with hc | hc
    · -- the head's own hash, recorded by its events and still there after those of the tail
      have : c = h := by
        split at hc
        · simpa [hh] using hc
        · cases hc
      exact this ▸ hasNode_run hrec1 _
    · exact hrec2 c hc
end

theorem ended_of {f : Fin} (hf : f = .ok ∨ f = .fail ∨ ∃ h, f = .hit h) : f.ended = true := by
  rcases hf with h | h | ⟨_, h⟩ <;> rw [h] <;> rfl

/-- **Job rows.** The end of a job that records provenance leaves a Job row with the job's id, the
call hash it ended with (for a collapsed or cache-served job — also one whose *error* was served by CSE —
the hash handed over: it shares the twin's CallNode), its cached flag;
a row written at the start keeps parent, execution and task. -/
theorem job_row_after_finish (db : Db) (e : Nat) (p : Option Nat) (i : Info) (l s : Bool) (kids : List JT)
    (hp : i.prov = true) (hf : i.fin = .ok ∨ i.fin = .fail ∨ ∃ h, i.fin = .hit h) :
    ∃ r ∈ (finishJob db e p (.job i l s kids)).jobs,
      r.jid = i.jid ∧ r.call = callHash (.job i l s kids) ∧ r.cached = i.cached ∧ r.ended = true ∧
      (∀ r0 ∈ db.jobs, r0.jid = i.jid → ∃ r' ∈ (finishJob db e p (.job i l s kids)).jobs,
          r'.jid = i.jid ∧ r'.parent = r0.parent ∧ r'.exec = r0.exec ∧ r'.task = r0.task ∧
          r'.call = callHash (.job i l s kids)) := by
  obtain ⟨r, hr, h1, h2, h3, h4, h5, _⟩ :=
    jobEnd_row (recordJobTags (nodeDb db i kids) e i) e p i (callHash (.job i l s kids))
  rw [finishJob_job, hp, ended_of hf]
  exact ⟨r, hr, h1, h2, h3, h4, fun r0 hr0 => h5 r0 ((nodeDb_rest db i kids).1 ▸ hr0)⟩

/-- The start of a job that records provenance writes the Job row with the parent link of the tree. -/
theorem job_row_after_start (db : Db) (e : Nat) (p : Option Nat) (i : Info) (l s : Bool) (kids : List JT)
    (hp : i.prov = true) :
    ({ jid := i.jid, parent := p, exec := e, task := i.task, call := none, cached := false, ended := false } : JobRow)
      ∈ (startJob db e p (.job i l s kids)).jobs ∧
    (∀ r ∈ db.jobs, r ∈ (startJob db e p (.job i l s kids)).jobs) := by
  simp only [startJob, hp, jobStart, if_true, mem_append, mem_singleton, or_true, true_and]
  exact fun r hr => .inl hr

/-- The execution's root job: the start of a job without parent writes `Execution(id, job_id)`;
jobs with a parent never write an Execution row; jobs without provenance write nothing. -/
theorem exec_root (db : Db) (e : Nat) (p : Option Nat) (i : Info) (l s : Bool) (kids : List JT) :
    (startJob db e p (.job i l s kids)).execs =
      if i.prov = true ∧ p = none then db.execs ++ [(e, i.jid)] else db.execs := by
  simp only [startJob]
  cases hp : i.prov <;> cases p <;> simp [jobStart]

/-- **Tags.** When a job that records provenance ends, each tag it applied is attached to the entity
it was meant for: value tags to the value hash, job tags to this job, execution tags to this
execution, task tags to the task hash. -/
theorem tags_attached (db : Db) (e : Nat) (p : Option Nat) (i : Info) (l s : Bool) (kids : List JT)
    (hp : i.prov = true) (hf : i.fin = .ok ∨ i.fin = .fail ∨ ∃ h, i.fin = .hit h) :
    (∀ v ∈ i.vtags, (⟨.value v.1, v.2.1, v.2.2⟩ : Tag) ∈ (finishJob db e p (.job i l s kids)).tags) ∧
    (∀ v ∈ i.jtags, (⟨.job i.jid, v.1, v.2⟩ : Tag) ∈ (finishJob db e p (.job i l s kids)).tags) ∧
    (∀ v ∈ i.etags, (⟨.exec e, v.1, v.2⟩ : Tag) ∈ (finishJob db e p (.job i l s kids)).tags) ∧
    (∀ v ∈ i.ttags, (⟨.task i.task, v.1, v.2⟩ : Tag) ∈ (finishJob db e p (.job i l s kids)).tags) := by
  have key : ∀ t ∈ jobTags e i, t ∈ (finishJob db e p (.job i l s kids)).tags := fun t ht => by
    rw [finishJob_tags, hp, ended_of hf]
    exact mem_foldl_addTag.2 (.inr ht)
  simp only [jobTags, mem_append, mem_map] at key
  exact ⟨fun v hv => key _ (.inl (.inl (.inl ⟨v, hv, rfl⟩))), fun v hv => key _ (.inl (.inl (.inr ⟨v, hv, rfl⟩))),
    fun v hv => key _ (.inl (.inr ⟨v, hv, rfl⟩)), fun v hv => key _ (.inr ⟨v, hv, rfl⟩)⟩

/-- No other tag appears: a tag in the database after any event was there before or is one of the
tags of the job that just ended with provenance (jobs without provenance and unfinished jobs add none). -/
theorem tags_only_intended (db : Db) (ev : Ev) (t : Tag) (ht : t ∈ (step db ev).tags) :
    t ∈ db.tags ∨ ∃ e p i l s kids, ev = .finish e p (.job i l s kids) ∧ i.prov = true ∧ t ∈ jobTags e i := by
  cases ev with
  | start e p t' =>
    left
    cases t' with
    | ref _ => exact ht
    | job i l s kids =>
      simp only [step, startJob] at ht
      cases hp : i.prov <;> simpa [hp] using ht
  | finish e p t' =>
    cases t' with
    | ref _ => exact .inl ht
    | job i l s kids =>
      rw [step, finishJob_tags] at ht
      split at ht
      · next hpe =>
        exact (mem_foldl_addTag.1 ht).imp_right fun h =>
          ⟨e, p, i, l, s, kids, rfl, (Bool.and_eq_true_iff.1 hpe).1, h⟩
      · exact .inl ht

/-- Replays and duplicates: ending the same job a second time (an equal call recorded again, a
cached replay that recomputes the same hash) changes neither CallNode nor CallEdge rows. -/
theorem finish_idempotent_nodes (db : Db) (e : Nat) (p : Option Nat) (t : JT) :
    (finishJob (finishJob db e p t) e p t).nodes = (finishJob db e p t).nodes ∧
    (finishJob (finishJob db e p t) e p t).edges = (finishJob db e p t).edges := by
  cases t with
  | ref _ => exact ⟨rfl, rfl⟩
  | job i l s kids =>
    have h := finishJob_graph (finishJob db e p (.job i l s kids)) e p i l s kids
    -- the second `record_call_node` finds the node of the first
    suffices nodeDb (finishJob db e p (.job i l s kids)) i kids = finishJob db e p (.job i l s kids) by
      rwa [this] at h
    unfold nodeDb
    split
    · next hpc =>
      rw [Bool.and_eq_true] at hpc
      refine recordCallNode_old ?_
      rw [hasNode_congr (finishJob_graph ..).1, nodeDb_computed hpc.1 hpc.2]
      exact recordCallNode_hasNode_self ..
    · rfl

/-- `Job.call_hash` always references a recorded CallNode, provided hashes handed over by the cache or
by a CSE twin are hashes of recorded nodes (true of the code since jobs without provenance are no
longer collapse targets; before that fix a collapsed job could inherit an unrecorded hash and
`record_job_end` failed on the foreign key). -/
theorem job_call_hash_recorded {db : Db} (fk : FK db) (ev : Ev)
    (hhit : ∀ e p i l s kids h, ev = .finish e p (.job i l s kids) → i.fin = .hit h → db.hasNode h = true) :
    FK (step db ev) := by
  cases ev with
  | start e p t => exact fk_startJob fk e p t
  | finish e p t => exact fk_finishJob fk e p t (fun i l s kids h ht hf => hhit e p i l s kids h (by rw [ht]) hf)

/-- **Edges are durable with their node.** In every durable state of `record_call_node` (every point at
which the process can die or a failed attempt is rolled back), a CallNode that this call wrote is there
together with exactly its edges: one per slot of the child list whose hash is a recorded node. -/
theorem edges_durable_with_node {db : Db} (m : Merkle db) (t a r : Nat) (kids : List H)
    (hfresh : db.hasNode (hashCallNode t a r kids) = false) :
    ∀ d ∈ recordCallNodeDurable db t a r kids, d.hasNode (hashCallNode t a r kids) = true →
      ∀ c n, (hashCallNode t a r kids, c, n) ∈ d.edges ↔ (kids[n]? = some c ∧ d.hasNode c = true) := by
  intro d hd hn c n
  simp only [recordCallNodeDurable, mem_cons, mem_nil_iff, or_false, or_self] at hd
  rcases hd with rfl | rfl
  · simp [hfresh] at hn
  · rw [mem_recordCallNode_edges hfresh]
    exact ⟨fun h => (h.resolve_left (fresh_node_had_no_edges m _ c n hfresh)).2, fun h => .inr ⟨rfl, h⟩⟩

/-- … hence a second attempt from any durable state (db_retry after a transient error, or a re-run after a
process death — `record_call_node` skips a node that exists) ends with the same CallNode and CallEdge rows
as an uninterrupted call. -/
theorem retry_from_durable_same_graph (db : Db) (t a r : Nat) (kids : List H) :
    ∀ d ∈ recordCallNodeDurable db t a r kids,
      (recordCallNode d t a r kids).1.nodes = (recordCallNode db t a r kids).1.nodes ∧
      (recordCallNode d t a r kids).1.edges = (recordCallNode db t a r kids).1.edges := by
  intro d hd
  simp only [recordCallNodeDurable, mem_cons, mem_nil_iff, or_false, or_self] at hd
  rcases hd with rfl | rfl
  · exact ⟨rfl, rfl⟩
  · rw [recordCallNode_old (recordCallNode_hasNode_self db t a r kids)]
    exact ⟨rfl, rfl⟩

/-- Contrast (not the code): if the CallNode were committed before its edges are added, the middle durable
state has the node, and a second attempt from it adds no edge at all — whatever recorded children the id
contains (for instance a recorded `c` at slot `n`, which `edges_durable_with_node` requires an edge for). -/
theorem split_commit_loses_edges (db : Db) (t a r : Nat) (kids : List H)
    (hfresh : db.hasNode (hashCallNode t a r kids) = false) :
    ∃ d ∈ splitDurable db t a r kids, d.hasNode (hashCallNode t a r kids) = true ∧
      (recordCallNode d t a r kids).1.edges = db.edges := by
  refine ⟨{ db with nodes := db.nodes ++ [{ id := hashCallNode t a r kids, task := t, args := a, result := r }] }, ?_, ?_, ?_⟩
  · simp [splitDurable, hfresh]
  · simp [Db.hasNode, hasNodeL, H.eqb_iff]
  · rw [recordCallNode_old (by simp [Db.hasNode, hasNodeL, H.eqb_iff])]

/-- A content-addressed value table stays keyed by the hash of its values (`record_value`). -/
theorem values_keyed {V : Type} (vh : V → Nat) (st : List (Nat × V)) (v : V)
    (h : ∀ q ∈ st, q.1 = vh q.2) : ∀ q ∈ recordValue vh st v, q.1 = vh q.2 := by
  unfold recordValue
  split
  · exact h
  · intro q hq
    simp only [mem_append, mem_singleton] at hq
    rcases hq with hq | rfl
    · exact h q hq
    · rfl

private def leafI (jid args res : Nat) : Info :=
  { jid := jid, task := 7, args := args, result := res, prov := true, cached := false, fin := .ok,
    vtags := [], jtags := [], etags := [], ttags := [] }
private def tLeaf1 : JT := .job (leafI 1 10 20) true true []
private def tLeaf2 : JT := .job (leafI 2 11 21) true true []
private def tRoot : JT := .job { leafI 0 12 22 with jtags := [(1, 2)], vtags := [(22, 3, 4)] } true true [tLeaf1, tLeaf2]
private def tRootSwapped : JT := .job { leafI 0 12 22 with jtags := [(1, 2)], vtags := [(22, 3, 4)] } true true [tLeaf2, tLeaf1]

example : callHash tRoot = callHash tRootSwapped := callHash_perm _ _ _ (Perm.swap _ _ _)
example : AllProv tRoot = true := by decide
/-- the hypotheses of `dbMerkle_run_tree`, `finish_records_node`, `job_row_after_finish`, `tags_attached` hold of `tRoot` -/
example : DbMerkle (run {} (events 5 none tRoot)) :=
  (dbMerkle_run_tree tRoot {} 5 none merkle_empty (by intro r hr; simp at hr) (by decide)).1
example : ∃ r ∈ (finishJob {} 5 none tRoot).nodes, some r.id = callHash tRoot ∧ r.task = 7 :=
  let ⟨r, hr, h1, h2, _⟩ := finish_records_node merkle_empty 5 none _ true true [tLeaf1, tLeaf2] rfl (.inl rfl)
  ⟨r, hr, h1, h2⟩
example : (⟨.job 0, 1, 2⟩ : Tag) ∈ (finishJob {} 5 none tRoot).tags :=
  (tags_attached {} 5 none _ true true [tLeaf1, tLeaf2] rfl (.inl rfl)).2.1 (1, 2) (by simp)
/-- a child without provenance is in the parent's id (and gets no edge: `fresh_edges_mirror` asks for a recorded node) -/
example : callHash (.job (leafI 0 12 22) true true [.job { leafI 1 10 20 with prov := false } true true []])
    = some (.call 7 12 22 [.call 7 10 20 []]) := by
  simp [callHash, views, finHash, hashCallNode, sortH, JT.visible, leafI]

end RedunModel.C20
