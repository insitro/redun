/-
C22 — Interrupted or retried recording never corrupts later runs.

Model: `RedunModel.Model.Db` — every recording operation statement by statement with its commit points
(`Sess.log` = the durable states, i.e. all crash points), NO foreign-key enforcement in the model.
`Cons db` = referential closure (`fkOk`, the schema's foreign keys) ∧ every Task-typed Value has its Task row
(`taskComplete`: what `record_value`'s early exit relies on, and what keeps `record_job_start` — which switches
foreign keys off — from committing dangling rows).

Full strength for every variant with the repaired `record_value` (`atomicValue`; `record_call_node` may still
commit twice): `hist_cons` — after any history of recording operations and process deaths at any commit, the
database is consistent; `*_prefix_consistent` — every prefix of the commit sequence of each operation.
For the CURRENT code three closed witnesses: `refuted_task_gap`, `refuted_retry_loses_rows`, `refuted_retry_keyerror`.
The clause "a later execution returns what a fresh run returns" is not proved here: it rests on C03's
`history_shallow_sound` (cache soundness on `C03.Hist`: the same operations and crash points, under the scheduler's
discipline for `subtree_tasks` where `Hist` below has the one for foreign keys) and on the result oracle of the
harness.  "Retried operations lose no records" is false of the two-commit `record_call_node`:
`known_retry_loses_argument_rows`.
-/
import RedunModel.Lemmas.DbFk
namespace RedunModel.C22
open RedunModel.Db

/-- The `*_prefix_consistent` theorems (repaired `record_value`): started on a consistent database with nothing
pending, the operation ends with nothing pending, and its final state and every durable state it logged on the way
(every prefix of its commit sequence) are consistent. -/
theorem recordValue_prefix_consistent (v : Variant) (hv : v.atomicValue = true) (x : ValueSpec) (s : Sess)
    (hp : s.pend = []) (h : Cons s.db) : OpOK Cons s (recordValue v x s) :=
  (recordValue_cons v hv x s (view_of_pend_nil s hp ▸ h)).consOK ((recordValue_frame v x s).2 hp)

theorem setEvalCache_prefix_consistent (v : Variant) (hv : v.atomicValue = true) (e : EvalRow) (val : ValueSpec)
    (s : Sess) (hp : s.pend = []) (h : Cons s.db) (he : e.value = val.row.hash)
    (ht : s.db.tasks.contains e.task = true) : OpOK Cons s (setEvalCache v e val s) := by
  rw [← view_of_pend_nil s hp] at h ht
  exact (setEvalCache_cons v hv e val s h he ht).consOK ((setEvalCache_frame v e val s).2 hp)

theorem recordJobStart_prefix_consistent (v : Variant) (hv : v.atomicValue = true) (j : JobRow) (root : Bool)
    (s s' : Sess) (hp : s.pend = []) (h : Cons s.db)
    (hkind : ∀ r ∈ s.db.values, r.hash = j.task → r.kind = .task) (hcall : j.call = none)
    (hparent : ∀ p, j.parent = some p → hasJob s.db p = true) (hexec : root = false → hasExec s.db j.exec = true)
    (hok : recordJobStart v j root s = .ok s') : OpOK Cons s s' := by
  rw [← view_of_pend_nil s hp] at h hkind hparent hexec
  exact (recordJobStart_cons v hv j root s s' h hkind hcall hparent hexec hok).consOK
    ((recordJobStart_frame v j root s s' hok).2 hp)

theorem recordJobEnd_prefix_consistent (id : H) (call : Option H) (cached : Bool) (s : Sess) (hp : s.pend = [])
    (h : Cons s.db) (hc : ∀ c, call = some c → hasNode s.db c = true) :
    OpOK Cons s (recordJobEnd id call cached s) := by
  rw [← view_of_pend_nil s hp] at h hc
  exact (recordJobEnd_cons id call cached s h hc).consOK ((recordJobEnd_frame id call cached s).2 hp)

theorem recordCallNode_prefix_consistent (v : Variant) (hv1 : v.atomicValue = true)
    (a : CallArgs) (s : Sess) (hp : s.pend = []) (h : Cons s.db)
    (htask : s.db.tasks.contains a.node.task = true) (hval : hasValue s.db a.node.value = true)
    (hups : ∀ x ∈ a.args, ∀ u ∈ x.upstream, hasNode s.db u = true)
    (hsub : ∀ t ∈ a.subtree, s.db.tasks.contains t = true) : OpOK Cons s (recordCallNode v a s) :=
  recordCallNode_cons_any v hv1 a s hp h htask hval hups hsub

/-- the durable states an operation can leave behind: final state or any crash point -/
def after (s' : Sess) (d : Db) : Prop := d = s'.db ∨ d ∈ s'.log.map (·.db)

/-- Histories of one repository under the scheduler's calling discipline (what each operation may assume about
what was recorded before it), with a process death possible at every commit of every operation.  `callNode` assumes
more than the scheduler provides: every task of `subtree_tasks` has its Task row already, so the branch of
`record_call_node` that records the ones still missing (children that ran without provenance) does nothing here. -/
inductive Hist (v : Variant) : Db → Prop
  | init : Hist v {}
  | value {db} (x : ValueSpec) (d : Db) : Hist v db → after (recordValue v x (.ofDb db)) d → Hist v d
  | evalCache {db} (e : EvalRow) (val : ValueSpec) (d : Db) : Hist v db → e.value = val.row.hash →
      db.tasks.contains e.task = true → after (setEvalCache v e val (.ofDb db)) d → Hist v d
  | jobStart {db} (j : JobRow) (root : Bool) (execs : List H) (s' : Sess) (d : Db) : Hist v db →
      (∀ r ∈ db.values, r.hash = j.task → r.kind = .task) → j.call = none →
      (∀ p, j.parent = some p → hasJob db p = true) → (root = false → hasExec db j.exec = true) →
      recordJobStart v j root { db := db, pendingExecs := execs } = .ok s' → after s' d → Hist v d
  | jobEnd {db} (id : H) (call : Option H) (cached : Bool) (d : Db) : Hist v db →
      (∀ c, call = some c → hasNode db c = true) → after (recordJobEnd id call cached (.ofDb db)) d → Hist v d
  | callNode {db} (a : CallArgs) (d : Db) : Hist v db →
      db.tasks.contains a.node.task = true → hasValue db a.node.value = true →
      (∀ x ∈ a.args, ∀ u ∈ x.upstream, hasNode db u = true) → (∀ t ∈ a.subtree, db.tasks.contains t = true) →
      after (recordCallNode v a (.ofDb db)) d → Hist v d

/-- **C22 (first clause), full strength for the repaired code**: whatever the history and wherever the process
died, the database is referentially closed and every Task value has its Task row. -/
theorem hist_cons (v : Variant) (hv1 : v.atomicValue = true) {db : Db}
    (h : Hist v db) : Cons db := by
  induction h with
  | init => exact ⟨by decide, by decide⟩
  | value x d _ hd ih => exact (recordValue_prefix_consistent v hv1 x (.ofDb _) rfl ih).durable rfl hd
  | evalCache e val d _ he ht hd ih =>
    exact (setEvalCache_prefix_consistent v hv1 e val (.ofDb _) rfl ih he ht).durable rfl hd
  | @jobStart db j root execs s' d _ hk hc hpar hex hok hd ih =>
    exact (recordJobStart_prefix_consistent v hv1 j root { db := db, pendingExecs := execs } s' rfl ih hk hc hpar hex
      hok).durable rfl hd
  | jobEnd id call cached d _ hc hd ih =>
    exact (recordJobEnd_prefix_consistent id call cached (.ofDb _) rfl ih hc).durable rfl hd
  | callNode a d _ ht hval hups hsub hd ih =>
    exact (recordCallNode_prefix_consistent v hv1 a (.ofDb _) rfl ih ht hval hups hsub).durable rfl hd

theorem hist_cons_repaired {db : Db} (h : Hist Variant.repaired db) : fkOk db = true ∧ taskComplete db = true :=
  hist_cons Variant.repaired rfl h

/-- the tree with the proposed small fixes (`record_call_node` still commits twice) -/
theorem hist_cons_proposed {db : Db} (h : Hist Variant.proposed db) : fkOk db = true ∧ taskComplete db = true :=
  hist_cons Variant.proposed rfl h

/-- **Every recording operation ends with its commit**: started on a session with nothing pending, it returns a
session with nothing pending (any variant).  So the rows of an operation that has returned are durable. -/
theorem returned_op_leaves_nothing_pending (v : Variant) (s : Sess) (hp : s.pend = []) :
    (∀ x, (recordValue v x s).pend = []) ∧
    (∀ e val, (setEvalCache v e val s).pend = []) ∧
    (∀ j root s', recordJobStart v j root s = .ok s' → s'.pend = []) ∧
    (∀ id call cached, (recordJobEnd id call cached s).pend = []) ∧
    (∀ a, (recordCallNode v a s).pend = []) ∧
    (∀ tags, (recordTags true tags s).pend = []) ∧
    (∀ rs, (putRecords rs s).pend = []) :=
  ⟨fun x => (recordValue_frame v x s).2 hp,
   fun e val => (setEvalCache_frame v e val s).2 hp,
   fun j root s' h => (recordJobStart_frame v j root s s' h).2 hp,
   fun id call cached => (recordJobEnd_frame id call cached s).2 hp,
   fun a => (recordCallNode_shapes v a s hp).1,
   fun _ => pend_commit _,
   fun rs => putRecords_pend rs s hp⟩

/-- ... hence the `session.rollback()` of a LATER operation's `db_retry` cannot touch them: rolling back a session
with nothing pending changes nothing, and the state the retry starts from (`retryState` at its first commit) has
exactly the durable tables the operation started with. -/
theorem retry_rollback_keeps_returned_rows (s s' : Sess) (hp : s.pend = []) :
    s.rollback = s ∧ (retryState s s' 0).db = s.db := by
  constructor
  · cases s; simp_all [Sess.rollback]
  · rfl

/-- the seeded design (tags left pending for `record_job_end`'s commit): one transient failure of that commit
loses the tags of an operation that had already returned -/
theorem pending_tags_lost_on_retry :
    let s0 : Sess := .ofDb { jobs := [⟨1, 7, none, 2, none, false, false⟩] }
    let sp := recordTags false [⟨50, 1, 1, 60, 61, true⟩] s0          -- record_tags(commit=False) has returned
    (recordJobEnd 1 none false sp).db.tags.length = 1 ∧               -- no fault: the job end commits the tag too
    (recordJobEnd 1 none false (retryState sp (recordJobEnd 1 none false sp) 0)).db.tags.length = 0 ∧
    -- the real code (commit = true): the same fault loses nothing
    (recordJobEnd 1 none false (retryState (recordTags true [⟨50, 1, 1, 60, 61, true⟩] s0)
      (recordJobEnd 1 none false (recordTags true [⟨50, 1, 1, 60, 61, true⟩] s0)) 0)).db.tags.length = 1 := by
  decide

/-- **However many decorated calls an operation makes, none of them retries on its own** (fixed wrapper): inside an
outermost call the flag is set and every nested call leaves it set. -/
theorem only_outermost_retries (n : Nat) : nestedRetriers retryWrapper n true = List.replicate n false := by
  induction n with
  | zero => rfl
  | succ k ih => simp [nestedRetriers, retryWrapper, ih, List.replicate_succ]

/-- ... and the outermost call itself does, and leaves the flag cleared for the next operation -/
theorem outermost_retries : retryWrapper false = (true, false) := rfl

/-- the seeded merged try/finally: the first nested call clears the flag, every later nested call acts as an
outermost retrier (its rollback then drops the caller's pending rows: `known_nested_retry_drops_pending`) -/
theorem merged_wrapper_later_nested_calls_retry (n : Nat) :
    nestedRetriers retryWrapperMerged (n + 2) true = false :: List.replicate (n + 1) true := by
  have h : ∀ k, nestedRetriers retryWrapperMerged k false = List.replicate k true := by
    intro k
    induction k with
    | zero => rfl
    | succ k ih => simp [nestedRetriers, retryWrapperMerged, ih, List.replicate_succ]
  simp [nestedRetriers, retryWrapperMerged, h, List.replicate_succ]

def okDb : Except Err Sess → Option Db
  | .ok s => some s.db
  | .error _ => none

def isKeyError : Except Err Sess → Bool
  | .error .keyError => true
  | .ok _ => false

/-- run `record_job_start`, let its `k`-th commit fail transiently, and run it again (`db_retry`) -/
def jobStartRetried (v : Variant) (j : JobRow) (root : Bool) (s : Sess) (k : Nat) : Except Err Sess :=
  match recordJobStart v j root s with
  | .ok s' => recordJobStart v j root (retryState s s' k)
  | .error e => .error e

/-- the Value row of a task, then (second commit) its Task row -/
def taskVal : ValueSpec := ⟨⟨7, .task⟩, []⟩

/-- `record_value` (current) commits the Value row of a Task before its Task row.  A process death in between
leaves a Task value without Task row; the next run's `record_value` returns early, and `record_job_start`
(foreign keys switched off) commits a Job row whose `task_hash` dangles. -/
theorem refuted_task_gap :
    newCommits (.ofDb {}) (recordValue .current taskVal (.ofDb {})) = 2 ∧
    taskComplete (crashDb (.ofDb {}) (recordValue .current taskVal (.ofDb {})) 1) = false ∧
    (okDb (recordJobStart .current ⟨1, 7, none, 2, none, false, false⟩ true
        { db := crashDb (.ofDb {}) (recordValue .current taskVal (.ofDb {})) 1, pendingExecs := [2] })).map fkOk
      = some false := by
  refine ⟨by decide, by decide, by decide⟩

/-- the same crash point on the repaired code is harmless -/
example : ∀ snap ∈ (recordValue .repaired taskVal (.ofDb {})).log, taskComplete snap.db = true := by decide

/-- the scenario of C03's witnesses: task hashes 10 (parent) and 11 (child, recorded as call node 20), values 1
(argument) and 100 (result); `callA` records the parent's call node 21 with child 20 -/
def dbA : Db :=
  { values := [⟨10, .task⟩, ⟨11, .task⟩, ⟨1, .plain⟩, ⟨100, .plain⟩], tasks := [10, 11],
    nodes := [⟨20, 11, 1, 100, 0⟩], subtree := [⟨20, 11⟩] }

def callA : CallArgs := ⟨⟨21, 10, 1, 100, 1⟩, [20], [⟨0, ⟨⟨1, .plain⟩, []⟩, []⟩], [10, 11]⟩

/-- a single transient failure of the last commit of `record_call_node` (current): `db_retry` re-runs the
operation, which returns early; the CallSubtreeTask rows of the uninterrupted run are lost for good. -/
theorem refuted_retry_loses_rows :
    (recordCallNode .current callA (.ofDb dbA)).db.subtree.length = 3 ∧
    (recordCallNode .current callA (retryState (.ofDb dbA) (recordCallNode .current callA (.ofDb dbA)) 1)).db.subtree.length = 1 := by
  decide

/-- repaired: the retried operation ends in the same state as the uninterrupted one -/
example : ∀ k < 3, (recordCallNode .repaired callA (retryState (.ofDb dbA) (recordCallNode .repaired callA (.ofDb dbA)) k)).db
    = (recordCallNode .repaired callA (.ofDb dbA)).db := by decide

/-- `record_job_start` (current) pops the pending Execution before its commit: a transient failure of that commit
makes the retry raise KeyError (the run fails although the failure was transient). -/
theorem refuted_retry_keyerror :
    isKeyError (jobStartRetried .current ⟨1, 7, none, 2, none, false, false⟩ true { db := {}, pendingExecs := [2] } 2)
      = true := by
  decide

example : ∀ k < 2,
    okDb (jobStartRetried .repaired ⟨1, 7, none, 2, none, false, false⟩ true { db := {}, pendingExecs := [2] } k)
      = okDb (recordJobStart .repaired ⟨1, 7, none, 2, none, false, false⟩ true { db := {}, pendingExecs := [2] }) := by
  decide

/-- value 2 is new, value 1 is recorded: the nested `record_value(2)` commits the CallNode and its edge (no
Argument yet); `_record_args` then commits both Arguments; the last commit carries the subtree rows -/
def callA2 : CallArgs :=
  ⟨⟨21, 10, 1, 100, 1⟩, [20], [⟨0, ⟨⟨2, .plain⟩, []⟩, []⟩, ⟨1, ⟨⟨1, .plain⟩, []⟩, []⟩], [10, 11]⟩

/-- KNOWN (C22-retry-loses-records): one transient failure of the second commit; the retry finds the CallNode,
records the missing subtree rows (`healSubtree`) and returns: the Argument rows of the undisturbed run are lost. -/
theorem known_retry_loses_argument_rows :
    newCommits (.ofDb dbA) (recordCallNode .proposed callA2 (.ofDb dbA)) = 3 ∧
    (recordCallNode .proposed callA2 (.ofDb dbA)).db.args.length = 2 ∧
    (recordCallNode .proposed callA2 (retryState (.ofDb dbA) (recordCallNode .proposed callA2 (.ofDb dbA)) 1)).db.args.length = 0 ∧
    (recordCallNode .proposed callA2 (retryState (.ofDb dbA) (recordCallNode .proposed callA2 (.ofDb dbA)) 1)).db.subtree.length = 3 := by
  decide

/-- ... and still every durable state of that history is referentially closed (what `hist_cons` says of it; here by
evaluation) -/
example : ∀ snap ∈ (recordCallNode .proposed callA2 (.ofDb dbA)).log, fkOk snap.db = true := by decide

/-- C22-retry-integrityerror (repaired in /repo: only the outermost `db_retry` retries, `only_outermost_retries`):
what a nested `db_retry` of `record_value` that retries on its own does to its caller: the rollback drops the pending
CallNode, the caller goes on adding the Argument, and the next flush has a dangling reference (sqlite raises
IntegrityError there; nothing is committed). -/
theorem known_nested_retry_drops_pending :
    let s1 := (Sess.ofDb dbA).add (.node callA2.node)        -- record_call_node: CallNode pending
    let s2 := s1.rollback                                    -- record_value's db_retry after the injected error
    let s3 := (recordValue .proposed ⟨⟨2, .plain⟩, []⟩ s2).add (.arg ⟨21, 0, 2⟩)   -- retry succeeds, caller continues
    fkOk s3.view = false ∧ fkOk s3.db = true := by
  decide

end RedunModel.C22
