/-
C07 - results and recorded call graph do not depend on timing.

Model: `RedunModel/Model/Timing.lean`.  A call hash is the pre-image `[CallNode, task, args, result, sorted kids]`;
`sorted` sorts by the hex digests, an order the model does not know: everything is stated for **every** total order
`le` (`structuralOrder` shows there is one, the driver sorts with it).

Full strength for programs without handles and without `fork_thread`:
* `sorted_children_perm_invariant`  the call hash does not depend on the order in which the children are listed;
* `value_and_graph_independent`     two evaluations of the same expression that list the children of every job in
                                    arbitrary (different) orders - i.e. under any two completion orders and limit
                                    configurations - end with the same value, the same child call hashes and the same
                                    recorded CallNode / Argument / CallEdge rows (up to order);
* `root_call_independent`           ... hence the same root call hash; `agrees_with_canonical`: every admissible run
                                    agrees with the depth-first run the driver prints (`canonical_is_admissible`).
Handles (fork key = counter of the entries of sibling jobs into `_exec_job_main_thread`); the three `forkKey_*`
theorems are full strength, the `refuted_*` ones closed or universal counterexamples:
* `forkKey_reentry_invariant`       after the committed repair the keys depend only on the siblings' FIRST entries:
                                    re-entries after waiting for a resource limit change nothing;
* `forkKey_linear_independent`      handles that are not shared by siblings (each entering once) get the same keys under
                                    every entry order;
  `forkKey_prekeyed`                a handle forked explicitly (`h.fork("k")`) keeps its key whatever the counter;
* `refuted_handles_order`           closed witness, current code: two siblings sharing a handle get swapped keys when
                                    they reach execution in the other order -> different argument hashes (known finding);
* `refuted_handles_reentry`         closed witness on the model of the code as found (`recount = true`), repaired;
* `refuted_fork_thread`             for every job tree: a `fork_thread` child that has not ended when its parent
                                    resolves changes the parent's call hash (known finding).
-/
import RedunModel.Lemmas.Timing
import RedunModel.Lemmas.TimingOrder
namespace RedunModel.C07
open RedunModel.Timing

/-- there is a total order on call hashes (the theorems below are not vacuous) -/
theorem structuralOrder : TotalOrder H.le := totalOrder_of_lawful lawful_cmpH

/-- `hash_call_node` sorts the child call hashes: listing the children in another order gives the same hash -/
theorem sorted_children_perm_invariant {le : H → H → Bool} (hle : TotalOrder le) {t : Nat} {a : List HV} {r : HV}
    {k1 k2 : List H} (h : k1.Perm k2) : hashCallNode le t a r k1 = hashCallNode le t a r k2 :=
  hashCallNode_perm hle h

/-- ... and only then (the pre-image determines task, arguments, result and the multiset of children) -/
theorem callHash_injective {le : H → H → Bool} {t t' : Nat} {a a' : List HV} {r r' : HV} {k k' : List H}
    (h : hashCallNode le t a r k = hashCallNode le t' a' r' k') : t = t' ∧ a = a' ∧ r = r' ∧ k.Perm k' :=
  hashCallNode_inj h

/-- **C07 for handle-free, fork_thread-free programs.**  `Ev P e v ks` allows the children of every job to be listed in
any order whatsoever (any completion order, any limit configuration).  Any two such runs agree on the value, on the
call hashes of the children and on all recorded rows. -/
theorem value_and_graph_independent {le : H → H → Bool} (hle : TotalOrder le) {P : Prog} {e : Expr} {v v' : HV}
    {ks ks' : List JT} (h : Ev P e v ks) (h' : Ev P e v' ks') :
    v = v' ∧ (kidHashes le ks).Perm (kidHashes le ks') ∧ (rowsL le ks).Perm (rowsL le ks') :=
  ev_det hle h h'

/-- the root job of an execution: same call hash, same rows -/
theorem root_call_independent {le : H → H → Bool} (hle : TotalOrder le) {P : Prog} {n : Nat} {a v v' : HV}
    {k k' : JT} (h : Ev P (.call n (.lit a)) v [k]) (h' : Ev P (.call n (.lit a)) v' [k']) (hs : k.seen = true)
    (hs' : k'.seen = true) : v = v' ∧ callHash le k = callHash le k' ∧ (rows le k).Perm (rows le k') := by
  obtain ⟨hv, hk, hr⟩ := value_and_graph_independent hle h h'
  simp only [kidHashes, rowsL, hs, hs', if_true, List.append_nil, List.perm_singleton, List.cons.injEq, and_true] at hk hr
  exact ⟨hv, hk, hr⟩

/-- the depth-first run (what the driver prints) is one of the admissible runs -/
theorem canonical_is_admissible {P : Prog} (n : Nat) {e : Expr} {v : HV} {ks : List JT}
    (h : evalC P n e = some (v, ks)) : Ev P e v ks := by
  induction n generalizing e v ks with
  | zero => cases h
  | succ n ih =>
    cases e with
    | lit x => cases h; exact .lit _
    | add a b =>
      simp only [evalC] at h
      split at h
      · next ha hb => cases h; exact .add (ih ha) (ih hb) (.refl _)
      · cases h
    | call t a =>
      simp only [evalC] at h
      split at h
      · next ha =>
        split at h
        · next hb => cases h; exact .call (ih ha) (ih hb) (.refl _)
        · cases h
      · cases h
    | cond c a b =>
      simp only [evalC] at h
      split at h
      · next vc kc hc =>
        split at h
        · next hb =>
          cases h
          cases ht : truthy vc <;> rw [ht] at hb
          · exact .condF (ih hc) ht (ih hb) (.refl _)
          · exact .condT (ih hc) ht (ih hb) (.refl _)
        · cases h
      · cases h

/-- every admissible run agrees with it -/
theorem agrees_with_canonical {le : H → H → Bool} (hle : TotalOrder le) {P : Prog} (n : Nat) {e : Expr} {v v' : HV}
    {ks ks' : List JT} (h : evalC P n e = some (v, ks)) (h' : Ev P e v' ks') :
    v' = v ∧ (kidHashes le ks').Perm (kidHashes le ks) ∧ (rowsL le ks').Perm (rowsL le ks) :=
  value_and_graph_independent hle h' (canonical_is_admissible n h)

/-- after the repair, the fork keys depend only on the order of the siblings' first entries -/
theorem forkKey_reentry_invariant (es : List Entry) (s : Nat) :
    callOrder false es s = callOrder false (firstEntries es) s := by
  unfold callOrder; rw [reentry_invariant]

/-- handles that no two siblings share, each sibling entering once (`Linear`): same fork keys under every entry order
(with or without the repair; after it re-entries do not count, `forkKey_reentry_invariant`) -/
theorem forkKey_linear_independent (recount : Bool) {es es' : List Entry} (hp : es.Perm es') (hl : Linear es) (s : Nat) :
    callOrder recount es s = callOrder recount es' s := by
  rw [callOrder_linear recount es hl, callOrder_linear recount es' (hl.perm hp)]
  simp only [hp.mem_iff]

theorem forkKey_prekeyed {h : HV} (hk : h.key ≠ 0) (n m : Nat) : forkArg h n = forkArg h m := by
  simp [forkArg, hk]

/-- what the driver computes for a handle workflow from the observed order of entries is `enterAll` (the function
the theorems above are about) on the entries of exactly those jobs, in that order -/
theorem driver_replay_is_enterAll (recount : Bool) (lanes : List Lane) (js : List Nat) :
    (replay recount lanes js {} []).1 = enterAll recount (replayEntries recount lanes js {}) ∧
    (replayEntries recount lanes js {}).map (·.sib) = js := by
  constructor
  · rw [replay_eq]; rfl
  · generalize ({} : Forks) = f
    induction js generalizing f with
    | nil => rfl
    | cons j r ih => simp [replayEntries, ih]

/-- the handle `H("db")` created in the parent -/
def h0 : HV := .hinit 1 0

/-- **refuted (current code, DESIGN F5 ii)**: `[use(h, slow(1)), use(h, slow(2))]` - sibling 0 enters first in one
schedule, second in the other: it is handed fork `1` resp. `2` of the handle, so the argument hash pre-images (and
with them eval hash, call hash and everything downstream) differ.  Holds with and without the re-entry repair. -/
theorem refuted_handles_order (recount : Bool) :
    callOrder recount [⟨0, h0⟩, ⟨1, h0⟩] 0 = some 1 ∧ callOrder recount [⟨1, h0⟩, ⟨0, h0⟩] 0 = some 2 ∧
    forkArg h0 1 ≠ forkArg h0 2 := by
  cases recount <;> decide +kernel

/-- **refuted on the code as found (DESIGN F5 i; repaired)**: three siblings, limit 1: siblings 1 and 2 wait and
re-enter - they are handed forks 4 and 5 instead of 2 and 3. -/
theorem refuted_handles_reentry :
    (callOrder true [⟨0, h0⟩, ⟨1, h0⟩, ⟨2, h0⟩] 1, callOrder true [⟨0, h0⟩, ⟨1, h0⟩, ⟨2, h0⟩] 2) = (some 2, some 3) ∧
    (callOrder true [⟨0, h0⟩, ⟨1, h0⟩, ⟨2, h0⟩, ⟨1, h0⟩, ⟨2, h0⟩] 1,
     callOrder true [⟨0, h0⟩, ⟨1, h0⟩, ⟨2, h0⟩, ⟨1, h0⟩, ⟨2, h0⟩] 2) = (some 4, some 5) := by
  decide +kernel

/-- the same two entry sequences on the repaired code (an instance of `forkKey_reentry_invariant`) -/
example : callOrder false [⟨0, h0⟩, ⟨1, h0⟩, ⟨2, h0⟩, ⟨1, h0⟩, ⟨2, h0⟩] 2 = callOrder false [⟨0, h0⟩, ⟨1, h0⟩, ⟨2, h0⟩] 2 :=
  forkKey_reentry_invariant _ 2

/-- non-vacuity of `forkKey_linear_independent`: two siblings with different handles, both orders -/
example : Linear [⟨0, .hinit 1 0⟩, ⟨1, .hinit 2 0⟩] ∧ [Entry.mk 0 (.hinit 1 0), ⟨1, .hinit 2 0⟩].Perm [⟨1, .hinit 2 0⟩, ⟨0, .hinit 1 0⟩] := by
  refine ⟨?_, List.Perm.swap _ _ _⟩
  unfold Linear
  decide

/-- **refuted (current code, DESIGN F16)**: whatever the job tree, a child that is not yet finished when its parent
resolves (only possible for a `fork_thread` child) is missing from the parent's child call hashes, which changes the
parent's call hash. -/
theorem refuted_fork_thread (le : H → H → Bool) (t : Nat) (a ea : List HV) (r : HV) (s : Bool) (pre post : List JT) (k : JT) :
    callHash le (.node t a ea r s (pre ++ k.setSeen true :: post)) ≠
    callHash le (.node t a ea r s (pre ++ k.setSeen false :: post)) := by
  rw [callHash_node, callHash_node]
  intro h
  have := (hashCallNode_inj h).2.2.2.length_eq
  rw [kidHashes_length_unseen] at this
  omega

/-- t0(x) = cond(t1(x), t2(x), 0) + cond(t1(x+1), t2(x+1), 0); t1(x) = x; t2(x) = x + 10 -/
def exProg : Prog where
  body n x :=
    match n with
    | 0 => .add (.cond (.call 1 (.lit x)) (.call 2 (.lit x)) (.lit (.int 0)))
                (.cond (.call 1 (.lit (addV x (.int 1)))) (.call 2 (.lit (addV x (.int 1)))) (.lit (.int 0)))
    | 1 => .lit x
    | _ => .lit (addV x (.int 10))

example : (evalC exProg 10 (.call 0 (.lit (.int 1)))).map (·.1) = some (.int 23) := by decide +kernel

/-- two admissible runs of the same expression that list the two children in opposite orders ... -/
def n1 : JT := .node 1 [.int 1] [.int 1] (.int 1) true []
def n2 : JT := .node 2 [.int 1] [.int 1] (.int 11) true []
def e12 : Expr := .add (.call 1 (.lit (.int 1))) (.call 2 (.lit (.int 1)))

theorem evn1 : Ev exProg (.call 1 (.lit (.int 1))) (.int 1) [n1] :=
  .call (ka := []) (kids := []) (.lit _) (show Ev exProg (exProg.body 1 (.int 1)) (.int 1) [] from .lit _) (.refl _)
theorem evn2 : Ev exProg (.call 2 (.lit (.int 1))) (.int 11) [n2] :=
  .call (ka := []) (kids := []) (.lit _) (show Ev exProg (exProg.body 2 (.int 1)) (.int 11) [] from .lit _) (.refl _)
theorem ev12 : Ev exProg e12 (.int 12) [n1, n2] := .add evn1 evn2 (.refl _)
theorem ev21 : Ev exProg e12 (.int 12) [n2, n1] := .add evn1 evn2 (List.Perm.swap _ _ _)

/-- ... to which `value_and_graph_independent` applies (its hypotheses are satisfiable with different listings) -/
example : (kidHashes H.le [n1, n2]).Perm (kidHashes H.le [n2, n1]) :=
  (value_and_graph_independent C07.structuralOrder ev12 ev21).2.1

end RedunModel.C07
