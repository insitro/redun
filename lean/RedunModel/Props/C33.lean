/-
C33 — Status filters agree with displayed statuses.

Filter side: `CallGraphQuery._job_status_term`, the joins of `_join_values` / `_join_jobs`,
`filter_job_statuses`, `filter_execution_statuses` — REGENERATED from /repo into
`RedunModel.Generated.Status` on every run and evaluated with SQL three-valued logic
(`RedunModel.Model.StatusSql`, `RedunModel.Model.Status`).
Display side: `Job.calc_status` / `Job.status`, `Execution._job_status2exec_status` / `Execution.status`
(also regenerated). Recorder: `record_value`, `record_call_node`, `record_job_start`, `record_job_end`.
Proofs and the finite tables are in `RedunModel.Lemmas.Status`.
-/
import RedunModel.Lemmas.Status
namespace RedunModel.C33
open RedunModel.StatusSql RedunModel.Generated.Status RedunModel.Status

/-- Row level, one status: a job row the recorder can produce is returned by the filter for `s`
iff its displayed status is `s` (the finite table over all row shapes, `Status.table_row`, closed by evaluation). -/
theorem job_filter_iff_display (r : Row) (hr : RecInv r = true) (s : St) :
    jobMatches [s] r = some true ↔ display r = .ok s := Status.job_filter_iff_display r hr s

/-- Row level, any non-empty list of statuses (`--job-status A,B,...`). -/
theorem job_filter_multi (r : Row) (hr : RecInv r = true) (ss : List St) (hne : ss ≠ []) :
    jobMatches ss r = some (displayIn ss r) := Status.job_filter_multi r hr ss hne

/-- Executions, any non-empty list of execution statuses (RUNNING, FAILED, DONE; the DONE ⇒ {DONE, CACHED}
rewriting of `filter_execution_statuses` included). -/
theorem exec_filter_multi (r : Row) (hr : RecInv r = true) (ss : List St) (hne : ss ≠ [])
    (hdom : ∀ s ∈ ss, s ∈ execStatusDomain) :
    execMatches ss ⟨some r⟩ = some (execDisplayIn ss ⟨some r⟩) := Status.exec_filter_multi r hr ss hne hdom

/-- `RecInv` is an invariant of the recorder: after any sequence of `record_value` / `record_call_node` /
`record_job_start` / `record_job_end` (rejected writes included), every job row has a producible shape. -/
theorem recorder_rows_recinv (ops : List RecOp) (j : JobRec) (hj : j ∈ (runRec ops).jobs) :
    RecInv (rowOf (runRec ops) j) = true := wf_recInv _ (runRec_wf ops) j hj

/-- Database level (the property): after any recorder history, filtering jobs by a non-empty status list
returns exactly the jobs whose displayed status is in the list. -/
theorem query_jobs_eq_displayed (ops : List RecOp) (ss : List St) (hne : ss ≠ []) :
    queryJobs ss (runRec ops) = some (displayedJobs ss (runRec ops)) := Status.query_jobs_eq_displayed ops ss hne

/-- Database level, executions. -/
theorem query_execs_eq_displayed (ops : List RecOp) (ss : List St) (hne : ss ≠ [])
    (hdom : ∀ s ∈ ss, s ∈ execStatusDomain) :
    queryExecs ss (runRec ops) = some (displayedExecs ss (runRec ops)) :=
  Status.query_execs_eq_displayed ops ss hne hdom

/-- Regression witness (DESIGN §9 F11): the CSE-collapsed twin of a failing job (`cached = True`, result an
ErrorValue) is displayed FAILED and is returned by the FAILED filter only — not by CACHED. -/
theorem cached_failed_row_consistent :
    displayIn [.failed] ⟨false, true, .error⟩ = true ∧ jobMatches [.cached] ⟨false, true, .error⟩ = some false ∧
    jobMatches [.failed] ⟨false, true, .error⟩ = some true := by decide

/-! non-vacuity: a recorder history with a running, a done, a cached, a failed and a CSE-failed job -/
def exampleOps : List RecOp :=
  [.recordValue 1 false, .recordValue 2 true, .recordCallNode 10 1, .recordCallNode 20 2,
   .jobStart 100 (some 7) none, .jobStart 101 none none, .jobStart 102 none (some 10), .jobStart 103 none none, .jobStart 104 none (some 20),
   .jobEnd 101 false 10, .jobEnd 102 true 10, .jobEnd 103 false 20, .jobEnd 104 true 20]
example : queryJobs [.running] (runRec exampleOps) = some [100] := by decide +kernel
example : queryJobs [.done] (runRec exampleOps) = some [101] := by decide +kernel
example : queryJobs [.cached] (runRec exampleOps) = some [102] := by decide +kernel
example : queryJobs [.failed] (runRec exampleOps) = some [103, 104] := by decide +kernel
example : queryExecs [.running] (runRec exampleOps) = some [7] := by decide +kernel
example : RecInv ⟨false, true, .error⟩ = true := by decide

end RedunModel.C33
