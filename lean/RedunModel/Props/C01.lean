/-
C01 — Scheduler evaluation agrees with the graph-reduction semantics.

Model: `Model/EvalCore` (expression language, big-step relation `Eval`, evaluator `evalAll`/`evalFuel`).
All statements quantify over every task table `lib` (task bodies are arbitrary deterministic functions),
every expression and every amount of fuel.

Full strength for the modelled fragment: `evalAll_sound`, `evalFuel_sound`, `evalAll_complete`,
`evalAll_exact`, `evalFuel_unique`, `value_fixed`, `result_is_value`, `reevaluation_identity`, `never_unknown`.
NOT proved here (see LEVEL_NOTE of harness/props/C01.py): soundness of the event-loop machine for every
completion order — the machine is not part of this model; schedules are covered by the correspondence runs.
-/
import RedunModel.Lemmas.EvalCore
import RedunModel.Model.EvalLib
namespace RedunModel.C01
open RedunModel.EvalCore

theorem evalAll_sound (lib : Lib) (n : Nat) (c : Ctx) (e : Expr) (r : Out) (h : r ∈ evalAll lib n c e) (hk : r ≠ .unk) :
    Eval lib c e r :=
  EvalCore.evalAll_sound n c e r h hk

theorem evalFuel_sound (lib : Lib) (n : Nat) (c : Ctx) (e : Expr) (r : Out) (h : evalFuel lib n c e = some r) :
    Eval lib c e r :=
  EvalCore.evalFuel_sound h

theorem evalAll_complete (lib : Lib) (n : Nat) (c : Ctx) (e : Expr) (hn : Out.unk ∉ evalAll lib n c e) (r : Out)
    (h : Eval lib c e r) : r ∈ evalAll lib n c e :=
  EvalCore.evalAll_complete n c e r hn h

theorem evalAll_exact (lib : Lib) (n : Nat) (c : Ctx) (e : Expr) (hn : Out.unk ∉ evalAll lib n c e) (r : Out) :
    Eval lib c e r ↔ r ∈ evalAll lib n c e :=
  ⟨evalAll_complete lib n c e hn r, fun h => evalAll_sound lib n c e r h (fun hu => hn (hu ▸ h))⟩

theorem evalFuel_unique (lib : Lib) (n : Nat) (c : Ctx) (e : Expr) (r : Out) (h : evalFuel lib n c e = some r) (r' : Out)
    (h' : Eval lib c e r') : r' = r :=
  EvalCore.evalFuel_unique h r' h'

theorem value_fixed (lib : Lib) (c : Ctx) (v : Expr) (hv : isValue v = true) (r : Out) : Eval lib c v r ↔ r = .ok v :=
  value_iff v hv r

theorem result_is_value (lib : Lib) (c : Ctx) (e v : Expr) (h : Eval lib c e (.ok v)) : isValue v = true :=
  result_isValue h

/-- evaluating a result again (done_job after a CSE hit, the outer scheduler after `subrun`) changes nothing -/
theorem reevaluation_identity (lib : Lib) (c c' : Ctx) (e v : Expr) (h : Eval lib c e (.ok v)) (r : Out) :
    Eval lib c' v r ↔ r = .ok v :=
  value_fixed lib c' v (result_is_value lib c e v h) r

theorem never_unknown (lib : Lib) (c : Ctx) (e : Expr) : ¬ Eval lib c e .unk := fun h => h.ne_unk rfl

/-! Non-vacuity, on the library the correspondence runs use. -/
open RedunModel.EvalLib

/-- `map_(addx.partial(), [catch(raiser("V", 1), ValueError, rec_zero), 2])`: catch inside map_ inside a partial
task whose second parameter has the expression default `inc(1)`. -/
def ex1 : Expr :=
  .map_ (.partialv "ev.addx" [] [] [])
    (L [.catch (tcall "ev.raiser" [.str "V", .int 1]) [.cls "ValueError"] [.taskv "ev.rec_zero"], .int 2])

/-- two failing siblings: both errors are admissible, nothing else is -/
def ex2 : Expr := L [tcall "ev.raiser" [.str "V", .int 1], tcall "ev.raiser" [.str "K", .int 2]]

/-- ... whereas `catch_all` over the same two terms waits for all of them and re-raises the first error in TERM order:
exactly one outcome, whatever the completion order (`wait_promises`, not `Promise.all`) -/
def ex3 : Expr := .catchAll ex2 .none .none

/-- with a recover task and an error class that does not cover them: the first NON-MATCHING error in term order -/
def ex4 : Expr :=
  .catchAll (L [tcall "ev.raiser" [.str "K", .int 1], tcall "ev.raiser" [.str "V", .int 2], tcall "ev.raiser" [.str "L", .int 3]])
    (.cls "ValueError") (.taskv "ev.rec_count")

/-- context: `ctx_flow(5)` = `[ctx_offset(ctx_scale(5)), ctx_scale(6)]` under `{k: 3, j: 7}`; an `update_context(k=9)` on an inner
call overrides `k` for that call only -/
def exCtx : Ctx := fun k => if k = "k" then some (.int 3) else if k = "j" then some (.int 7) else none

/-- what the evaluator computes for them, in one kernel check (see `evalsTo`): the control forms, then the context;
the `example`s below are its projections -/
theorem evals :
    (evalsTo lib 40 Ctx.empty ex1 (.ok (L [.int 2, .int 4])) = true ∧
    (sameOuts? (evalAll lib 10 Ctx.empty ex2) [.err ⟨"ValueError", "V-1"⟩, .err ⟨"KeyError", "K-2"⟩]).isSome = true ∧
    (sameOuts? (evalAll lib 10 Ctx.empty ex3) [.err ⟨"ValueError", "V-1"⟩]).isSome = true ∧
    evalsTo lib 10 Ctx.empty ex4 (.err ⟨"KeyError", "K-1"⟩) = true ∧
    evalsTo lib 10 Ctx.empty (.cond [.bool true, .int 1, tcall "ev.raiser" [.str "V", .int 2]]) (.ok (.int 1)) = true) ∧
    evalsTo lib 20 exCtx (tcall "ev.ctx_flow" [.int 5]) (.ok (L [.int 22, .int 18])) = true ∧
    evalsTo lib 20 Ctx.empty (tcall "ev.ctx_flow" [.int 5]) (.ok (L [.int 5, .int 6])) = true ∧
    evalsTo lib 20 exCtx (tcall "ev.ctx_inner_override" [.int 1]) (.ok (L [.int 9, .int 3])) = true := by
  decide +kernel

example : evalFuel lib 40 Ctx.empty ex1 = some (.ok (L [.int 2, .int 4])) := evalFuel_eq evals.1.1
example : Eval lib Ctx.empty ex1 (.ok (L [.int 2, .int 4])) := evalFuel_sound lib 40 _ ex1 _ (evalFuel_eq evals.1.1)
example (r : Out) (h : Eval lib Ctx.empty ex1 r) : r = .ok (L [.int 2, .int 4]) :=
  evalFuel_unique lib 40 _ ex1 _ (evalFuel_eq evals.1.1) r h

example : evalAll lib 10 Ctx.empty ex2 = [.err ⟨"ValueError", "V-1"⟩, .err ⟨"KeyError", "K-2"⟩] := evalAll_eq evals.1.2.1
example (r : Out) : Eval lib Ctx.empty ex2 r ↔ r = .err ⟨"ValueError", "V-1"⟩ ∨ r = .err ⟨"KeyError", "K-2"⟩ := by
  have h := evalAll_eq evals.1.2.1
  rw [evalAll_exact lib 10 Ctx.empty ex2 (by simp [h]) r, h]
  simp

example : evalAll lib 10 Ctx.empty ex3 = [.err ⟨"ValueError", "V-1"⟩] := evalAll_eq evals.1.2.2.1
example (r : Out) : Eval lib Ctx.empty ex3 r ↔ r = .err ⟨"ValueError", "V-1"⟩ := by
  have h := evalAll_eq evals.1.2.2.1
  rw [evalAll_exact lib 10 Ctx.empty ex3 (by simp [h]) r, h]
  simp

example : evalFuel lib 10 Ctx.empty ex4 = some (.err ⟨"KeyError", "K-1"⟩) := evalFuel_eq evals.1.2.2.2.1

/-- an untaken `cond` branch is not demanded -/
example : evalFuel lib 10 Ctx.empty (.cond [.bool true, .int 1, tcall "ev.raiser" [.str "V", .int 2]]) = some (.ok (.int 1)) :=
  evalFuel_eq evals.1.2.2.2.2

example : evalFuel lib 20 exCtx (tcall "ev.ctx_flow" [.int 5]) = some (.ok (L [.int 22, .int 18])) :=
  evalFuel_eq evals.2.1
example : evalFuel lib 20 Ctx.empty (tcall "ev.ctx_flow" [.int 5]) = some (.ok (L [.int 5, .int 6])) :=
  evalFuel_eq evals.2.2.1
example : evalFuel lib 20 exCtx (tcall "ev.ctx_inner_override" [.int 1]) = some (.ok (L [.int 9, .int 3])) :=
  evalFuel_eq evals.2.2.2

end RedunModel.C01
