/-
C32 — The remote job protocol reproduces local execution.

Model: `RedunModel.Model.RemoteProto` (`jobName` = `get_batch_job_name`, `hashFromJobName` =
`get_hash_from_job_name`, `isArrayJobName`, `writeArrayFiles` = `write_array_job_scratch_files`,
`oneshotElement` = the array-index projections of `redun oneshot --array-job`, `resultPath`/`errorPath` =
where `parse_job_result`/`parse_job_error` read, `gather` = `gather_inflight_jobs`, `reunite` = the
reunite branch of `AWSBatchExecutor._submit`).  Pickling and the task body are not in the model.
-/
import RedunModel.Lemmas.RemoteProto
namespace RedunModel.C32
open RedunModel.RemoteProto
open RedunModel.Script (Str splitNL joinNL)

/-- The hash parsed back from a job name is the hash the name was built from — for every prefix
without a newline (prefixes containing `-`, or ending in `-array`, included), every non-empty hex
hash, array or not. -/
theorem name_roundtrip (p h : Str) (a : Bool) (hp : '\n' ∉ p) (hh : IsHex h) :
    hashFromJobName (jobName p h a) = some h := by
  have : stripArraySuffix (jobName p h a) = p ++ '-' :: h := by
    cases a with
    | true => rw [jobName_array, stripArraySuffix_array]
    | false => rw [jobName_single, stripArraySuffix, not_isSuffix_of_hex p h hh]; rfl
  rw [hashFromJobName, this]
  exact scanHash_prefix p h none hp hh.1 (hex_ne_dash hh)

/-- … and so is the array flag. -/
theorem array_flag_roundtrip (p h : Str) (a : Bool) (hh : IsHex h) : isArrayJobName (jobName p h a) = a := by
  cases a with
  | true => rw [jobName_array]; exact isSuffix_arraySuffix_append _
  | false => rw [jobName_single]; exact not_isSuffix_of_hex p h hh

example : hashFromJobName "redun-job-array-0a1b-array".toList = some "0a1b".toList := by
  rw [Script.toList_lit rfl, Script.toList_lit rfl]
  decide +kernel
example : hashFromJobName (jobName "my-array".toList "beef".toList false) = some "beef".toList :=
  name_roundtrip _ _ _ (by rw [Script.toList_lit rfl]; decide)
    ⟨by rw [Script.toList_lit rfl]; decide, by rw [Script.toList_lit rfl, Script.toList_lit rfl]; decide⟩

/-- Whatever the name, a parsed hash is a non-empty `-`-free segment of the name (after removing one
`-array` suffix) that directly follows a `-`. -/
theorem parsed_hash_is_a_segment (n h : Str) (hr : hashFromJobName n = some h) :
    IsSegment (stripArraySuffix n) h := by
  have := scanHash_some (stripArraySuffix n) none [] h (by intro x hx; cases hx) hr
  simpa using this

/-- Names of unrelated jobs (no `-` at all, e.g. a head-node job) have no hash. -/
theorem unrelated_none (n : Str) (h : '-' ∉ n) : hashFromJobName n = none := by
  unfold hashFromJobName
  apply scanHash_no_dash
  unfold stripArraySuffix
  split
  · intro hm; exact h (List.mem_of_mem_take hm)
  · exact h

example : hashFromJobName "liveratlas_automation_headnode".toList = none :=
  unrelated_none _ (by rw [Script.toList_lit rfl]; decide)

/-- Array element `i` reads the `i`-th job's arguments and writes its result / error exactly where the
scheduler side reads them for that job. -/
theorem array_projection {α β : Type} (scratch : Str) (jobs : List (RJob α β)) (i : Nat) (hi : i < jobs.length) :
    ∃ e, oneshotElement (writeArrayFiles scratch jobs) i = .ok e ∧
      e.args = jobs[i].args ∧ e.kwargs = jobs[i].kwargs ∧
      e.outputPath = resultPath scratch jobs[i] ∧ e.errorPath = errorPath scratch jobs[i] := by
  refine ⟨⟨jobs[i].args, jobs[i].kwargs, resultPath scratch jobs[i], errorPath scratch jobs[i]⟩, ?_, rfl, rfl, rfl, rfl⟩
  simp only [oneshotElement, writeArrayFiles, idx_map _ _ _ hi]
  rfl

/-- An index outside the array is an error (`IndexError`), never another job's files. -/
theorem array_projection_out_of_range {α β : Type} (scratch : Str) (jobs : List (RJob α β)) (i : Nat)
    (hi : jobs.length ≤ i) : oneshotElement (writeArrayFiles scratch jobs) i = .error .indexError := by
  simp only [oneshotElement, writeArrayFiles]
  rw [idx_oob _ _ (by simpa using hi)]
  rfl

/-- Scratch files of different eval hashes, and the output and error file of one job, never coincide. -/
theorem job_paths_injective (scratch h1 h2 n1 n2 : Str) (hh1 : IsHex h1) (hh2 : IsHex h2)
    (hn1 : n1 = fOutput ∨ n1 = fError) (hn2 : n2 = fOutput ∨ n2 = fError)
    (he : jobFile scratch h1 n1 = jobFile scratch h2 n2) : h1 = h2 ∧ n1 = n2 := by
  have f : ∀ n, n = fOutput ∨ n = fError → n.head? ≠ some '/' := by rintro n (rfl | rfl) <;> decide
  exact (scratchFile_inj scratchDirs.1 scratchDirs.1 (hex_seg hh1) (hex_seg hh2) (f n1 hn1) (f n2 hn2) he).2

/-- In an array whose jobs have pairwise different (hex) eval hashes, two different elements never
share an output or error path, and no output path is an error path. -/
theorem element_paths_distinct {α β : Type} (scratch : Str) (jobs : List (RJob α β))
    (hhex : ∀ j ∈ jobs, IsHex j.evalHash) (i k : Nat) (hi : i < jobs.length) (hk : k < jobs.length) :
    (resultPath scratch jobs[i] = resultPath scratch jobs[k] → jobs[i].evalHash = jobs[k].evalHash) ∧
    (errorPath scratch jobs[i] = errorPath scratch jobs[k] → jobs[i].evalHash = jobs[k].evalHash) ∧
    resultPath scratch jobs[i] ≠ errorPath scratch jobs[k] := by
  have h1 := hhex jobs[i] (List.getElem_mem hi)
  have h2 := hhex jobs[k] (List.getElem_mem hk)
  refine ⟨fun e => ?_, fun e => ?_, fun e => ?_⟩
  · exact (job_paths_injective scratch _ _ _ _ h1 h2 (Or.inl rfl) (Or.inl rfl) e).1
  · exact (job_paths_injective scratch _ _ _ _ h1 h2 (Or.inr rfl) (Or.inr rfl) e).1
  · have := (job_paths_injective scratch _ _ _ _ h1 h2 (Or.inl rfl) (Or.inr rfl) e).2
    revert this; decide

/-- The eval-hash file written for an array reads back as the jobs' eval hashes, in order. -/
theorem eval_file_roundtrip {α β : Type} (scratch : Str) (jobs : List (RJob α β)) (hne : jobs ≠ [])
    (hhex : ∀ j ∈ jobs, IsHex j.evalHash) :
    evalLines (writeArrayFiles scratch jobs).evalText = jobs.map (·.evalHash) := by
  have hl : ∀ l ∈ jobs.map (·.evalHash), '\n' ∉ l := by
    intro l hl
    obtain ⟨j, hj, rfl⟩ := List.mem_map.1 hl
    exact hex_ne_nl (hhex j hj)
  have hsplit := Script.splitNL_joinNL (jobs.map (·.evalHash)) (by simpa using hne) hl
  unfold evalLines writeArrayFiles
  simp only
  split
  · rename_i hnil
    have : [] ∈ jobs.map (·.evalHash) := by rw [← hsplit, hnil]; exact List.mem_singleton_self _
    obtain ⟨j, hj, e⟩ := List.mem_map.1 this
    exact absurd e (hhex j hj).1
  · exact hsplit

/-- Whatever the point at which array element `i` fails — extracting the code package, importing the
workflow script, looking up the task, or in the task itself — the only files it removes or writes are
job `i`'s own error and output file; a failure is recorded in job `i`'s own error file (and no output
is written), a success in its own output file (and no error is written). -/
theorem element_records_in_own_files {α β : Type} (scratch : Str) (jobs : List (RJob α β)) (i : Nat)
    (hi : i < jobs.length) (cache : Bool) (fail : Option FailAt) :
    ∃ ops, oneshotOps (writeArrayFiles scratch jobs) i cache fail = .ok ops ∧
      (∀ op ∈ ops, op.path = errorPath scratch jobs[i] ∨ op.path = resultPath scratch jobs[i]) ∧
      (fail ≠ none → FileOp.writeError (errorPath scratch jobs[i]) ∈ ops ∧ ∀ p, FileOp.writeOutput p ∉ ops) ∧
      (fail = none → FileOp.writeOutput (resultPath scratch jobs[i]) ∈ ops ∧ ∀ p, FileOp.writeError p ∉ ops) := by
  have he := idx_errorPaths scratch jobs i hi
  have ho := idx_outputPaths scratch jobs i hi
  -- per failure point: the operations as a list, whose three properties are then read off
  cases fail with
  | none => cases cache <;> exact ⟨_, by simp only [oneshotOps, he, ho]; rfl, by simp [FileOp.path], by simp, by simp⟩
  | some f =>
    cases f with
    | task => cases cache <;> exact ⟨_, by simp only [oneshotOps, he, ho]; rfl, by simp [FileOp.path], by simp, by simp⟩
    | _ => exact ⟨_, by simp only [oneshotOps, he]; rfl, by simp [FileOp.path], by simp, by simp⟩

/-- … and those files are never one of the array's shared spec files (`input`, `output`, `error`,
`eval_hashes` under `array_jobs/<id>/`), so no element can disturb another element's lookup. -/
theorem own_files_are_not_spec_files (scratch h a n m : Str) (hh : IsHex h) (ha : IsHex a)
    (hn : n = fOutput ∨ n = fError) (hm : m = fInput ∨ m = fOutput ∨ m = fError ∨ m = fHashes) :
    jobFile scratch h n ≠ arrayFile scratch a m := by
  refine fun e => scratchDirs.2.2 (scratchFile_inj scratchDirs.1 scratchDirs.2.1 (hex_seg hh) (hex_seg ha) ?_ ?_ e).1
  · rcases hn with rfl | rfl <;> decide
  · rcases hm with rfl | rfl | rfl | rfl <;> decide

/-- non-vacuity: element 1 of a two-job array failing at script import -/
example := element_records_in_own_files "s".toList
  [(⟨"0a".toList, 1, 1⟩ : RJob Nat Nat), ⟨"0b".toList, 2, 2⟩] 1 (by decide) true (some .importScript)

/-- A re-run under the default cache scope whose existing output is missing or no longer valid, and whose task
now raises, leaves **no** output file (whatever was there before is removed first) and an error file: the scratch
directory says "failed", so executors that infer success from the output file's existence agree with the local call. -/
theorem rerun_failure_leaves_no_output {α β : Type} (scratch : Str) (jobs : List (RJob α β)) (i : Nat)
    (hi : i < jobs.length) (hhex : ∀ j ∈ jobs, IsHex j.evalHash) (existing : Option Bool) (hex : existing ≠ some true)
    (outBefore errBefore : Bool) :
    ∃ ops, oneshotRerunOps (writeArrayFiles scratch jobs) i true existing (some .task) = .ok ops ∧
      presentAfter (resultPath scratch jobs[i]) outBefore ops = false ∧
      presentAfter (errorPath scratch jobs[i]) errBefore ops = true := by
  have he := idx_errorPaths scratch jobs i hi
  have ho := idx_outputPaths scratch jobs i hi
  have hne : errorPath scratch jobs[i] ≠ resultPath scratch jobs[i] :=
    fun e => (element_paths_distinct scratch jobs hhex i i hi hi).2.2 e.symm
  have hcond : (existing == some true) = false := by simpa using hex
  refine ⟨[.remove (errorPath scratch jobs[i]), .remove (resultPath scratch jobs[i]), .writeError (errorPath scratch jobs[i])], ?_, ?_, ?_⟩
  · simp only [oneshotRerunOps, he, hcond, Bool.and_false, Bool.false_and, Bool.false_eq_true, if_false, oneshotOps, ho]; rfl
  · simp [presentAfter, hne]
  · simp [presentAfter]

/-- Every binding `eval hash ↦ Batch job id` that `gather_inflight_jobs` produces comes from a
non-array job whose name parses to that hash, or from child `i` of an array job whose eval-hash file
has that hash on line `i` — for every list of in-flight jobs and every scratch state. -/
theorem gather_sound (ef : Str → Option (List Str)) (jobs : List Inflight) (pre : Pre)
    (hg : gather ef jobs = .ok pre) (h id : Str) (hb : pre.get h = some id) : Bound ef jobs h id :=
  gather_bound ef jobs pre hg (h, id) (Pre.get_mem pre h id hb)

/-- A job of this deployment: named by `get_batch_job_name` from a hex hash / array id. -/
def RedunNamed (j : Inflight) : Prop := ∃ p h a, '\n' ∉ p ∧ IsHex h ∧ j.name = jobName p h a
/-- Any other job that shares the queue: not an array name, and whatever its name parses to is not a
possible eval hash. -/
def Unrelated (j : Inflight) : Prop :=
  isArrayJobName j.name = false ∧ ∀ h, hashFromJobName j.name = some h → ¬ IsHex h

/-- `id` is a Batch job that was created for eval hash `e`: a single job named with `e`, or child `i`
of an array job (array id `u`) whose eval-hash file lists `e` at index `i`. -/
def CreatedFor (ef : Str → Option (List Str)) (j : Inflight) (id e : Str) : Prop :=
  (∃ p, j.name = jobName p e false ∧ id = j.jobId) ∨
  (∃ p u hs i, IsHex u ∧ j.name = jobName p u true ∧ ef u = some hs ∧ (id, i) ∈ j.children ∧ hs[i]? = some e)

theorem RedunNamed.parse {j : Inflight} (hj : RedunNamed j) {a : Bool} {x : Str} (ha : isArrayJobName j.name = a)
    (hx : hashFromJobName j.name = some x) : ∃ p, IsHex x ∧ j.name = jobName p x a := by
  obtain ⟨p, h, a', hp, hh, hn⟩ := hj
  rw [hn, array_flag_roundtrip p h a' hh] at ha
  rw [hn, name_roundtrip p h a' hp hh] at hx
  cases ha
  cases hx
  exact ⟨p, hh, hn⟩

/-- `_submit` reunites a job only with an in-flight Batch job created for the same eval hash, only
under cache scope BACKEND, and only if the Batch API still knows that job. -/
theorem reunite_same_hash (ef : Str → Option (List Str)) (jobs : List Inflight) (pre pre' : Pre)
    (hw : ∀ j ∈ jobs, RedunNamed j ∨ Unrelated j) (hg : gather ef jobs = .ok pre)
    (backend : Bool) (e id : Str) (he : IsHex e) (alive : Str → Bool)
    (hr : reunite pre backend e alive = (pre', some id)) :
    backend = true ∧ alive id = true ∧ ∃ j ∈ jobs, CreatedFor ef j id e := by
  obtain ⟨hb, hget, hal⟩ := reunite_some hr
  refine ⟨hb, hal, ?_⟩
  rcases gather_sound ef jobs pre hg e id hget with ⟨j, hj, hna, hpar, hid⟩ | ⟨j, hj, harr, u, hs, i, hpar, hef, hc, hi⟩
  · rcases hw j hj with hn | ⟨_, hun⟩
    · obtain ⟨p, _, hn⟩ := hn.parse hna hpar
      exact ⟨j, hj, Or.inl ⟨p, hn, hid⟩⟩
    · exact absurd he (hun e hpar)
  · rcases hw j hj with hn | ⟨hna, _⟩
    · obtain ⟨p, hu, hn⟩ := hn.parse harr hpar
      exact ⟨j, hj, Or.inr ⟨p, u, hs, i, hu, hn, hef, hc, hi⟩⟩
    · rw [hna] at harr; cases harr

theorem mem_listJobs {queue pfx : Str} {statuses : List Status} {jobs : List BatchJob} {j : BatchJob}
    (h : j ∈ listJobs queue pfx statuses jobs) :
    j ∈ jobs ∧ j.status ∈ statuses ∧ j.queue = queue ∧ pfx.isPrefixOf j.name = true := by
  unfold listJobs at h
  obtain ⟨st, hst, hj⟩ := List.mem_flatMap.1 h
  obtain ⟨hmem, hp⟩ := List.mem_filter.1 hj
  simp only [decide_eq_true_eq] at hp
  exact ⟨hmem, hp.1 ▸ hst, hp.2.1, hp.2.2⟩

theorem mem_listChildren {statuses : List Status} {j : BatchJob} {id : Str} {i : Nat}
    (h : (id, i) ∈ listChildren statuses j) : ∃ st, (id, i, st) ∈ j.children ∧ st ∈ statuses := by
  unfold listChildren at h
  obtain ⟨st, hst, hc⟩ := List.mem_flatMap.1 h
  obtain ⟨c, hcm, hce⟩ := List.mem_map.1 hc
  obtain ⟨hmem, hp⟩ := List.mem_filter.1 hcm
  simp only [decide_eq_true_eq] at hp
  obtain ⟨cid, ci, cst⟩ := c
  simp only [Prod.mk.injEq] at hce
  obtain ⟨rfl, rfl⟩ := hce
  exact ⟨cst, hmem, by simp only at hp; rw [hp]; exact hst⟩

/-- Reuniting against the real queue, where finished jobs of earlier runs are still listed by the Batch
API: a job is attached only to a Batch job (or array child) that is **in flight**, lies in the
executor's queue, carries its job-name prefix, and was created for the job's own eval hash. -/
theorem reunited_is_inflight_same_hash (ef : Str → Option (List Str)) (queue pfx : Str) (jobs : List BatchJob)
    (pre pre' : Pre) (hw : ∀ j ∈ jobs, RedunNamed (toInflight j) ∨ Unrelated (toInflight j))
    (hg : gatherQueue ef queue pfx jobs = .ok pre) (backend : Bool) (e id : Str) (he : IsHex e)
    (alive : Str → Bool) (hr : reunite pre backend e alive = (pre', some id)) :
    ∃ j ∈ jobs, j.queue = queue ∧ pfx.isPrefixOf j.name = true ∧ j.status ∈ inflightStatuses ∧
      ((∃ p, j.name = jobName p e false ∧ id = j.jobId) ∨
       (∃ p u hs i st, IsHex u ∧ j.name = jobName p u true ∧ ef u = some hs ∧ (id, i, st) ∈ j.children ∧
          st ∈ inflightStatuses ∧ hs[i]? = some e)) := by
  unfold gatherQueue at hg
  have hw' : ∀ x ∈ (listJobs queue pfx inflightStatuses jobs).map toInflight, RedunNamed x ∨ Unrelated x := by
    intro x hx
    obtain ⟨j, hj, rfl⟩ := List.mem_map.1 hx
    exact hw j (mem_listJobs hj).1
  obtain ⟨_, _, x, hx, hc⟩ := reunite_same_hash ef _ pre pre' hw' hg backend e id he alive hr
  obtain ⟨j, hj, rfl⟩ := List.mem_map.1 hx
  obtain ⟨hmem, hst, hq, hp⟩ := mem_listJobs hj
  refine ⟨j, hmem, hq, hp, hst, ?_⟩
  rcases hc with ⟨p, hn, hid⟩ | ⟨p, u, hs, i, hu, hn, hef, hch, hi⟩
  · exact Or.inl ⟨p, hn, hid⟩
  · obtain ⟨st, hcm, hcst⟩ := mem_listChildren hch
    exact Or.inr ⟨p, u, hs, i, st, hu, hn, hef, hcm, hcst, hi⟩

/-- Consequently a job whose only namesakes are finished (or foreign-queue / foreign-prefix) Batch jobs is
not attached to anything: it is submitted afresh. -/
theorem finished_namesake_not_reunited (ef : Str → Option (List Str)) (queue pfx : Str) (jobs : List BatchJob)
    (pre : Pre) (hw : ∀ j ∈ jobs, RedunNamed (toInflight j) ∨ Unrelated (toInflight j))
    (hg : gatherQueue ef queue pfx jobs = .ok pre) (backend : Bool) (e : Str) (he : IsHex e) (alive : Str → Bool)
    (hfin : ∀ j ∈ jobs, j.queue = queue → pfx.isPrefixOf j.name = true → j.status ∈ inflightStatuses →
      (∀ p, j.name ≠ jobName p e false) ∧
      (∀ p u hs i st id, j.name = jobName p u true → ef u = some hs → (id, i, st) ∈ j.children →
        st ∈ inflightStatuses → hs[i]? ≠ some e)) :
    (reunite pre backend e alive).2 = none := by
  cases hres : reunite pre backend e alive with
  | mk pre' r =>
    cases r with
    | none => rfl
    | some id =>
      exfalso
      obtain ⟨j, hj, hq, hp, hst, hc⟩ :=
        reunited_is_inflight_same_hash ef queue pfx jobs pre pre' hw hg backend e id he alive hres
      obtain ⟨h1, h2⟩ := hfin j hj hq hp hst
      rcases hc with ⟨p, hn, _⟩ | ⟨p, u, hs, i, st, _, hn, hef, hcm, hcst, hi⟩
      · exact h1 p hn
      · exact h2 p u hs i st id hn hef hcm hcst hi

/-- non-vacuity: a SUCCEEDED job with the same name is not bound, the RUNNING one is -/
example :
    gatherQueue (fun _ => none) "q".toList "redun-job".toList
      [⟨"redun-job-0c".toList, "old".toList, "q".toList, .succeeded, []⟩,
       ⟨"redun-job-0d".toList, "live".toList, "q".toList, .running, []⟩,
       ⟨"redun-job-0e".toList, "other-queue".toList, "q2".toList, .running, []⟩]
      = .ok [("0d".toList, "live".toList)] := by
  repeat rw [Script.toList_lit rfl]
  rfl

/-- non-vacuity: a single job and an array child are both found -/
example :
    let ef : Str → Option (List Str) := fun u => if u = "ab".toList then some ["0a".toList, "0b".toList] else none
    gather ef [⟨"redun-job-0c".toList, "J1".toList, []⟩,
               ⟨"redun-job-ab-array".toList, "A".toList, [("A:1".toList, 1)]⟩]
      = .ok [("0b".toList, "A:1".toList), ("0c".toList, "J1".toList)] := by
  repeat rw [Script.toList_lit rfl]
  rfl

end RedunModel.C32
