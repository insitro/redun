/-
C26 — Context is inherited and overridden as documented.

Model: `RedunModel.Model.Context` (`mergeDicts` = `redun.utils.merge_dicts` as written, `jobContext` =
`Job.get_context`, `execContext` = the root context built in `Scheduler.run`, `updateContext` =
`Task.update_context`, `getPath`/`getContextValue` = `redun.context.get_context_value`).
`deepMerge` is the specification "later keys win, nested mappings merged".
`Ctx.WF` (keys unique at every level) is what a Python `dict` guarantees; it is not a restriction.
-/
import RedunModel.Lemmas.Context
namespace RedunModel.C26
open RedunModel.Context RedunModel.Assoc

/-- The code's n-ary grouping algorithm, on two arguments, is the binary deep merge. Full strength:
all contexts of any depth and width, non-mappings anywhere. -/
theorem binary_is_deepMerge (a b : Ctx) (ha : a.WF) (hb : b.WF) : mergeDicts [a, b] = deepMerge a b := by
  induction a using Ctx.ind generalizing b with
  | leaf v => rw [mergeDicts_pair_leaf_left, deepMerge]
  | obj da ih =>
    cases b with
    | leaf w => rw [mergeDicts_pair_leaf_right, deepMerge]
    | obj db =>
      rw [Ctx.WF_obj] at ha hb
      -- both sides list `da`'s keys, then the keys only `db` has; under each key both hold the same value
      have hv : ∀ k, valuesFor k (da ++ db) = (da.lookup k).toList ++ (db.lookup k).toList := fun k => by
        rw [valuesFor_append, valuesFor_nodup _ _ ha.2, valuesFor_nodup _ _ hb.2]
      rw [mergeDicts_pair_obj, groupItems, deepMerge_obj, mergeKvs_eq_map, List.map_append, keyOrder_pair _ _ ha.2 hb.2,
        List.map_append, List.map_map, List.filter_map, List.map_map]
      congr 2
      · apply List.map_congr_left
        intro p hp
        simp only [Function.comp, hv, lookup_of_mem ha.2 hp]
        cases hl : db.lookup p.1 with
        | none => exact congrArg _ (mergeDicts_single _)
        | some w =>
          exact congrArg _ (ih p hp w (ha.1 p hp) (hb.1 _ (mem_of_lookup hl)))
      · conv => rhs; rw [← List.map_id (db.filter _)]
        apply List.map_congr_left
        intro p hp
        have hp' := List.mem_filter.mp hp
        simp only [Function.comp, hv, lookup_eq_none_iff.2 (of_decide_eq_true hp'.2), lookup_of_mem hb.2 hp'.1]
        exact congrArg _ (mergeDicts_single _)

/-- Merging keeps keys unique (so the induction down the job tree goes through). -/
theorem deepMerge_wf (a b : Ctx) (ha : a.WF) (hb : b.WF) : (deepMerge a b).WF := by
  induction a using Ctx.ind generalizing b with
  | leaf v => rw [deepMerge]; exact hb
  | obj da ih =>
    cases b with
    | leaf w => rw [deepMerge]; trivial
    | obj db =>
      rw [Ctx.WF_obj] at ha hb
      rw [deepMerge_obj, Ctx.WF_obj, mergeKvs_eq_map]
      constructor
      · intro p hp
        rcases List.mem_append.mp hp with h | h
        · obtain ⟨q, hq, rfl⟩ := List.mem_map.mp h
          dsimp only
          cases hl : db.lookup q.1 with
          | none => exact ha.1 q hq
          | some w => exact ih q hq w (ha.1 q hq) (hb.1 _ (mem_of_lookup hl))
        · exact hb.1 p (List.mem_filter.mp h).1
      · rw [List.map_append, List.map_map]
        refine List.nodup_append.mpr ⟨ha.2, nodup_keys_filter _ hb.2, ?_⟩
        rintro x hx _ hy rfl
        obtain ⟨p, hp, rfl⟩ := List.mem_map.mp hy
        exact of_decide_eq_true (List.mem_filter.mp hp).2 hx

/-- The merged mapping as a finite map — independent of the key order of either side:
a key present on both sides gets the recursively merged value, otherwise the side that has it. -/
theorem merge_lookup (da db : List (String × Ctx)) (k : String) :
    (items (deepMerge (.obj da) (.obj db))).lookup k =
      match da.lookup k, db.lookup k with
      | some v, some w => some (deepMerge v w)
      | some v, none => some v
      | none, some w => some w
      | none, none => none := by
  rw [deepMerge_obj, items, List.lookup_append, lookup_mergeKvs, lookup_filter fun x => decide (x ∉ da.map (·.1))]
  cases ha : da.lookup k with
  | some v => cases db.lookup k <;> rfl
  | none =>
    have hk : k ∉ da.map (·.1) := lookup_eq_none_iff.1 ha
    cases db.lookup k <;> simp [hk]

/-- "Later wins" for anything that is not a pair of mappings. -/
theorem merge_nonmapping_right (a : Ctx) (w : String) : deepMerge a (.leaf w) = .leaf w := by
  cases a <;> simp [deepMerge]
theorem merge_nonmapping_left (v : String) (b : Ctx) : deepMerge (.leaf v) b = b := by
  simp [deepMerge]

/-- The root (execution) context is the configured context deep-merged with the context passed to `run`. -/
theorem root_context (config run : Ctx) (hc : config.WF) (hr : run.WF) :
    execContext config run = deepMerge config run := binary_is_deepMerge config run hc hr

theorem execContext_wf (config run : Ctx) (hc : config.WF) (hr : run.WF) : (execContext config run).WF := by
  rw [root_context config run hc hr]; exact deepMerge_wf _ _ hc hr

/-- A job's context is the fold of `deepMerge` over the overrides on its ancestor chain (the list holds the
job's own override first, the root job's last), starting from the execution context.  Induction over the
chain: any depth of the job tree. -/
theorem job_context (execCtx : Ctx) (chain : List Ctx) (he : execCtx.WF) (hc : ∀ o ∈ chain, o.WF) :
    jobContext execCtx chain = chain.foldr (fun o acc => deepMerge acc o) execCtx ∧
    (jobContext execCtx chain).WF := by
  induction chain with
  | nil => exact ⟨rfl, he⟩
  | cons o t ih =>
    have ⟨e, w⟩ := ih (fun x hx => hc x (List.mem_cons_of_mem _ hx))
    have ho := hc o (by simp)
    simp only [jobContext, List.foldr_cons]
    rw [binary_is_deepMerge _ _ w ho, e]
    exact ⟨rfl, e ▸ deepMerge_wf _ _ w ho⟩

/-- One step: a job's context is its parent's context deep-merged with the override of that call. -/
theorem job_context_step (execCtx o : Ctx) (ancestors : List Ctx) (he : execCtx.WF)
    (hc : ∀ x ∈ o :: ancestors, x.WF) :
    jobContext execCtx (o :: ancestors) = deepMerge (jobContext execCtx ancestors) o := by
  have ⟨_, w⟩ := job_context execCtx ancestors he (fun x hx => hc x (List.mem_cons_of_mem _ hx))
  simp only [jobContext]
  exact binary_is_deepMerge _ _ w (hc o (by simp))

/-- A call without `update_context` (override `{}`) inherits the parent's context unchanged. -/
theorem job_context_no_override (kvs : List (String × Ctx)) (h : (Ctx.obj kvs).WF) :
    mergeDicts [.obj kvs, .obj []] = .obj kvs := by
  rw [binary_is_deepMerge _ _ h (by simp [Ctx.WF, wfKvs]), deepMerge, mergeKvs_eq_map]
  simp only [List.lookup, List.filter_nil, List.append_nil]
  simp

/-- The merged context, read as a function from dotted paths to values (`sem`: nothing / a mapping / the
non-mapping value), is a function (`mergeSem`) of the two contexts read the same way.  No hypothesis. -/
theorem merge_as_path_function (a b : Ctx) (ps : List String) :
    sem (deepMerge a b) ps = mergeSem (sem a) (sem b) ps := by
  induction ps generalizing a b with
  | nil => cases a <;> cases b <;> rfl
  | cons k r ih =>
    cases a with
    | leaf v => rfl
    | obj da =>
      cases b with
      | leaf w => rfl
      | obj db =>
        have hl := merge_lookup da db k
        rw [deepMerge, items] at hl
        rw [deepMerge, sem_obj, hl, mergeSem]
        have hk : ∀ kvs : List (String × Ctx), sem (.obj kvs) [k] = (kvs.lookup k).map shape := fun kvs => by
          rw [sem_obj]; cases kvs.lookup k <;> rfl
        simp only [hk, show ∀ kvs : List (String × Ctx), sem (.obj kvs) [] = some none from fun _ => rfl]
        cases ha : da.lookup k <;> cases hb : db.lookup k
        · rfl
        · simp [sem_obj, hb]
        · simp [sem_obj, ha]
        · simp only [Option.map_some, Option.bind_some]
          rw [ih]
          congr 1 <;> funext q
          · rw [sem_obj, ha]; rfl
          · rw [sem_obj, hb]; rfl

/-- Hence contexts that agree on every path merge to contexts that agree on every path: the key order of
either side, at any depth, is irrelevant. -/
theorem key_order_irrelevant (a a' b b' : Ctx) (ha : ExtEq a a') (hb : ExtEq b b') :
    ExtEq (deepMerge a b) (deepMerge a' b') := by
  intro ps
  rw [merge_as_path_function, merge_as_path_function, funext ha, funext hb]

/-- Reordering the keys of a mapping gives a context that agrees on every path … -/
theorem reorder_extEq (kvs kvs' : List (String × Ctx)) (hn : (kvs.map (·.1)).Nodup) (hp : kvs.Perm kvs') :
    ExtEq (.obj kvs) (.obj kvs') := by
  intro ps
  cases ps with
  | nil => rfl
  | cons k r => rw [sem_obj, sem_obj, lookup_perm hn hp k]

/-- … and `get_context_value` on agreeing contexts finds agreeing values / the default in the same cases. -/
theorem lookup_respects_extEq (a b : Ctx) (h : ExtEq a b) (ps : List String) :
    match getPath a ps, getPath b ps with
    | some x, some y => ExtEq x y
    | none, none => True
    | _, _ => False := by
  have h0 := h ps
  unfold sem at h0
  cases ha : getPath a ps <;> cases hb : getPath b ps <;> rw [ha, hb] at h0
  · trivial
  · cases h0
  · cases h0
  · intro qs
    have := h (ps ++ qs)
    rwa [sem, sem, getPath_append, getPath_append, ha, hb] at this

/-- non-vacuity: `{a:1, b:{x:2}}` and `{b:{x:2}, a:1}` agree on every path -/
example : ExtEq (.obj [("a", .leaf "1"), ("b", .obj [("x", .leaf "2")])])
    (.obj [("b", .obj [("x", .leaf "2")]), ("a", .leaf "1")]) :=
  reorder_extEq _ _ (by simp) (List.Perm.swap _ _ _)

/-- First `update_context(ctx, **kw)` on a task (no previous override): the stored override is
`ctx` deep-merged with the keyword arguments. -/
theorem update_context_first (c k : List (String × Ctx)) (hc : (Ctx.obj c).WF) (hk : (Ctx.obj k).WF) :
    updateContext (.obj []) (.obj c) (.obj k) = deepMerge (.obj c) (.obj k) := by
  rw [updateContext, mergeDicts_triple_obj, List.nil_append, ← mergeDicts_pair_obj, binary_is_deepMerge _ _ hc hk]

/-- Chained `update_context(ctx)` (no keyword arguments): previous override deep-merged with `ctx`. -/
theorem update_context_chained (p c : List (String × Ctx)) (hp : (Ctx.obj p).WF) (hc : (Ctx.obj c).WF) :
    updateContext (.obj p) (.obj c) (.obj []) = deepMerge (.obj p) (.obj c) := by
  rw [updateContext, mergeDicts_triple_obj, List.append_nil, ← mergeDicts_pair_obj, binary_is_deepMerge _ _ hp hc]

/-- `override_of_chain` from any previous override `p`, which is what the induction over the chain needs. -/
theorem foldl_updateContext (cs : List (List (String × Ctx))) : ∀ p : List (String × Ctx), (Ctx.obj p).WF →
    (∀ c ∈ cs, (Ctx.obj c).WF) →
    (cs.map fun c => ((Ctx.obj c, Ctx.obj []) : Ctx × Ctx)).foldl (fun prev s => updateContext prev s.1 s.2) (.obj p)
      = cs.foldl (fun acc c => deepMerge acc (.obj c)) (.obj p) := by
  induction cs with
  | nil => intro p _ _; rfl
  | cons c t ih =>
    intro p hp hc
    have hcw := hc c List.mem_cons_self
    have hw := deepMerge_wf _ _ hp hcw
    rw [List.map_cons, List.foldl_cons, List.foldl_cons, update_context_chained p c hp hcw]
    rw [deepMerge] at hw ⊢
    exact ih _ hw fun x hx => hc x (List.mem_cons_of_mem _ hx)

/-- The override a call carries after a chain of `update_context(c₁)…update_context(cₙ)` (with `partial` / `options`
anywhere in between) is the deep merge of ALL the overrides, in order: no earlier override is dropped. -/
theorem override_of_chain (cs : List (List (String × Ctx))) (hc : ∀ c ∈ cs, (Ctx.obj c).WF) :
    overrideOfChain (cs.map fun c => (Ctx.obj c, Ctx.obj [])) = cs.foldl (fun acc c => deepMerge acc (.obj c)) (.obj []) :=
  foldl_updateContext cs [] (by simp [Ctx.WF, wfKvs]) hc

/-- the regression input: `update_context(p=1)`, then (after `.partial()`) `update_context(q=2)` keeps `p` -/
example : overrideOfChain [(.obj [("p", .leaf "1")], .obj []), (.obj [("q", .leaf "2")], .obj [])]
    = .obj [("p", .leaf "1"), ("q", .leaf "2")] := by
  rw [show [(Ctx.obj [("p", .leaf "1")], Ctx.obj []), (Ctx.obj [("q", .leaf "2")], Ctx.obj [])]
      = [[("p", Ctx.leaf "1")], [("q", Ctx.leaf "2")]].map (fun c => (Ctx.obj c, Ctx.obj [])) from rfl,
    override_of_chain _ (by simp [Ctx.WF, wfKvs])]
  simp [deepMerge, mergeKvs, List.lookup]

/-- Remark (not part of the property statement): with three arguments `merge_dicts` is *not* the left fold
of the binary merge when a non-mapping sits between mappings — `[{k:5}, {k:{x:1}}, {k:{y:2}}]` gives
`{k:{y:2}}`, the fold gives `{k:{x:1,y:2}}`.  Reachable only through a single
`update_context(ctx, **kwargs)` call that has a previous override, `ctx` and `kwargs` all defining `k`. -/
theorem nary_note :
    mergeDicts [.obj [("k", .leaf "5")], .obj [("k", .obj [("x", .leaf "1")])], .obj [("k", .obj [("y", .leaf "2")])]]
      = .obj [("k", .obj [("y", .leaf "2")])] ∧
    deepMerge (deepMerge (.obj [("k", .leaf "5")]) (.obj [("k", .obj [("x", .leaf "1")])]))
        (.obj [("k", .obj [("y", .leaf "2")])])
      = .obj [("k", .obj [("x", .leaf "1"), ("y", .leaf "2")])] := by
  constructor
  · rw [mergeDicts_triple_obj, groupItems]; simp [keyOrder, valuesFor]; rw [mergeDicts]; simp [isObj]
  · simp [deepMerge, mergeKvs, List.lookup]

/-- What "the value at the dotted path" means: a chain of mappings, each containing the next segment. -/
inductive PathTo : Ctx → List String → Ctx → Prop
  | here (c : Ctx) : PathTo c [] c
  | step {kvs : List (String × Ctx)} {k : String} {v r : Ctx} {ps : List String} :
      (k, v) ∈ kvs → PathTo v ps r → PathTo (.obj kvs) (k :: ps) r

/-- `get_context_value` finds exactly the value at the path (every segment — including an empty one —
must be a key of a mapping; a non-mapping in the middle ends the search). -/
theorem lookup_spec (c : Ctx) (hc : c.WF) (ps : List String) (r : Ctx) :
    getPath c ps = some r ↔ PathTo c ps r := by
  induction ps generalizing c with
  | nil => exact ⟨fun h => Option.some.inj h ▸ .here c, fun h => by cases h; rfl⟩
  | cons p ps ih =>
    cases c with
    | leaf v => exact ⟨nofun, nofun⟩
    | obj kvs =>
      rw [Ctx.WF_obj] at hc
      have hw := fun v (hm : (p, v) ∈ kvs) => ih v (hc.1 _ hm)
      rw [getPath_obj, Option.bind_eq_some_iff]
      constructor
      · rintro ⟨v, hl, h⟩
        exact .step (mem_of_lookup hl) ((hw v (mem_of_lookup hl)).1 h)
      · rintro (_ | ⟨hm, hr⟩)
        exact ⟨_, lookup_of_mem hc.2 hm, (hw _ hm).2 hr⟩

/-- … and otherwise the default: a missing segment or a non-mapping on the way. -/
theorem lookup_default (c : Ctx) (hc : c.WF) (path : String) (d : Ctx)
    (h : ¬ ∃ r, PathTo c (path.splitOn ".") r) : getContextValue c path d = d := by
  unfold getContextValue
  cases hg : getPath c (path.splitOn ".") with
  | none => rfl
  | some r => exact absurd ⟨r, (lookup_spec c hc _ r).mp hg⟩ h

theorem lookup_found (c : Ctx) (hc : c.WF) (path : String) (d r : Ctx)
    (h : PathTo c (path.splitOn ".") r) : getContextValue c path d = r := by
  unfold getContextValue
  rw [(lookup_spec c hc _ r).mpr h]

/-- The two ways a lookup fails, spelled out. -/
theorem lookup_fails_nonmapping (v : String) (p : String) (ps : List String) : getPath (.leaf v) (p :: ps) = none := rfl
theorem lookup_fails_missing (kvs : List (String × Ctx)) (p : String) (ps : List String)
    (h : p ∉ kvs.map (·.1)) : getPath (.obj kvs) (p :: ps) = none := by
  rw [getPath_obj, lookup_eq_none_iff.2 h]; rfl

/-- A value stored under a falsy-looking leaf is still found (the default is not substituted);
an empty path segment is an ordinary key. -/
example : getPath (.obj [("a", .obj [("b", .leaf "0")])]) ["a", "b"] = some (.leaf "0") := by
  simp [getPath, List.lookup]
example : getPath (.obj [("a", .obj [("", .leaf "false")])]) ["a", ""] = some (.leaf "false") := by
  simp [getPath, List.lookup]
example : PathTo (.obj [("a", .obj [("b", .leaf "0")])]) ["a", "b"] (.leaf "0") :=
  .step (v := .obj [("b", .leaf "0")]) (by simp) (.step (v := .leaf "0") (by simp) (.here _))

/-- non-vacuity of the well-formedness hypotheses: a nested override over a nested context -/
example : mergeDicts [.obj [("a", .obj [("x", .leaf "1"), ("y", .leaf "2")]), ("b", .leaf "3")],
                      .obj [("c", .leaf "4"), ("a", .obj [("y", .leaf "5")])]]
    = .obj [("a", .obj [("x", .leaf "1"), ("y", .leaf "5")]), ("b", .leaf "3"), ("c", .leaf "4")] := by
  rw [binary_is_deepMerge _ _ (by simp [Ctx.WF, wfKvs]) (by simp [Ctx.WF, wfKvs])]
  simp [deepMerge, mergeKvs, List.lookup]

end RedunModel.C26
