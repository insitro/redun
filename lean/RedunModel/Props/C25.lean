/-
C25 — Handle lineage and rollback follow the state model; an invalidated state is never replayed.

Model: `RedunModel.Model.Handles`.  `fixed = true` is the backend repaired by
harness/findings_proposed/C25-*.fix.diff, `fixed = false` the backend as it was.

Full-strength statement (the property text): for ANY sequence of advances and rollbacks a state is valid
exactly when the reference lineage model says so — `matches_spec`, proved for the repaired backend.  For the
backend as it was the statement is false: `current_refuted_raw`, `current_refuted_fork_edge` are closed
counter-examples (both replayed on the real code by the check), and `current_matches_spec_partial` is what
remains true of it.
-/
import RedunModel.Lemmas.HandlesChain
namespace RedunModel.C25
open RedunModel.Handles

set_option linter.unusedSectionVars false
variable {H : Type} [DecidableEq H]

/-- `rollback_handle`'s descendant search always ends within its fuel — for both variants, from any state. -/
theorem run_total (fixed : Bool) (st : St H) (ops : List (Op H)) : ∃ st', run fixed st ops = .ok st' := by
  induction ops generalizing st with
  | nil => exact ⟨st, rfl⟩
  | cons op ops ih =>
    have ⟨st1, h1⟩ : ∃ st1, st.step fixed op = .ok st1 := by
      cases op with
      | advance ps c => exact ⟨_, rfl⟩
      | rollback h => exact let ⟨st1, h1, _⟩ := rollback_spec fixed st h; ⟨st1, h1⟩
    obtain ⟨st', h⟩ := ih st1
    exact ⟨st', by simp only [run, h1, h]⟩

/-- **The property, full strength (repaired backend).**  For every history of `advance_handle` (any number of
parents, unrecorded fork chains) and `rollback_handle` calls whose handles carry the fullname their hash
determines and relate handles of one fullname per call, the run succeeds and a state is valid — as answered by
`is_valid_handle` — exactly when the reference lineage model says so. -/
theorem matches_spec (nm : H → String) (ops : List (Op H)) (hwf : ∀ op ∈ ops, WFOp nm op) :
    ∃ st, run true ({} : St H) ops = .ok st ∧ ∀ x, st.isValid x = true ↔ (Spec.run Spec.init ops).valid x := by
  obtain ⟨st, h, hi⟩ := run_refines nm {} Spec.init ops (ri_init nm) hwf
  exact ⟨st, h, hi.valid⟩

theorem run_append (fixed : Bool) (st : St H) (ops1 ops2 : List (Op H)) :
    run fixed st (ops1 ++ ops2) = (match run fixed st ops1 with | .ok st1 => run fixed st1 ops2 | .error e => .error e) := by
  induction ops1 generalizing st with
  | nil => simp [run]
  | cons op ops ih =>
    simp only [List.cons_append, run]
    cases st.step fixed op with
    | ok st1 => exact ih st1
    | error e => rfl

theorem spec_run_append (sp : Spec H) (ops1 ops2 : List (Op H)) :
    Spec.run sp (ops1 ++ ops2) = Spec.run (Spec.run sp ops1) ops2 := by
  induction ops1 generalizing sp with
  | nil => rfl
  | cons op ops ih => simp only [List.cons_append, Spec.run]; exact ih _

/-- Rolling back to a state invalidates every state derived from it — through any chain of recorded lineage
edges, whatever the validity of the states in between — and nothing else. -/
theorem rollback_invalidates_descendants (nm : H → String) (ops : List (Op H)) (h : HRef H)
    (hwf : ∀ op ∈ ops, WFOp nm op) (hh : h.name = nm h.hash) (st st' : St H)
    (h1 : run true ({} : St H) ops = .ok st) (h2 : run true ({} : St H) (ops ++ [.rollback h]) = .ok st') (y : H) :
    st'.isValid y = true ↔ st.isValid y = true ∧ ¬ Desc (Spec.run Spec.init ops).edges h.hash y := by
  obtain ⟨sa, ha, hva⟩ := matches_spec nm ops hwf
  obtain ⟨sb, hb, hvb⟩ := matches_spec nm (ops ++ [.rollback h]) (List.forall_mem_append.2 ⟨hwf, List.forall_mem_singleton.2 (show WFOp nm (.rollback h) from hh)⟩)
  cases h1.symm.trans ha
  cases h2.symm.trans hb
  rw [hvb y, hva y, spec_run_append]
  rfl

/-- Deriving a state again makes it (and the parents it is derived from) valid again — both variants. -/
theorem rederive_revalidates (fixed : Bool) (st : St H) (ps : List (Parent H)) (c : HRef H) :
    (st.advance fixed ps c).isValid c.hash = true ∧ ∀ p ∈ ps, (st.advance fixed ps c).isValid p.ref.hash = true := by
  simp only [isValid_advance, mem_touched]
  exact ⟨.inr (.inr (.inl trivial)), fun p hp => .inr (.inr (.inr (List.mem_map_of_mem hp)))⟩

/-- A state that was never recorded is not valid. -/
theorem unrecorded_invalid (st : St H) (x : H) (h : st.isValid x = true) : ∃ r ∈ st.rows, r.hash = x :=
  let ⟨r, hr, hx, _⟩ := isValid_row h
  ⟨r, hr, hx⟩

-- The backend as it was: closed counter-examples, handle states named 0, 1, 2, …

def ref (n : Nat) : HRef Nat := ⟨n, "h"⟩
def par (n : Nat) : Parent Nat := ⟨ref n, true, []⟩

/-- F18: `a→b→c→d`, rollback `a`, re-derive `d` from `c`, rollback `a` again. -/
def witnessRaw : List (Op Nat) :=
  [.advance [par 0] (ref 1), .advance [par 1] (ref 2), .advance [par 2] (ref 3), .rollback (ref 0),
   .advance [par 2] (ref 3), .rollback (ref 0)]

/-- `rollback_handle` only follows edges that leave a currently valid state: after the second rollback of `a`
the states `c`, `d` are still valid although the reference says they are derived from the rolled-back `a`. -/
theorem current_refuted_raw :
    (∃ st, run false ({} : St Nat) witnessRaw = .ok st ∧ st.isValid 2 = true ∧ st.isValid 3 = true) ∧
    ¬ (Spec.run Spec.init witnessRaw).valid 2 ∧ ¬ (Spec.run Spec.init witnessRaw).valid 3 ∧
    (∃ st, run true ({} : St Nat) witnessRaw = .ok st ∧ st.isValid 2 = false ∧ st.isValid 3 = false) := by
  refine ⟨⟨_, rfl, rfl, rfl⟩, fun h => h.2 ?_, fun h => h.2 ?_, ⟨_, rfl, rfl, rfl⟩⟩
  · exact .step (b := 1) (.edge (by decide)) (by decide)
  · exact .step (b := 2) (.step (b := 1) (.edge (by decide)) (by decide)) (by decide)

/-- A task forks its handle itself (`g = f.fork "x"`) and passes the fork on: `advance_handle([g], g')` records
the skipped fork parent `f` but not the edge `f → g`; rolling back `f` then leaves everything below `g` valid. -/
def witnessFork : List (Op Nat) :=
  [.advance [par 0] (ref 1),                                   -- a → f            (scheduler forks the argument)
   .advance [⟨ref 2, false, [ref 1, ref 0]⟩] (ref 3),          -- g → g'           (g = f.fork "x", unrecorded)
   .advance [par 3] (ref 4),                                   -- g' → r           (result of the inner task)
   .rollback (ref 1)]                                          -- the outer task is re-run: rollback f

theorem current_refuted_fork_edge :
    (∃ st, run false ({} : St Nat) witnessFork = .ok st ∧ st.isValid 4 = true) ∧
    ¬ (Spec.run Spec.init witnessFork).valid 4 ∧
    (∃ st, run true ({} : St Nat) witnessFork = .ok st ∧ st.isValid 4 = false) := by
  refine ⟨⟨_, rfl, rfl⟩, fun h => h.2 ?_, ⟨_, rfl, rfl⟩⟩
  exact .step (b := 3) (.step (b := 2) (.edge (by decide)) (by decide)) (by decide)

/-- non-vacuity of `matches_spec`: the two witnesses are well-formed histories -/
example : ∀ op ∈ witnessRaw ++ witnessFork, WFOp (fun _ : Nat => "h") op := by
  simp only [witnessRaw, witnessFork, List.cons_append, List.nil_append, List.forall_mem_cons, WFOp, ref, par]
  simp

/-- **Partial result for the backend as it was** (the full-strength statement is `matches_spec`; it is false of
this variant, see the two `current_refuted_*`): on every ancestor-closed state — a valid state's recorded parents
are valid — whose rows carry the fullname of their hash, the unrepaired `rollback_handle` leaves exactly the valid
set (and edges) the repaired one leaves, i.e. the reference's.  What is missing: states that are not
ancestor-closed (raw histories can produce them, `current_refuted_raw`) and unrecorded fork links. -/
theorem current_matches_spec_partial (nm : H → String) (st : St H) (hn : ∀ r ∈ st.rows, r.name = nm r.hash)
    (hc : Closed st) (h : HRef H) :
    ∃ s1 s2, st.rollback false h = .ok s1 ∧ st.rollback true h = .ok s2 ∧ s1.edges = s2.edges ∧
      ∀ x, s1.isValid x = s2.isValid x := by
  obtain ⟨s1, h1, e1, _, v1⟩ := rollback_spec false st h
  obtain ⟨s2, h2, e2, _, v2⟩ := rollback_spec true st h
  refine ⟨s1, s2, h1, h2, e1.trans e2.symm, fun x => Bool.eq_iff_iff.2 ?_⟩
  rw [v1, v2]
  -- a valid descendant is found by both searches
  refine and_congr_right fun hx => not_congr ⟨Desc.mono fun _ => joined_sub, fun hd => ?_⟩
  exact desc_joined_of_closed false (fun p hp => by
    obtain ⟨r, hr, rfl⟩ := List.mem_map.1 hp
    exact hn r hr) hc h hd hx

/-- The way the scheduler calls the backend for chains of handle-writing tasks keeps every state ancestor-closed
(so `current_matches_spec_partial` applies to it) — after any history of executions, either variant. -/
theorem sched_preserves_closed (fixed : Bool) (name : String) (history : List (List String)) :
    ∃ w, runWorkflows fixed name {} history = .ok w ∧ Closed w.st := by
  obtain ⟨w, hw, hj⟩ := runExecs_spec fixed name (history.map .ok) {} (J_init name "1")
  exact ⟨w, runExecs_ok fixed true name history {} ▸ hw, hj.closed⟩

/- Durability of the rollback under process death.  `rollback_handle` does not commit.  `enterTask … early` models
`_exec_job_main_thread` from the cache miss to the entry of the task function; `early = true` is the code's order
(`_perform_rollbacks`, then `record_job_start`, which commits), `early = false` the order in which the rollback is
still pending when the task starts. -/

/-- **At the moment a handle-writing task function is entered nothing is pending**: every state the scheduler
rolled back for it — for each of the handle states among its arguments — is invalid for a fresh connection (and
for the next process, should this one die). -/
theorem task_start_rollback_durable (fixed : Bool) (d d' : DB) (fs : List (HRef HT)) (h : enterTask fixed true d fs = .ok d') :
    d'.ses = d'.dur := by
  obtain ⟨s, _, rfl⟩ := enterTask_early h
  rfl

/-- **Every handle-valued argument is rolled back**: when the task function is entered (code's order, repaired
backend), for every handle state `f` among the job's arguments — also several states of one handle name — every
state derived from `f` is invalid, durably. -/
theorem task_start_all_arguments_rolled_back (d d' : DB) (fs : List (HRef HT)) (h : enterTask true true d fs = .ok d')
    (f : HRef HT) (hf : f ∈ fs) (y : HT) (hy : Desc (d.ses.joined true f.name) f.hash y) :
    d'.dur.isValid y = false := by
  obtain ⟨s, hs, rfl⟩ := enterTask_early h
  exact Bool.eq_false_iff.2 fun hv => (rollbackAll_spec fs d s hs y hv).2 f hf hy

/-- **No invalidated state is replayed, also across process deaths.**  After any history of executions, each of
which either completes or is killed right after one of its tasks started writing, one more (complete) execution of
the chain `ts` returns a valid state and the external system reflects `ts` (`ts <+: ext`: what an earlier, longer
chain wrote deeper down is still there). -/
theorem crash_no_stale_replay (fixed : Bool) (name : String) (history : List Exec) (ts : List String) :
    ∃ w w' final ran, runExecs fixed true name {} history = .ok w ∧
      runWorkflow fixed w name ts = .ok (w', final, ran) ∧ ts <+: w'.ext ∧ (ts = [] ∨ w'.st.isValid final = true) := by
  obtain ⟨w, hw, hj⟩ := runExecs_spec fixed name history {} (J_init name "1")
  obtain ⟨w', ran, hr, h⟩ := runWorkflow_spec fixed name w ts hj
  exact ⟨w, w', _, ran, hw, hr, h.pre, h.valid⟩

/-- With the rollback issued only after `record_job_start` the statement is false: run `[a]`; the edited chain `[b]`
is killed right after `b` started writing — its rollback is lost —; the reverted chain `[a]` then replays the
rolled-back state, runs nothing, and the external system holds `b`.  In the code's order the same history re-runs
`a`. -/
theorem late_rollback_refuted :
    (match runExecs true false "h" {} [.ok ["a"], .killed ["b"] 0] with
      | .ok w => (match runWorkflow true w "h" ["a"] with
        | .ok (w', _, ran) => (ran, w'.ext)
        | .error _ => ([], []))
      | .error _ => ([], [])) = ([], ["b"]) ∧
    (match runExecs true true "h" {} [.ok ["a"], .killed ["b"] 0] with
      | .ok w => (match runWorkflow true w "h" ["a"] with
        | .ok (w', _, ran) => (ran, w'.ext)
        | .error _ => ([], []))
      | .error _ => ([], [])) = (["a"], ["a"]) :=
  ⟨rfl, rfl⟩

/-- **No invalidated handle state is ever replayed.**  After any history of executions of chain workflows on
`Handle(name)` (any task lists: edits, reverts, shorter and longer chains), one more execution of the chain `ts`
succeeds, its result is a valid state, and the external system reflects the requested chain `ts` (as a prefix of
`ext`, see `crash_no_stale_replay`): every task whose cached result had been superseded was re-executed.  Holds for the repaired and for the unrepaired
backend. -/
theorem chain_no_stale_replay (fixed : Bool) (name : String) (history : List (List String)) (ts : List String) :
    ∃ w w' final ran, runWorkflows fixed name {} history = .ok w ∧
      runWorkflow fixed w name ts = .ok (w', final, ran) ∧ ts <+: w'.ext ∧ (ts = [] ∨ w'.st.isValid final = true) :=
  let ⟨w, w', final, ran, hw, h⟩ := crash_no_stale_replay fixed name (history.map .ok) ts
  ⟨w, w', final, ran, runExecs_ok fixed true name history {} ▸ hw, h⟩

/-- non-vacuity: run `[a, b]`, edit the second task (`[a, c]`), revert (`[a, b]`): the reverted task runs again -/
example : (match runWorkflows false "h" {} [["a", "b"], ["a", "c"]] with
    | .ok w => (match runWorkflow false w "h" ["a", "b"] with
      | .ok (w', _, ran) => (ran, w'.ext)
      | .error _ => ([], []))
    | .error _ => ([], [])) = (["b"], ["a", "b"]) := rfl

end RedunModel.C25
