/-
C31 — Value storage location is transparent.

Model: `Model/ValueStore.lean` (`record` = `record_value`, `get` = `get_value`, value store `put`/`get`,
`FileCache.serialize/deserialize`).  Definitions of the invariant (`Inv`, `Complete`, `Reach`) and helper lemmas
are in `Lemmas/ValueStore.lean`.  `fn` (the FileCache naming function) is arbitrary throughout.

Statement, clause by clause:
 * "a recorded value reads back with the same hash whether its bytes were kept in the database or offloaded to a
   configured value store or file cache"   → `roundtrip`, `roundtrip_reachable`, `location_transparent`,
                                              `record_again_same_answer`
 * "values larger than the configured maximum are rejected rather than truncated"
                                            → `too_large_rejected`, `within_limit_accepted`
 * "a value whose offloaded bytes are missing reads as absent rather than as a different value"
                                            → `missing_is_absent`, `outage_is_absent`, `missing_file_cache_is_absent`,
                                              `never_a_different_value`, `get_never_fails_with_store`
 * quantifier "… or recorded twice"         → `record_twice`, `record_again_same_answer`, `rerecord_heals`,
                                              `put_existing_is_noop`, `rerecord_store_unchanged`, `watch_reads_value`
 Invariant: `inv_init`, `inv_record`, `inv_env`, `reachable_inv`.  Remark: `zero_length_remark`.
-/
import RedunModel.Lemmas.ValueStore
namespace RedunModel.C31
open RedunModel.ValueStore

variable (fn : Bytes → Bytes)

theorem inv_init (b : Bool) : Inv fn (St.init b) ∧ Complete (St.init b) := by
  -- no rows, no FileCache files, and a store that is empty if there is one
  refine ⟨⟨nofun, nofun, fun st hs k d hd => ?_, nofun⟩, nofun⟩
  cases b
  · cases hs
  · cases hs; cases hd

/-- the environment operations keep the invariant (deleting a store file breaks only `Complete`) -/
theorem inv_env (s : St) (hI : Inv fn s) :
    Inv fn (attachStore s) ∧ (∀ f, Inv fn (dropFc f s)) ∧ (∀ k, Inv fn (dropStore k s)) ∧
    (Complete s → Complete (attachStore s) ∧ ∀ f, Complete (dropFc f s)) := by
  refine ⟨⟨hI.row, fun _ _ => rfl, fun st hs k b hb => ?_, hI.fc⟩,
    fun f => ⟨hI.row, hI.placeholder, hI.store, fun f' c h => hI.fc f' c (of_lookup_dropKey h)⟩,
    fun k => ⟨hI.row, fun k' h => ?_, fun st hs k' b hb => ?_, hI.fc⟩, fun hC => ⟨fun k h => ?_, fun f => hC⟩⟩
  · cases h0 : s.store with
    | none => rw [attachStore, h0] at hs; cases hs; cases hb
    | some st0 => rw [attachStore, h0] at hs; cases hs; exact hI.store _ h0 k b hb
  · rw [dropStore, Option.isSome_map]; exact hI.placeholder k' h
  · obtain ⟨st0, h0, rfl⟩ := Option.map_eq_some_iff.mp hs
    exact hI.store _ h0 k' b (of_lookup_dropKey hb)
  · obtain ⟨st, b, hs, hb⟩ := hC k h
    exact ⟨st, b, by rw [attachStore, hs]; rfl, hb⟩

theorem reachable_inv (s : St) (h : Reach fn s) : Inv fn s ∧ Complete s := by
  induction h with
  | init b => exact inv_init fn b
  | record s v cfg _ hne ih => exact ⟨inv_record fn v cfg s ih.1 hne, complete_record fn v cfg s ih.2 hne⟩
  | attach s _ ih => exact ⟨(inv_env fn s ih.1).1, ((inv_env fn s ih.1).2.2.2 ih.2).1⟩
  | dropFc s f _ ih => exact ⟨(inv_env fn s ih.1).2.1 f, ((inv_env fn s ih.1).2.2.2 ih.2).2 f⟩

/-- **Round trip.** For every threshold configuration: recording a value (that is not too large) in a state with no
missing offloaded bytes returns the value's hash, and reading that hash gives the value back. -/
theorem roundtrip (v : Val) (cfg : Cfg) (s : St) (hI : Inv fn s) (hC : Complete s) (hne : ser fn v ≠ [])
    (hle : (ser fn v).length ≤ cfg.maxSize) :
    (record fn v cfg s).2 = .ok (key fn v) ∧ ValueStore.get (key fn v) (record fn v cfg s).1 = .ok (some v) := by
  refine ⟨by rw [record_ok fn hle], ?_⟩
  exact roundtrip_core fn v cfg s hI hne hle (fun h => Or.inl (hasObject_iff.mpr (hC _ h)))

theorem roundtrip_reachable (v : Val) (cfg : Cfg) (s : St) (hR : Reach fn s) (hne : ser fn v ≠ [])
    (hle : (ser fn v).length ≤ cfg.maxSize) :
    (record fn v cfg s).2 = .ok (key fn v) ∧ ValueStore.get (key fn v) (record fn v cfg s).1 = .ok (some v) :=
  roundtrip fn v cfg s (reachable_inv fn s hR).1 (reachable_inv fn s hR).2 hne hle

/-- **Location transparency.** Two backends in any reachable states (with or without a store), any two threshold
configurations: the same value reads back identically, under the same hash. -/
theorem location_transparent (v : Val) (c1 c2 : Cfg) (s1 s2 : St) (h1 : Reach fn s1) (h2 : Reach fn s2)
    (hne : ser fn v ≠ []) (hl1 : (ser fn v).length ≤ c1.maxSize) (hl2 : (ser fn v).length ≤ c2.maxSize) :
    (record fn v c1 s1).2 = (record fn v c2 s2).2 ∧
    ValueStore.get (key fn v) (record fn v c1 s1).1 = ValueStore.get (key fn v) (record fn v c2 s2).1 := by
  obtain ⟨a1, b1⟩ := roundtrip_reachable fn v c1 s1 h1 hne hl1
  obtain ⟨a2, b2⟩ := roundtrip_reachable fn v c2 s2 h2 hne hl2
  exact ⟨by rw [a1, a2], by rw [b1, b2]⟩

/-- **Too large ⇒ rejected, nothing written** to the Value table or the value store (a FileCache value has by then
written its own file: `serialize()` runs before the size test). -/
theorem too_large_rejected (v : Val) (cfg : Cfg) (s : St) (hgt : (ser fn v).length > cfg.maxSize) :
    (record fn v cfg s).2 = .error .tooLarge ∧ (record fn v cfg s).1.db = s.db ∧ (record fn v cfg s).1.store = s.store := by
  rw [record_too_large fn (Nat.not_le.mpr hgt)]
  exact ⟨rfl, (serialize_db fn v s).1, (serialize_db fn v s).2⟩

theorem within_limit_accepted (v : Val) (cfg : Cfg) (s : St) (hle : (ser fn v).length ≤ cfg.maxSize) :
    (record fn v cfg s).2 = .ok (key fn v) := by rw [record_ok fn hle]

/-- **Never a different value.** In every state satisfying the invariant (missing bytes included), a successful read
of hash `k` returns a value whose hash is `k`. -/
theorem never_a_different_value (s : St) (hI : Inv fn s) (k : Key) (v : Val) (h : ValueStore.get k s = .ok (some v)) :
    key fn v = k := by
  rw [get_eq fn s hI k, Except.ok.injEq] at h
  split at h
  · exact deser_key fn s hI k v h
  · cases h

/-- **Missing offloaded bytes ⇒ absent.** -/
theorem missing_is_absent (s : St) (hI : Inv fn s) (k : Key) (h : lookup k s.db = some []) :
    ValueStore.get k (dropStore k s) = .ok none := by
  have := hI.placeholder k h
  cases hs : s.store with
  | none => simp [hs] at this
  | some st => simp [ValueStore.get, dropStore, h, hs, lookup_dropKey]

/-- A read during a store outage (directory moved away) of an offloaded value is *absent* — and, `getAway` being a
function of the state that does not change it, every later read (`get`, by any backend sharing the database and the
store: the model has no per-process state) answers from the restored store again: `roundtrip_reachable` applies
unchanged.  A per-process memo of "missing" objects is therefore not a behaviour of the model. -/
theorem outage_is_absent (s : St) (hI : Inv fn s) (k : Key) (h : lookup k s.db = some []) :
    getAway k s = .ok none := by
  have := hI.placeholder k h
  cases hs : s.store with
  | none => simp [hs] at this
  | some st => simp [getAway, ValueStore.get, h, hs, lookup]

/-- **Missing FileCache file ⇒ absent** (never an error, never another value). -/
theorem missing_file_cache_is_absent (s : St) (hI : Inv fn s) (k : Key) (hk : k.1 = true) (r : Option Val)
    (h : ValueStore.get k (dropFc k.2 s) = .ok r) : r = none := by
  rw [get_eq fn _ ((inv_env fn s hI).2.1 k.2) k, Except.ok.injEq] at h
  rw [← h]
  simp [deser, hk, dropFc, lookup_dropKey]

/-- **Recorded twice** with the same configuration: the second call changes nothing and returns the same hash. -/
theorem record_twice (v : Val) (cfg : Cfg) (s : St) (hle : (ser fn v).length ≤ cfg.maxSize) :
    record fn v cfg (record fn v cfg s).1 = ((record fn v cfg s).1, .ok (key fn v)) := by
  -- the same offload decision is taken again, and `put`ting the same row and object a second time changes nothing
  have ho : offloads (record fn v cfg s).1 (ser fn v).length cfg = offloads s (ser fn v).length cfg := by
    unfold offloads; rw [record_store_isSome]
  have hfc : (serialize fn v (record fn v cfg s).1).fc = (record fn v cfg s).1.fc := by
    cases v with
    | plain d => rfl
    | fcache p =>
      show (fn p, p) :: dropKey (fn p) (record fn (.fcache p) cfg s).1.fc = _
      rw [record_fc, serialize, dropKey_cons_self, dropKey_idem]
  rw [record_ok fn (s := (record fn v cfg s).1) hle, ho, hfc, record_ok fn hle]
  dsimp only
  rw [put_put]
  split
  · rw [Option.map_map]; simp only [Function.comp_def, put_put]
  · rfl

/-- Recorded again under *another* configuration (e.g. first without, then with offloading): still the same answer. -/
theorem record_again_same_answer (v : Val) (c1 c2 : Cfg) (s : St) (hR : Reach fn s) (hne : ser fn v ≠ [])
    (hl1 : (ser fn v).length ≤ c1.maxSize) (hl2 : (ser fn v).length ≤ c2.maxSize) :
    ValueStore.get (key fn v) (record fn v c2 (record fn v c1 s).1).1 = .ok (some v) ∧
    ValueStore.get (key fn v) (record fn v c1 s).1 = .ok (some v) :=
  ⟨(roundtrip_reachable fn v c2 _ (Reach.record s v c1 hR hne) hne hl2).2, (roundtrip_reachable fn v c1 s hR hne hl1).2⟩

/-- After the offloaded bytes went missing, recording the value again with a configuration that offloads restores it. -/
theorem rerecord_heals (v : Val) (cfg : Cfg) (s : St) (hI : Inv fn s) (hne : ser fn v ≠ [])
    (hle : (ser fn v).length ≤ cfg.maxSize) (hoff : offloads (dropStore (key fn v) s) (ser fn v).length cfg = true) :
    ValueStore.get (key fn v) (record fn v cfg (dropStore (key fn v) s)).1 = .ok (some v) :=
  roundtrip_core fn v cfg _ ((inv_env fn s hI).2.2.1 _) hne hle (fun _ => Or.inr hoff)

/-- Under the invariant `get` never fails (the AssertionError branch needs a placeholder row without a configured
store, which no reachable state has). -/
theorem get_never_fails_with_store (s : St) (hI : Inv fn s) (k : Key) : ∃ r, ValueStore.get k s = .ok r :=
  ⟨_, get_eq fn s hI k⟩

/-- **An existing object is never opened for writing**: `ValueStore.put` on a hash that is present changes nothing. -/
theorem put_existing_is_noop (st : List (Key × Bytes)) (k : Key) (b d : Bytes) (h : lookup k st = some b) :
    put st k d = st := by
  simp [put, h]

/-- … hence re-recording a value whose object exists leaves the whole store as it was (whatever the thresholds, and
whether or not the call is rejected as too large): there is no window in which its bytes are incomplete, and a write
fault cannot destroy them. -/
theorem rerecord_store_unchanged (v : Val) (cfg : Cfg) (s : St) (h : hasObject (key fn v) s = true) :
    (record fn v cfg s).1.store = s.store := by
  by_cases hle : (ser fn v).length ≤ cfg.maxSize
  · obtain ⟨st, b, hs, hb⟩ := hasObject_iff.mp h
    rw [record_ok fn hle, hs]
    dsimp only
    split
    · rw [Option.map_some, put_existing_is_noop st _ b _ hb]
    · rfl
  · rw [record_too_large fn hle]
    exact (serialize_db fn v s).2

/-- A reader that looks at a recorded, intact value while another backend re-records it gets the value — never an
error, never absent. -/
theorem watch_reads_value (v : Val) (cfg : Cfg) (s : St) (hI : Inv fn s) (hne : ser fn v ≠ [])
    (hrow : (lookup (key fn v) s.db).isSome = true) (hobj : hasObject (key fn v) s = true) :
    (recordWatch fn v cfg s).2 = some (.ok (some v)) := by
  -- the reader sees the state right after `serialize()`: same rows and store, the value's file in place
  obtain ⟨hdb, hst⟩ := serialize_db fn v s
  have hobj' : hasObject (key fn v) (serialize fn v s) = true := by rw [← hobj]; unfold hasObject; rw [hst]
  rw [recordWatch, if_pos hobj, get_of_row fn _ (inv_serialize fn v s hI) _ (by rw [hdb]; exact hrow) fun _ => hobj']
  exact congrArg _ (congrArg _ (deser_after_serialize fn v s _ rfl))

/-- `FileCache.serialize` always (re)writes its file: whatever was at that name before — nothing, the right bytes, or
the partial file of an interrupted earlier write (`faultFc`) — recording the value again makes the file hold the
payload (that the read then gives the value back is `rerecord_after_faulted_first_write`). -/
theorem serialize_repairs_partial_file (p : Bytes) (s : St) :
    lookup (fn p) (serialize fn (.fcache p) s).fc = some p ∧
    lookup (fn p) (serialize fn (.fcache p) (faultFc fn p s)).fc = some p := by
  simp [serialize, faultFc]

theorem rerecord_after_faulted_first_write (p : Bytes) (cfg : Cfg) (s : St) (hI : Inv fn s) (hne : fn p ≠ [])
    (hle : (fn p).length ≤ cfg.maxSize) (hC : Complete s) :
    ValueStore.get (key fn (.fcache p)) (record fn (.fcache p) cfg (faultFc fn p s)).1 = .ok (some (.fcache p)) := by
  -- `record` looks at the FileCache files only through `serialize`, which overwrites: same result as from `s`
  have h1 : record fn (.fcache p) cfg (faultFc fn p s) = record fn (.fcache p) cfg s := by
    simp [record, serialize, faultFc, dropKey_cons_self, dropKey_idem]
  rw [h1]
  exact (roundtrip fn (.fcache p) cfg s hI hC (by simpa [ser] using hne) (by simpa [ser] using hle)).2

/-- Remark, outside the quantifier of the theorems above (`ser fn v ≠ []`): a value whose serialisation is zero bytes
is indistinguishable from the placeholder — recorded inline, it reads as absent. -/
theorem zero_length_remark :
    ValueStore.get (key fn (.plain [])) (record fn (.plain []) ⟨1000, 1000⟩ (St.init true)).1 = .ok none := by
  simp [record, serialize, ser, key, isFc, St.init, overhead, ValueStore.get, lookup]

-- The theorems above on a concrete backend: their hypotheses can be met.
section Examples
def exFn : Bytes → Bytes := fun p => 47 :: p
def exV : Val := .plain [128, 1]
def exS : St := (record exFn exV ⟨0, 100⟩ (St.init true)).1

example : Reach exFn exS := Reach.record _ _ _ (Reach.init true) (by decide)
/-- offloaded: placeholder row + store file; reads back; deleting the bytes makes it absent; recording again heals -/
example : exS.db = [((false, [128, 1]), [])] ∧ exS.store = some [((false, [128, 1]), [128, 1])] := by decide
example : ValueStore.get (key exFn exV) exS = .ok (some exV) := by rfl
example : ValueStore.get (key exFn exV) (dropStore (key exFn exV) exS) = .ok none := by rfl
example : ValueStore.get (key exFn exV) (record exFn exV ⟨0, 100⟩ (dropStore (key exFn exV) exS)).1 = .ok (some exV) := by rfl
/-- kept inline without a store: same answer -/
example : ValueStore.get (key exFn exV) (record exFn exV ⟨0, 100⟩ (St.init false)).1 = .ok (some exV) := by rfl
/-- too large -/
example : (record exFn exV ⟨0, 1⟩ (St.init true)).2 = .error .tooLarge := by rfl
/-- FileCache value: file deleted ⇒ absent -/
example : ValueStore.get (key exFn (.fcache [7])) (record exFn (.fcache [7]) ⟨1000, 100⟩ (St.init true)).1 = .ok (some (.fcache [7])) := by
  rfl
example : ValueStore.get (key exFn (.fcache [7])) (dropFc [47, 7] (record exFn (.fcache [7]) ⟨1000, 100⟩ (St.init true)).1) = .ok none := by
  rfl
end Examples

end RedunModel.C31
