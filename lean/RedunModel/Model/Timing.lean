/-
Model for C07 (results and recorded call graph do not depend on timing).  Core Lean only.

Mirrors: `hash_call_node` (redun/hashing.py: child call hashes are *sorted*), `_resolve_job_main_thread`
(`child_call_hashes = [c.call_hash for c in job.child_jobs if c.call_hash]`), `record_call_node` / `_record_args`
(CallNode, CallEdge, Argument rows), `Scheduler.evaluate` / `cond` (children of one parent job are created in an
order that depends on which sibling finished first), `_preprocess_args` + `Handle.preprocess` / `fork` /
`apply_call` (handle fork key = per-parent counter of entries into `_exec_job_main_thread`), `fork_thread`.

Hashes are symbolic (pre-images).  The order `sorted()` uses is the order of the hex digests, about which the
model knows nothing: every definition takes the order `le` as a parameter and every theorem holds for every
total order (`TotalOrder le`).
-/
import RedunModel.Model.Cmp
namespace RedunModel.Timing

/-- value hashes: ints, and `Handle.get_hash` pre-images
* `hinit name key`          `["Handle", fullname, "init", key, args_hash, kwargs_hash]` (constructor arguments fixed)
* `hfork name key parent`   `["Handle", fullname, "call_hash", key, <hash of the handle forked>]`  (`Handle.fork`)
* `happly name task h z`    `["Handle", fullname, "call_hash", "", ["Eval", task, [h, z]]]`        (`apply_call`)
The empty key `""` is `0`; counter keys `str(n)` are `n ≥ 1`. -/
inductive HV where
  | int (z : Int)
  | hinit (name key : Nat)
  | hfork (name key : Nat) (parent : HV)
  | happly (name task : Nat) (h : HV) (z : Int)
  deriving DecidableEq, Repr, Inhabited

/-- call hash pre-image `["CallNode", task_hash, args_hash, result_hash, sorted(child_call_hashes)]` -/
inductive H where
  | call (task : Nat) (args : List HV) (res : HV) (kids : List H)
  deriving Repr, Inhabited

/-- what the theorems need of the order of the digests -/
structure TotalOrder (le : H → H → Bool) : Prop where
  total : ∀ a b, (le a b || le b a) = true
  antisymm : ∀ a b, le a b = true → le b a = true → a = b
  trans : ∀ a b c, le a b = true → le b c = true → le a c = true

/-- `sorted(child_call_hashes)` -/
def sortH (le : H → H → Bool) (l : List H) : List H := l.mergeSort le

/-- `hash_call_node` -/
def hashCallNode (le : H → H → Bool) (task : Nat) (args : List HV) (res : HV) (kids : List H) : H :=
  .call task args res (sortH le kids)

/-! ### job trees and what is recorded for them -/

/-- a finished job with `child_jobs` in the order the scheduler holds them.  `args`: the preprocessed arguments
(`job.args`: handles forked) that the args hash covers; `eargs`: the evaluated arguments (`job.eval_args`) whose value
hashes the Argument rows record.  `seen = false`: the child had no call hash yet when its parent ended (possible only
for a `fork_thread` child) -/
inductive JT where
  | node (task : Nat) (args eargs : List HV) (res : HV) (seen : Bool) (kids : List JT)
  deriving Repr, Inhabited

def JT.seen : JT → Bool
  | .node _ _ _ _ s _ => s

mutual
  /-- `job.call_hash` -/
  def callHash (le : H → H → Bool) : JT → H
    | .node t a _ r _ kids => hashCallNode le t a r (kidHashes le kids)
  /-- `[child.call_hash for child in job.child_jobs if child.call_hash]` -/
  def kidHashes (le : H → H → Bool) : List JT → List H
    | [] => []
    | k :: ks => (if k.seen then [callHash le k] else []) ++ kidHashes le ks
end

/-- rows of the call graph: `CallNode(call_hash)`, `Argument(call_hash, position, value_hash)`,
`CallEdge(parent, child)` (`call_order`, timestamps and ids are not part of the property) -/
inductive Row where
  | node (h : H)
  | arg (h : H) (pos : Nat) (v : HV)
  | edge (p c : H)
  deriving Repr, Inhabited

def argRows (h : H) : Nat → List HV → List Row
  | _, [] => []
  | i, v :: vs => Row.arg h i v :: argRows h (i + 1) vs

/-- what `record_call_node` writes for one job, given the child hashes it lists -/
def ownRows (le : H → H → Bool) (t : Nat) (a ea : List HV) (r : HV) (khs : List H) : List Row :=
  let h := hashCallNode le t a r khs
  Row.node h :: (argRows h 0 ea ++ khs.map (Row.edge h))

mutual
  /-- all rows recorded for the jobs of a tree that ended (an unseen child has not ended) -/
  def rows (le : H → H → Bool) : JT → List Row
    | .node t a ea r _ kids => ownRows le t a ea r (kidHashes le kids) ++ rowsL le kids
  def rowsL (le : H → H → Bool) : List JT → List Row
    | [] => []
    | k :: ks => (if k.seen then rows le k else []) ++ rowsL le ks
end

/-! ### programs without handles and `fork_thread`: evaluation under an arbitrary order of the children -/

inductive Expr where
  | lit (v : HV)
  | add (a b : Expr)
  | call (n : Nat) (arg : Expr)
  | cond (c a b : Expr)
  deriving DecidableEq, Repr, Inhabited

/-- task bodies: what the task function returns on an (evaluated) argument -/
structure Prog where
  body : Nat → HV → Expr

def addV : HV → HV → HV
  | .int x, .int y => .int (x + y)
  | a, _ => a

def truthy : HV → Bool
  | .int z => z != 0
  | _ => true

/-- `Ev P e v ks`: evaluating `e` under some parent job can end with value `v` and with `ks` as the part of the
parent's `child_jobs` created for it.  The scheduler creates a child when the promises it depends on have been
resolved, so the order of `ks` depends on which sibling job completed first; the relation allows **every**
order (`List.Perm`), hence every order any schedule and any limit configuration can produce. -/
inductive Ev (P : Prog) : Expr → HV → List JT → Prop
  | lit (v : HV) : Ev P (.lit v) v []
  | add {a b : Expr} {va vb : HV} {ka kb ks : List JT} :
      Ev P a va ka → Ev P b vb kb → ks.Perm (ka ++ kb) → Ev P (.add a b) (addV va vb) ks
  | call {n : Nat} {a : Expr} {va r : HV} {ka kids ks : List JT} :
      Ev P a va ka → Ev P (P.body n va) r kids → ks.Perm (JT.node n [va] [va] r true kids :: ka) →
      Ev P (.call n a) r ks
  | condT {c a b : Expr} {vc va : HV} {kc ka ks : List JT} :
      Ev P c vc kc → truthy vc = true → Ev P a va ka → ks.Perm (kc ++ ka) → Ev P (.cond c a b) va ks
  | condF {c a b : Expr} {vc vb : HV} {kc kb ks : List JT} :
      Ev P c vc kc → truthy vc = false → Ev P b vb kb → ks.Perm (kc ++ kb) → Ev P (.cond c a b) vb ks

/-- one particular order (the one the driver prints): children in creation order of a depth-first run -/
def evalC (P : Prog) : Nat → Expr → Option (HV × List JT)
  | 0, _ => none
  | _ + 1, .lit v => some (v, [])
  | n + 1, .add a b =>
    match evalC P n a, evalC P n b with
    | some (va, ka), some (vb, kb) => some (addV va vb, ka ++ kb)
    | _, _ => none
  | n + 1, .call t a =>
    match evalC P n a with
    | some (va, ka) =>
      match evalC P n (P.body t va) with
      | some (r, kids) => some (r, JT.node t [va] [va] r true kids :: ka)
      | none => none
    | none => none
  | n + 1, .cond c a b =>
    match evalC P n c with
    | some (vc, kc) =>
      match evalC P n (if truthy vc then a else b) with
      | some (v, k) => some (v, kc ++ k)
      | none => none
    | none => none

/-! ### handles: the fork key -/

/-- `__handle__.key` (0 = empty) -/
def HV.key : HV → Nat
  | .hinit _ k => k
  | .hfork _ k _ => k
  | _ => 0

def HV.hname : HV → Nat
  | .hinit n _ => n
  | .hfork n _ _ => n
  | .happly n _ _ _ => n
  | .int _ => 0

/-- one entry of a child job into `_exec_job_main_thread`: which sibling, and the handle it passes -/
structure Entry where
  sib : Nat
  h : HV
  deriving DecidableEq, Repr, Inhabited

/-- `parent_job.handle_forks` and the fork key each sibling's submitted arguments carry -/
structure Forks where
  count : List (HV × Nat) := []
  key : List (Nat × Nat) := []
  deriving Repr, Inhabited

def getCount (c : List (HV × Nat)) (h : HV) : Nat :=
  match c with
  | [] => 0
  | (h', n) :: r => if h' = h then n else getCount r h

def setCount (c : List (HV × Nat)) (h : HV) (n : Nat) : List (HV × Nat) :=
  match c with
  | [] => [(h, n)]
  | (h', m) :: r => if h' = h then (h, n) :: r else (h', m) :: setCount r h n

def getKey (k : List (Nat × Nat)) (s : Nat) : Option Nat :=
  match k with
  | [] => none
  | (s', n) :: r => if s' = s then some n else getKey r s

def setKey (k : List (Nat × Nat)) (s n : Nat) : List (Nat × Nat) :=
  match k with
  | [] => [(s, n)]
  | (s', m) :: r => if s' = s then (s, n) :: r else (s', m) :: setKey r s n

/-- `_preprocess_args` for one entry.  `recount = true`: the code as found (every entry, also the re-entry of a job
that waited for a resource limit, bumps the counter and forks again); `recount = false`: after
C07-limits-reentry-preprocess.fix.diff (only the first entry preprocesses). -/
def enter (recount : Bool) (f : Forks) (e : Entry) : Forks :=
  if !recount && (getKey f.key e.sib).isSome then f
  else
    let n := getCount f.count e.h + 1
    { count := setCount f.count e.h n, key := setKey f.key e.sib n }

def enterAll (recount : Bool) (es : List Entry) : Forks := es.foldl (enter recount) {}

/-- the counter value the sibling's submitted arguments were preprocessed with -/
def callOrder (recount : Bool) (es : List Entry) (s : Nat) : Option Nat := getKey (enterAll recount es).key s

/-- `Handle.preprocess`: `self.fork(self.__handle__.key or str(call_order))` -/
def forkArg (h : HV) (callOrder : Nat) : HV := .hfork h.hname (if h.key ≠ 0 then h.key else callOrder) h

/-- the entries of siblings not seen before, in order -/
def firstFrom (seen : List Nat) : List Entry → List Entry
  | [] => []
  | e :: r => if e.sib ∈ seen then firstFrom seen r else e :: firstFrom (e.sib :: seen) r

/-- the first entry of every sibling, in order -/
def firstEntries (es : List Entry) : List Entry := firstFrom [] es

/-- the same job with the `seen` flag set -/
def JT.setSeen (s : Bool) : JT → JT
  | .node t a ea r _ kids => .node t a ea r s kids

/-! ### a concrete order on call hashes (proved total in Lemmas/TimingOrder; the driver sorts with it) -/

def encInt (z : Int) : Nat := if 0 ≤ z then 2 * z.toNat else 2 * (-z).toNat + 1

abbrev Frame := Nat × Nat × Nat × Nat

def frames : HV → List Frame
  | .int z => [(0, 0, 0, encInt z)]
  | .hinit n k => [(1, n, k, 0)]
  | .hfork n k p => (2, n, k, 0) :: frames p
  | .happly n t h z => (3, n, t, encInt z) :: frames h

def cmpFrame : Frame → Frame → Ordering := cmpProd compare (cmpProd compare (cmpProd compare compare))

def cmpHV (a b : HV) : Ordering := cmpList cmpFrame (frames a) (frames b)

/-- task hash, argument hashes, result hash of a call node -/
abbrev Atom := Nat × List HV × HV

def cmpAtom : Atom → Atom → Ordering := cmpProd compare (cmpProd (cmpList cmpHV) cmpHV)

mutual
  def H.cmp : H → H → Ordering
    | .call t a r k, .call t' a' r' k' => (cmpAtom (t, a, r) (t', a', r')).then (H.cmpL k k')
  def H.cmpL : List H → List H → Ordering
    | [], [] => .eq
    | [], _ :: _ => .lt
    | _ :: _, [] => .gt
    | x :: xs, y :: ys => (H.cmp x y).then (H.cmpL xs ys)
end

/-- the order the driver sorts with -/
def H.le (a b : H) : Bool := H.cmp a b != .gt


/-! ### programs given by templates (driver, generated workflows) -/

inductive Tm where
  | arg
  | lit (z : Int)
  | add (a b : Tm)
  | call (n : Nat) (t : Tm)
  | cond (c a b : Tm)
  deriving Repr, Inhabited

/-- the expression the task function returns: Python adds two concrete ints at once, anything else stays lazy -/
def inst (x : HV) : Tm → Expr
  | .arg => .lit x
  | .lit z => .lit (.int z)
  | .add s t =>
    match inst x s, inst x t with
    | .lit (.int a), .lit (.int b) => .lit (.int (a + b))
    | es, et => .add es et
  | .call n t => .call n (inst x t)
  | .cond c a b => .cond (inst x c) (inst x a) (inst x b)

def lookupTm (n : Nat) : List (Nat × Tm) → Tm
  | [] => .lit 0
  | (m, t) :: r => if m = n then t else lookupTm n r

def tableProg (tbl : List (Nat × Tm)) : Prog where
  body n x := inst x (lookupTm n tbl)

/-! ### the handle workflows of the tie: `main()` creates handles and passes them to sibling jobs -/

/-- where a lane's handle comes from: the handle all lanes share, a handle of its own, or an explicit fork
`shared.fork("k")` -/
inductive Src where
  | shared
  | own (name : Nat)
  | prekeyed (key : Nat)
  deriving Repr, Inhabited

/-- one lane `use(src, b)` or `use(step(src, a), b)`; `step` returns the handle, `use` returns `b` -/
structure Lane where
  src : Src
  step : Option Int
  b : Int
  deriving Repr, Inhabited

def sharedH : HV := .hinit 1 0

def Src.hv : Src → HV
  | .shared => sharedH
  | .own n => .hinit n 0
  | .prekeyed k => .hfork 1 k sharedH

def taskMain : Nat := 0
def taskUse : Nat := 1
def taskStep : Nat := 2

/-- job ids under `main`: lane `i` has `use` = `2 i` and `step` = `2 i + 1` -/
def laneJobs (co : Nat → Option Nat) : Nat → List Lane → List JT
  | _, [] => []
  | i, l :: r =>
    let h0 := l.src.hv
    let js :=
      match l.step with
      | none =>
        let a := forkArg h0 ((co (2 * i)).getD 0)
        [JT.node taskUse [a, .int l.b] [h0, .int l.b] (.int l.b) true []]
      | some z =>
        let a1 := forkArg h0 ((co (2 * i + 1)).getD 0)
        let h1 := HV.happly a1.hname taskStep a1 z        -- `apply_call(pre_call_hash = eval hash of step(a1, z))`
        let a2 := forkArg h1 ((co (2 * i)).getD 0)
        [JT.node taskStep [a1, .int z] [h0, .int z] h1 true [],
         JT.node taskUse [a2, .int l.b] [h1, .int l.b] (.int l.b) true []]
    js ++ laneJobs co (i + 1) r

/-- the handle each job passes, in terms of the counter values: needed to replay `handle_forks` -/
def laneHandle (co : Nat → Option Nat) (lanes : List Lane) (job : Nat) : HV :=
  match lanes[job / 2]? with
  | none => .int 0
  | some l =>
    let h0 := l.src.hv
    match l.step with
    | none => h0
    | some z =>
      if job % 2 = 1 then h0
      else
        let a1 := forkArg h0 ((co (job + 1)).getD 0)
        HV.happly a1.hname taskStep a1 z

/-- Replays the observed order of entries: the handle a job passes is known once the jobs before it have entered
(a `use` after a `step` enters after that `step` ended). -/
def replay (recount : Bool) (lanes : List Lane) : List Nat → Forks → List Entry → Forks × List Entry
  | [], f, acc => (f, acc.reverse)
  | j :: r, f, acc =>
    let e : Entry := ⟨j, laneHandle (getKey f.key) lanes j⟩
    replay recount lanes r (enter recount f e) (e :: acc)

/-- the entries `replay` goes through, as a list (what the fork-key theorems speak about) -/
def replayEntries (recount : Bool) (lanes : List Lane) : List Nat → Forks → List Entry
  | [], _ => []
  | j :: r, f =>
    let e : Entry := ⟨j, laneHandle (getKey f.key) lanes j⟩
    e :: replayEntries recount lanes r (enter recount f e)

def handleTree (recount : Bool) (lanes : List Lane) (entries : List Nat) (extra : List JT) : JT :=
  let f := (replay recount lanes entries {} []).1
  let res := lanes.foldl (fun s l => s + l.b) 0
  JT.node taskMain [] [] (.int res) true (laneJobs (getKey f.key) 0 lanes ++ extra)

/-! ### a side condition of the tie: `Scheduler._evaluate_apply` evaluates two equal expressions under one parent
job only once (`_pending_expr`, C06); the model has no such memo, so the harness discards workflows in which a task
function returns an expression with two equal non-literal sub-expressions -/

def subExprs : Expr → List Expr
  | .lit _ => []
  | .add a b => .add a b :: (subExprs a ++ subExprs b)
  | .call n a => .call n a :: subExprs a
  | .cond c a b => .cond c a b :: (subExprs c ++ subExprs a ++ subExprs b)

def hasDup : List Expr → Bool
  | [] => false
  | e :: r => r.contains e || hasDup r

mutual
  def dupIn (P : Prog) : JT → Bool
    | .node t a _ _ _ kids =>
      (match a with
       | [va] => hasDup (subExprs (P.body t va))
       | _ => false) || dupInL P kids
  def dupInL (P : Prog) : List JT → Bool
    | [] => false
    | k :: ks => dupIn P k || dupInL P ks
end

/-! ### `_pending_expr`: two equal expressions under one parent job are evaluated once (no second job)

`Scheduler._evaluate_apply` keeps, per parent job and until that job is finalized, the promise of every expression it
has started; an equal expression met later under the same parent - eagerly, or in a lazily evaluated site such as a
`cond` branch - re-uses it whether or not the first evaluation has already ended.  `evalM` is `evalC` with that memo;
the driver uses it for workflows with such duplicates (`dupInL`), for which the theorems about `Ev` do not speak. -/

abbrev Memo := List (Expr × HV)

def memoGet : Memo → Expr → Option HV
  | [], _ => none
  | (e', v) :: r, e => if e' = e then some v else memoGet r e

def evalM (P : Prog) : Nat → Memo → Expr → Option (HV × List JT × Memo)
  | 0, _, _ => none
  | _ + 1, m, .lit v => some (v, [], m)
  | n + 1, m, .add a b =>
    match memoGet m (.add a b) with
    | some v => some (v, [], m)
    | none =>
      match evalM P n m a with
      | some (va, ka, m1) =>
        match evalM P n m1 b with
        | some (vb, kb, m2) => some (addV va vb, ka ++ kb, (.add a b, addV va vb) :: m2)
        | none => none
      | none => none
  | n + 1, m, .call t a =>
    match memoGet m (.call t a) with
    | some v => some (v, [], m)
    | none =>
      match evalM P n m a with
      | some (va, ka, m1) =>
        match evalM P n [] (P.body t va) with          -- a new parent job: its own `_pending_expr`
        | some (r, kids, _) => some (r, JT.node t [va] [va] r true kids :: ka, (.call t a, r) :: m1)
        | none => none
      | none => none
  | n + 1, m, .cond c a b =>
    match memoGet m (.cond c a b) with
    | some v => some (v, [], m)
    | none =>
      match evalM P n m c with
      | some (vc, kc, m1) =>
        match evalM P n m1 (if truthy vc then a else b) with
        | some (v, k, m2) => some (v, kc ++ k, (.cond c a b, v) :: m2)
        | none => none
      | none => none

end RedunModel.Timing
