/-
Model of redun/job_array.py `JobArrayer` as a two-thread transition system (core Lean only).

Threads: `S` — the thread that calls `add_job` (in redun: the scheduler thread), running
`add_job` and, through its last line, `start()`; `M` — the array-monitor thread
(`_monitor_stale_jobs`, `get_stale_descrs`, `submit_pending_jobs`), created by `start()`.
One transition per LINE event of those methods (Python 3.12 `sys.monitoring`): program counters are
named after the source line they execute (`a164` = line 164 of the unchanged file, an `x` suffix =
second visit of a `with` line when the block is left, `E` = visit on the exception path).

`Cfg` selects between the code as found (`lockScan = lockDec = false`: `get_stale_descrs` reads
`pending`/`pending_timestamps` without the lock; `num_pending -= len(jobs)` runs outside the lock
and is a read followed by a write) and the repaired code (both under `self._lock`).

Externals are parameters: the clock (`time.time`, advanced by the environment step `tick`), the
`submit_jobs` callback (recorded in `submitted`), `on_error` (recorded in `errors`).  `stop()`
and the exit flag are outside the model (property C11 quantifies over `add_job` calls and the
monitor thread).
-/
namespace RedunModel.Arrayer

/-! ### insertion-ordered dictionaries -/
abbrev Dict (α : Type) := List (Nat × α)

def dget {α : Type} : Dict α → Nat → Option α
  | [], _ => none
  | (k', v) :: r, k => if k' = k then some v else dget r k

/-- `d[k] = v`: in place when the key exists, at the end otherwise (Python dict order). -/
def dset {α : Type} : Dict α → Nat → α → Dict α
  | [], k, v => [(k, v)]
  | (k', v') :: r, k, v => if k' = k then (k', v) :: r else (k', v') :: dset r k v

/-- `del d[k]` (keys are unique in every reachable state — `Inv.keysNodup` in `Lemmas/ArrayerInv` — so removing
every entry with key `k` is removing the entry) -/
def derase {α : Type} : Dict α → Nat → Dict α
  | [], _ => []
  | (k', v') :: r, k => if k' = k then derase r k else (k', v') :: derase r k

def dkeys {α : Type} (d : Dict α) : List Nat := d.map Prod.fst

/-! ### data -/
structure Job where
  id : Nat
  descr : Nat          -- JobDescription key (task name + sorted options)
  script : Bool
  deriving DecidableEq, Repr

structure Cfg where
  lockScan : Bool      -- `get_stale_descrs` scans under `self._lock`
  lockDec : Bool       -- `num_pending -= len(jobs)` under `self._lock`
  deriving DecidableEq, Repr

def Cfg.current : Cfg := ⟨false, false⟩
def Cfg.fixed : Cfg := ⟨true, true⟩

structure Params where
  minSize : Nat
  maxSize : Nat
  staleTime : Int
  deriving Repr

inductive Err where
  | keyError
  | runtimeError       -- "dictionary changed size during iteration"
  deriving DecidableEq, Repr

inductive Tid where
  | S | M
  deriving DecidableEq, Repr

/-- program counter of the adding thread (`add_job`, `start`) -/
inductive APc where
  | a158 | a159 | a160 | a162 | a163 | a164 | a165 | a166 | a163x | a168
  | s136 | s137 | s139 | s140 | s144 | s145 | s146
  | done
  deriving DecidableEq, Repr

/-- program counter of the monitor thread -/
inductive MPc where
  | none                                   -- no monitor thread started yet
  | m122 | m123 | m124
  | g172 | gLock | g175a | g173a | g175b | g176 | g174 | g173b | g173e | gUnlock | gUnlockE | g178
  | m126 | m127
  | p183 | p184 | p185 | p183x | p183xE
  | p188 | p189 | p190 | p191 | p193 | p194 | p195 | p193x
  | p197 | p198 | p199 | p201
  | pdLock | p203 | p203w | pdUnlock
  | m128 | m132
  | mExit                                  -- `_monitor_stale_jobs` has returned; the thread is still alive until its teardown ends
  | dead
  deriving DecidableEq, Repr

structure Adder where
  pc : APc
  cur : Job            -- job of the add_job call in progress
  todo : List Job      -- calls still to be made
  deriving Repr

structure Mon where
  pc : MPc
  currtime : Nat := 0
  iterUsed : Nat := 0      -- dict size when the key iterator was created (`di_used`)
  iterRest : List Nat := [] -- keys the iterator has still to yield
  descr : Nat := 0
  isStale : Bool := false
  acc : List Nat := []     -- list under construction in the comprehension
  stales : List Nat := []  -- rest of `for descr in stales`
  jobs : List Job := []
  remainder : List Job := []
  timestamp : Nat := 0
  loopJobs : List Job := []  -- rest of `for job in jobs`
  job : Job := ⟨0, 0, false⟩
  decRead : Int := 0
  err : Err := .keyError
  deriving Repr

structure State where
  pending : Dict (List Job) := []
  stamps : Dict Nat := []
  num : Int := 0
  lock : Option Tid := Option.none
  clock : Nat := 0
  submitted : List (List Job) := []
  errors : List Err := []
  added : List Job := []       -- ghost: jobs that entered the arrayer (appended or passed through)
  started : Nat := 0           -- ghost: number of monitor threads created
  ad : Adder
  mon : Mon := { pc := .none }
  deriving Repr

def nextCall (a : Adder) : Adder :=
  match a.todo with
  | [] => { a with pc := .done }
  | j :: r => { pc := .a158, cur := j, todo := r }

def init (jobs : List Job) : State :=
  match jobs with
  | [] => { ad := { pc := .done, cur := ⟨0, 0, false⟩, todo := [] } }
  | j :: r => { ad := { pc := .a158, cur := j, todo := r } }

def monAlive (m : Mon) : Bool := m.pc != .none && m.pc != .dead

def isStaleAt (p : Params) (currtime ts : Nat) : Bool := decide ((currtime : Int) - (ts : Int) > p.staleTime)

/-- One step of the adding thread. `none` = not enabled (finished, or blocked on the lock). -/
def stepS (p : Params) (s : State) : Option State :=
  let a := s.ad
  let go (pc : APc) : Option State := some { s with ad := { a with pc := pc } }
  match a.pc with
  | .a158 => if a.cur.script || p.minSize == 0 then go .a159 else go .a162
  | .a159 => some { s with submitted := s.submitted ++ [[a.cur]], added := s.added ++ [a.cur], ad := { a with pc := .a160 } }
  | .a160 => some { s with ad := nextCall a }
  | .a162 => go .a163
  | .a163 => match s.lock with
    | Option.none => some { s with lock := some .S, ad := { a with pc := .a164 } }
    | some _ => Option.none
  | .a164 => some { s with
      pending := dset s.pending a.cur.descr (((dget s.pending a.cur.descr).getD []) ++ [a.cur]),
      added := s.added ++ [a.cur], ad := { a with pc := .a165 } }
  | .a165 => some { s with stamps := dset s.stamps a.cur.descr s.clock, ad := { a with pc := .a166 } }
  | .a166 => some { s with num := s.num + 1, ad := { a with pc := .a163x } }
  | .a163x => some { s with lock := Option.none, ad := { a with pc := .a168 } }
  | .a168 => go .s136
  | .s136 => if p.minSize == 0 then go .s137 else go .s139
  | .s137 => some { s with ad := nextCall a }
  | .s139 => if monAlive s.mon then go .s140 else go .s144
  | .s140 => some { s with ad := nextCall a }
  | .s144 => go .s145
  | .s145 => go .s146
  | .s146 => some { s with mon := { pc := .m122 }, started := s.started + 1, ad := nextCall a }
  | .done => Option.none

/-- where the comprehension goes when the iterator is exhausted -/
def afterScan (c : Cfg) : MPc := if c.lockScan then .gUnlock else .g178
def afterScanErr (c : Cfg) : MPc := if c.lockScan then .gUnlockE else .m128
def decEntry (c : Cfg) : MPc := if c.lockDec then .pdLock else .p203

/-- `next()` of the dict key iterator: CPython raises RuntimeError when the dict's size differs from the
size at iterator creation, otherwise yields the next key.  While the size is unchanged the key sequence
is the one at creation (the only concurrent mutation of `pending` during a scan is `add_job` inserting a
new key, which changes the size; deletions are done by the scanning thread itself, outside scans), so the
iterator is modelled as the key list taken at creation plus the size check. -/
def iterNext (c : Cfg) (s : State) (m : Mon) : Mon :=
  if s.pending.length != m.iterUsed then { m with err := .runtimeError, pc := .g173e }
  else match m.iterRest with
    | k :: r => { m with descr := k, iterRest := r, pc := .g175b }
    | [] => { m with stales := m.acc, pc := afterScan c }

def stepM (c : Cfg) (p : Params) (s : State) : Option State :=
  let m := s.mon
  let go (pc : MPc) : Option State := some { s with mon := { m with pc := pc } }
  let acquire (pc : MPc) : Option State :=
    match s.lock with
    | Option.none => some { s with lock := some .M, mon := { m with pc := pc } }
    | some _ => Option.none
  let release (pc : MPc) : Option State := some { s with lock := Option.none, mon := { m with pc := pc } }
  match m.pc with
  | .none => Option.none
  | .dead => Option.none
  | .m122 => go .m123
  | .m123 => go .m124
  | .m124 => go .g172
  | .g172 => some { s with mon := { m with currtime := s.clock, pc := if c.lockScan then .gLock else .g175a } }
  | .gLock => acquire .g175a
  | .g175a => go .g173a
  | .g173a => some { s with mon := iterNext c s { m with iterUsed := s.pending.length, iterRest := dkeys s.pending, acc := [] } }
  | .g175b => go .g176
  | .g176 => match dget s.stamps m.descr with
    | Option.none => some { s with mon := { m with err := .keyError, pc := .g173e } }
    | some ts => some { s with mon := { m with isStale := isStaleAt p m.currtime ts, pc := .g174 } }
  | .g174 => some { s with mon := { m with acc := if m.isStale then m.acc ++ [m.descr] else m.acc, pc := .g173b } }
  | .g173b => some { s with mon := iterNext c s m }
  | .g173e => go (afterScanErr c)
  | .gUnlock => release .g178
  | .gUnlockE => release .m128
  | .g178 => go .m126
  | .m126 => match m.stales with
    | [] => go .m123
    | d :: r => some { s with mon := { m with descr := d, stales := r, pc := .m127 } }
  | .m127 => go .p183
  | .p183 => acquire .p184
  | .p184 => match dget s.pending m.descr with
    | Option.none => some { s with mon := { m with err := .keyError, pc := .p183xE } }
    | some js => some { s with pending := derase s.pending m.descr, mon := { m with jobs := js, pc := .p185 } }
  | .p185 => match dget s.stamps m.descr with
    | Option.none => some { s with mon := { m with err := .keyError, pc := .p183xE } }
    | some t => some { s with stamps := derase s.stamps m.descr, mon := { m with timestamp := t, pc := .p183x } }
  | .p183x => release .p188
  | .p183xE => release .m128
  | .p188 => if m.jobs.length > p.maxSize then go .p189 else go .p197
  | .p189 => some { s with mon := { m with remainder := m.jobs.drop p.maxSize, pc := .p190 } }
  | .p190 => some { s with mon := { m with jobs := m.jobs.take p.maxSize, pc := .p191 } }
  | .p191 => some { s with submitted := s.submitted ++ [m.jobs], mon := { m with pc := .p193 } }
  | .p193 => acquire .p194
  | .p194 => some { s with
      pending := dset s.pending m.descr (((dget s.pending m.descr).getD []) ++ m.remainder),
      mon := { m with pc := .p195 } }
  | .p195 => some { s with stamps := dset s.stamps m.descr m.timestamp, mon := { m with pc := .p193x } }
  | .p193x => release (decEntry c)
  | .p197 => if m.jobs.length < p.minSize then some { s with mon := { m with loopJobs := m.jobs, pc := .p198 } } else go .p201
  | .p198 => match m.loopJobs with
    | [] => go (decEntry c)
    | j :: r => some { s with mon := { m with job := j, loopJobs := r, pc := .p199 } }
  | .p199 => some { s with submitted := s.submitted ++ [[m.job]], mon := { m with pc := .p198 } }
  | .p201 => some { s with submitted := s.submitted ++ [m.jobs], mon := { m with pc := decEntry c } }
  | .pdLock => acquire .p203
  | .p203 =>
    if c.lockDec then some { s with num := s.num - m.jobs.length, mon := { m with pc := .pdUnlock } }
    else some { s with mon := { m with decRead := s.num, pc := .p203w } }
  | .p203w => some { s with num := m.decRead - m.jobs.length, mon := { m with pc := .m126 } }
  | .pdUnlock => release .m126
  | .m128 => go .m132
  | .m132 => some { s with errors := s.errors ++ [m.err], mon := { m with pc := .mExit } }
  | .mExit => go .dead

/-- schedule letters: a thread step or the environment advancing the clock -/
inductive Ev where
  | thr (t : Tid)
  | tick (n : Nat)
  deriving DecidableEq, Repr

def step (c : Cfg) (p : Params) (s : State) : Ev → Option State
  | .thr .S => stepS p s
  | .thr .M => stepM c p s
  | .tick n => some { s with clock := s.clock + n }

/-- Run a schedule; a letter whose step is not enabled is skipped. -/
def run (c : Cfg) (p : Params) : State → List Ev → State
  | s, [] => s
  | s, e :: es => match step c p s e with
    | some s' => run c p s' es
    | Option.none => run c p s es

inductive Reachable (c : Cfg) (p : Params) (jobs : List Job) : State → Prop where
  | init : Reachable c p jobs (init jobs)
  | step {s s' : State} (e : Ev) : Reachable c p jobs s → step c p s e = some s' → Reachable c p jobs s'

/-! ### observables -/
/-- all jobs stored in a `pending`-shaped dict, in order -/
def flat (d : Dict (List Job)) : List Job := (d.map Prod.snd).flatten

def pendingJobs (s : State) : List Job := flat s.pending

/-- jobs the monitor has taken out of `pending` and not yet passed to `submit_jobs` or put back -/
def inHand (m : Mon) : List Job :=
  match m.pc with
  | .p185 | .p183x | .p188 | .p189 | .p197 | .p201 => m.jobs
  | .p190 => m.jobs                      -- still the full list; `remainder` is a copy of its tail
  | .p191 => m.jobs ++ m.remainder
  | .p193 | .p194 => m.remainder
  | .p198 => m.loopJobs
  | .p199 => m.job :: m.loopJobs
  | _ => []

/-- the monitor is between two polls (or not running) and the adder is between two calls -/
def quiescent (s : State) : Bool :=
  (s.ad.pc == .done) && (s.mon.pc == .m123 || s.mon.pc == .none || s.mon.pc == .dead)

end RedunModel.Arrayer
