/-
Model of `redun/promise.py` (class `Promise`, `Promise.all`, `wait_promises`).

The Python code is synchronous and re-entrant: `do_resolve` calls `_notify`, which calls the registered
callbacks, which (through `wrap_callback`) call user functions, which may call `then`/`do_resolve`/`do_reject`
on any promise, and so on.  Here every Python call frame that can be suspended by such a nested call is an
explicit `Frame` on `State.stack`, and `step` executes one small step of the innermost frame.  A user
function is a script (`UFn.script`): a list of actions followed by an outcome (return a value, return its
argument, raise).  Core Lean only.

Ghost data (does not influence behaviour; used only to state the theorems): `Cb.rid`/`Cb.br` (which `then()` call
created the callback and on which of the two lists it was put), `State.regs` (promise each `then()` call was
made on), `State.during` (was that promise in the middle of a notification with callbacks still waiting),
`Prom.origin` (who created the promise), `Coll.rids` (the `then()` calls made by the loop of `Promise.all` /
`wait_promises` so far), all `Event`s other than `call`, and the distinction between `UFn.bind` (a bound method passed by
the user) and `Fn.adopt` (the same bound method passed by `wrapper` when it adopts a returned promise).
-/
namespace RedunModel.Promise

/-- Python values that flow through promises.  `err e` is an exception object, `prom p` a Promise object. -/
inductive Val where
  | none
  | int (n : Int)
  | err (e : Nat)
  | prom (p : Nat)
  | list (l : List Val)
  deriving Repr, Inhabited

/-- The two callback lists / the two ways to settle. -/
inductive Br where
  | res | rej
  deriving Repr, DecidableEq, Inhabited

inductive Status where
  | pending
  | settled (b : Br) (v : Val)
  deriving Repr, Inhabited

/-- How a user function ends. -/
inductive Outcome where
  | ret (v : Val)
  | retArg
  | raise (e : Nat)
  deriving Repr, Inhabited

mutual
  /-- What user code can pass to `then` as resolver / rejector. -/
  inductive UFn where
    /-- a user function: log `id`, perform `acts`, end with `out` -/
    | script (id : Nat) (acts : List Act) (out : Outcome)
    /-- the bound method `p.do_resolve` / `p.do_reject` (returns its argument) -/
    | bind (b : Br) (p : Nat)
  /-- One statement of a user function (or one top-level operation). -/
  inductive Act where
    | then_ (p : Nat) (r : Option UFn) (j : Option UFn)   -- p.then(r, j)   (catch = then(None, j))
    | settle (b : Br) (p : Nat) (v : Val)                 -- p.do_resolve(v) / p.do_reject(v)
    | settleArg (b : Br) (p : Nat)                        -- p.do_resolve(arg) / p.do_reject(arg)
    | new                                                 -- Promise()
    | newf (acts : List Act) (out : Outcome)              -- Promise(func)
    | all (ps : List Nat)                                 -- Promise.all([...])
    | wait (ps : List Nat)                                -- wait_promises([...])
end

/-- What `wrap_callback.wrapper` can be wrapped around: a function passed by the user, or one of the closures
that `redun/promise.py` itself passes to `then` (user code has no access to those). -/
inductive Fn where
  | user (f : UFn)
  /-- `promise.do_resolve` / `promise.do_reject` passed by `wrapper` itself when it adopts a returned promise:
  `result2.then(promise.do_resolve, promise.do_reject)` -/
  | adopt (b : Br) (p : Nat)
  /-- closures of `Promise.all`: `make_then(i)` and `fail`; of `wait_promises`: `done` (all return None) -/
  | allThen (a : Nat) (i : Nat)
  | allFail (a : Nat)
  | waitDone (w : Nat)

/-- An entry of `_resolvers` / `_rejectors`. `wrap f q`: `wrap_callback(f)` with chained promise `q`;
`direct q`: the bound `q.do_resolve` (on `_resolvers`) or `q.do_reject` (on `_rejectors`). -/
inductive CbKind where
  | wrap (f : Fn) (q : Nat)
  | direct (q : Nat)

structure Cb where
  rid : Nat
  br : Br
  kind : CbKind

/-- ghost: which code created a promise -/
inductive Origin where
  | user                 -- `Promise()` / `Promise(func)` written by the user
  | chained              -- the promise created and returned by `then`
  | coll (a : Nat)       -- the promise returned by the `a`-th `Promise.all` / `wait_promises` call
  deriving DecidableEq, Repr

structure Prom where
  st : Status := .pending
  resolvers : List Cb := []
  rejectors : List Cb := []
  origin : Origin := .user

inductive Mode where
  | all | wait
  deriving DecidableEq, Repr

/-- Closure state of one `Promise.all` call (`results`, `num_done`; `len(results) = len(subpromises)`) or of one
`wait_promises` call (`subpromises`, `num_done`; `results` unused). -/
structure Coll where
  mode : Mode
  target : Nat
  subs : List Nat
  results : List Val
  numDone : Nat
  /-- ghost: the `then()` call numbers of the registrations made by the loop so far -/
  rids : List Nat := []

/-- What happens when a script's statements are exhausted. -/
inductive Kont where
  | wrapper (out : Outcome) (q : Nat)   -- inside `wrapper` of `wrap_callback`, chained promise q
  | ctor (out : Outcome) (p : Nat)      -- inside `Promise.__init__(func)` of promise p
  | top                                 -- a top-level operation

inductive Frame where
  /-- the `for` loop of `_notify`: value and callbacks still to call -/
  | notify (v : Val) (todo : List Cb)
  /-- a user function body -/
  | script (arg : Val) (acts : List Act) (k : Kont)
  /-- `wrapper` after `func` returned `r`, chained promise `q` -/
  | finish (r : Val) (q : Nat)
  /-- the `for i, subpromise in enumerate(subpromises)` loop of `Promise.all` / the `for subpromise in
  subpromises` loop of `wait_promises` (collector `a`, next index `i`, inputs still to visit) -/
  | loop (m : Mode) (a : Nat) (i : Nat) (rest : List Nat)

inductive Event where
  /-- user function `id` called with `v` (observable) -/
  | call (id : Nat) (v : Val)
  /-- ghost: the callback created by `then()` call number `rid` on list `b` was called with `v` -/
  | invoke (rid : Nat) (b : Br) (v : Val)
  /-- an action named a promise that does not exist (outside the domain of the check) -/
  | badRef
  /-- ghost: user code called `q.do_resolve`/`q.do_reject` itself (a statement, or a bound method it passed) -/
  | direct (q : Nat)
  /-- ghost: `wrapper` adopted promise `r` (returned by a callback) for chained promise `q` with `then()` call `rid` -/
  | adopt (q r rid : Nat)

structure State where
  heap : List Prom := []
  colls : List Coll := []
  regs : List Nat := []
  during : List Bool := []
  stack : List Frame := []
  /-- newest event first -/
  log : List Event := []

def push (f : Frame) (s : State) : State := { s with stack := f :: s.stack }
def emit (e : Event) (s : State) : State := { s with log := e :: s.log }
def newProm (o : Origin) (s : State) : State := { s with heap := s.heap ++ [{ origin := o }] }

/-- `do_resolve` / `do_reject` followed by the prologue of `_notify` (take the matching list, drop both). -/
def settle (b : Br) (q : Nat) (v : Val) (s : State) : State :=
  match s.heap[q]? with
  | none => s
  | some pr =>
    match pr.st with
    | .pending =>
      { s with heap := s.heap.set q { pr with st := .settled b v, resolvers := [], rejectors := [] },
               stack := .notify v (match b with | .res => pr.resolvers | .rej => pr.rejectors) :: s.stack }
    | .settled _ _ => s

def mkCb (rid : Nat) (b : Br) (f : Option Fn) (q : Nat) : Cb :=
  ⟨rid, b, match f with | some f => .wrap f q | none => .direct q⟩

/-- ghost: some running notification loop still has callbacks of promise `p` waiting -/
def waiting (p : Nat) (s : State) : Bool :=
  s.stack.any fun
    | .notify _ todo => todo.any fun c => s.regs[c.rid]? == some p
    | _ => false

/-- `p.then(r, j)`: new chained promise, append to both lists, `_notify` prologue. -/
def thenOp (p : Nat) (r j : Option Fn) (s : State) : State :=
  match s.heap[p]? with
  | none => emit .badRef s
  | some pr =>
    let q := s.heap.length
    let rid := s.regs.length
    let rs := pr.resolvers ++ [mkCb rid .res r q]
    let js := pr.rejectors ++ [mkCb rid .rej j q]
    let heap1 := s.heap ++ [{ origin := .chained }]
    let dur := s.during ++ [waiting p s]
    match pr.st with
    | .pending =>
      { s with heap := heap1.set p { pr with resolvers := rs, rejectors := js }, regs := s.regs ++ [p], during := dur }
    | .settled .res v =>
      { s with heap := heap1.set p { pr with resolvers := [], rejectors := [] }, regs := s.regs ++ [p], during := dur,
               stack := .notify v rs :: s.stack }
    | .settled .rej v =>
      { s with heap := heap1.set p { pr with resolvers := [], rejectors := [] }, regs := s.regs ++ [p], during := dur,
               stack := .notify v js :: s.stack }

/-- `wrapper` after the function returned `r`: adopt a returned promise, else resolve the chained one. -/
def finish (r : Val) (q : Nat) (s : State) : State :=
  match r with
  | .prom p => thenOp p (some (.adopt .res q)) (some (.adopt .rej q)) (emit (.adopt q p s.regs.length) s)
  | v => settle .res q v s

/-- Call a wrapped function. Non-script functions run to their return inside this step except for the
nested `do_resolve`/`do_reject`, whose notification runs (frame on top) before the `finish` frame. -/
def callFn (f : Fn) (q : Nat) (v : Val) (s : State) : State :=
  match f with
  | .user (.script id acts out) => push (.script v acts (.wrapper out q)) (emit (.call id v) s)
  | .user (.bind b p) => settle b p v (push (.finish v q) (emit (.direct p) s))
  | .adopt b p => settle b p v (push (.finish v q) s)
  | .allThen a i =>
    match s.colls[a]? with
    | none => s
    | some r =>
      let results := r.results.set i v
      let nd := r.numDone + 1
      let s1 := push (.finish .none q) { s with colls := s.colls.set a { r with results := results, numDone := nd } }
      if nd = results.length then settle .res r.target (.list results) s1 else s1
  | .allFail a =>
    match s.colls[a]? with
    | none => s
    | some r => settle .rej r.target v (push (.finish .none q) s)
  | .waitDone a =>
    match s.colls[a]? with
    | none => s
    | some r =>
      let nd := r.numDone + 1
      let s1 := push (.finish .none q) { s with colls := s.colls.set a { r with numDone := nd } }
      if nd = r.subs.length then settle .res r.target (.list (r.subs.map .prom)) s1 else s1

/-- Body of one callback invocation (after the ghost `invoke` event). -/
def invokeBody (c : Cb) (v : Val) (s : State) : State :=
  match c.kind with
  | .direct q => settle c.br q v s
  | .wrap f q => callFn f q v s

def invoke (c : Cb) (v : Val) (s : State) : State :=
  invokeBody c v (emit (.invoke c.rid c.br v) s)

def refsOk (ps : List Nat) (s : State) : Bool := ps.all (· < s.heap.length)

/-- `Promise.all(ps)` / `wait_promises(ps)` up to the start of the loop (and the empty special case). -/
def collect (m : Mode) (ps : List Nat) (s : State) : State :=
  if refsOk ps s then
    let t := s.heap.length
    let a := s.colls.length
    let results := match m with | .all => List.replicate ps.length Val.none | .wait => []
    let s1 := { newProm (.coll a) s with
                colls := s.colls ++ [{ mode := m, target := t, subs := ps, results := results, numDone := 0 }] }
    if ps.isEmpty then settle .res t (.list []) s1 else push (.loop m a 0 ps) s1
  else emit .badRef s

/-- One statement. `arg` is the argument of the enclosing user function. -/
def act (arg : Val) (a : Act) (s : State) : State :=
  match a with
  | .then_ p r j => thenOp p (r.map .user) (j.map .user) s
  | .settle b p v => if p < s.heap.length then settle b p v (emit (.direct p) s) else emit .badRef s
  | .settleArg b p => if p < s.heap.length then settle b p arg (emit (.direct p) s) else emit .badRef s
  | .new => newProm .user s
  | .newf acts out => push (.script .none acts (.ctor out s.heap.length)) (newProm .user s)
  | .all ps => collect .all ps s
  | .wait ps => collect .wait ps s

/-- A script's statements are exhausted. -/
def kont (arg : Val) (k : Kont) (s : State) : State :=
  match k with
  | .top => s
  | .wrapper (.ret v) q => finish v q s
  | .wrapper .retArg q => finish arg q s
  | .wrapper (.raise e) q => settle .rej q (.err e) s
  | .ctor (.raise e) p => settle .rej p (.err e) s
  | .ctor _ _ => s

/-- ghost: remember the number of the `then()` call the loop is about to make -/
def note (a : Nat) (s : State) : State :=
  match s.colls[a]? with
  | none => s
  | some r => { s with colls := s.colls.set a { r with rids := r.rids ++ [s.regs.length] } }

/-- the two callbacks the loop registers on input number `i` -/
def loopFn (m : Mode) (a i : Nat) (b : Br) : Fn :=
  match m, b with
  | .all, .res => .allThen a i
  | .all, .rej => .allFail a
  | .wait, _ => .waitDone a

/-- One small step of the innermost frame; `none` when nothing is running. -/
def step (s : State) : Option State :=
  match s.stack with
  | [] => none
  | f :: rest =>
    let s0 := { s with stack := rest }
    match f with
    | .notify _ [] => some s0
    | .notify v (c :: todo) => some (invoke c v (push (.notify v todo) s0))
    | .finish r q => some (finish r q s0)
    | .script arg [] k => some (kont arg k s0)
    | .script arg (a :: acts) k => some (act arg a (push (.script arg acts k) s0))
    | .loop _ _ _ [] => some s0
    | .loop m a i (p :: ps) =>
      some (thenOp p (some (loopFn m a i .res)) (some (loopFn m a i .rej)) (push (.loop m a (i + 1) ps) (note a s0)))

/-- Run until nothing is running (or the fuel is gone). -/
def run : Nat → State → State
  | 0, s => s
  | n + 1, s => match step s with
    | none => s
    | some s' => run n s'

/-- A top-level operation: perform it, then run to quiescence. -/
def exec (fuel : Nat) (a : Act) (s : State) : State := run fuel (act .none a s)

def execAll (fuel : Nat) (ops : List Act) (s : State) : State := ops.foldl (fun s a => exec fuel a s) s

def init : State := {}

/-- user-visible callback log, oldest first: ids of the user functions called -/
def callIds (s : State) : List Nat :=
  (s.log.filterMap fun | .call id _ => some id | _ => none).reverse

end RedunModel.Promise
