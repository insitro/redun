/-
Model of redun's task-option machinery (property C27).  Core Lean only.

Mirrors, as they are in /repo:
  * `redun/task.py::Task._validate` (option part)     → `normalize`, `validate`
  * `redun/task.py::task` (decorator, `export_options=`) → `mkTask`
  * `redun/task.py::Task.options`                      → `TaskV.options`
  * `redun/task.py::Task.export_options`               → `TaskV.exportOptions`
  * `redun/task.py::Task.get_task_options`             → `taskOptions`
  * `redun/task.py::Task.__getstate__/__setstate__`    → `TaskV.roundtrip` (pickle / cache round trip of a Task value)
  * `redun/task.py::Task.__call__`                     → a `Call` (the expression carries the called variant's
                                                         `_task_options_override` and `_export_options`; the job's
                                                         task is looked up in the registry by name = `reg`)
  * `redun/scheduler.py::Job.__init__` (export_options) → `exportsStep`
  * `redun/scheduler.py::Job.get_export_options`       → `inherited`
  * `redun/scheduler.py::Scheduler._evaluate_apply` (`job_options`) → `forced`
  * `redun/scheduler.py::Job.get_raw_options`          → `rawOptions`
  * `redun/scheduler.py::_evaluate_apply.options_then` → `evalOptions`
  * `redun/scheduler.py::Job.recording_provenance`     → `recProv`
  * `redun/scheduler.py::with_export_options`          → a `Call` of the option-less task `redun.with_export_options`
                                                         through `exportOptions` (built by `wxCall`)

A Python `dict` is an association list with `dset` (= `d[k] = v`: replace in place, else append), `dmerge a b`
(= `{**a, **b}`), `dpop`.  A Python `set` of names is a list read through `∈`.
Option values: `Val` may contain task-call expressions (`call id ret` = the expression `val(id, ret)` of a task
returning its argument); `CVal` is a value without expressions — what `Scheduler.evaluate` returns.
An enum member is `enum cls value` (`CacheScope.CSE` = `enum "CacheScope" "CSE"`).
-/
namespace RedunModel.Options

/-! ### values -/

/-- evaluated option value (no expression inside) -/
inductive CVal where
  | none
  | bool (b : Bool)
  | int (i : Int)
  | str (s : String)
  | enum (cls val : String)
  | list (l : List CVal)
  deriving Repr, Inhabited

/-- option value as written by the user: may contain `TaskExpression`s -/
inductive Val where
  | none
  | bool (b : Bool)
  | int (i : Int)
  | str (s : String)
  | enum (cls val : String)
  | list (l : List Val)
  | call (id : String) (ret : Val)
  deriving Repr, Inhabited

mutual
/-- an evaluated value put back into a raw option dict (inherited and scheduler-imposed options) -/
def embed : CVal → Val
  | .none => .none
  | .bool b => .bool b
  | .int i => .int i
  | .str s => .str s
  | .enum c v => .enum c v
  | .list l => .list (embedL l)
def embedL : List CVal → List Val
  | [] => []
  | v :: t => embed v :: embedL t
end

mutual
/-- `Scheduler.evaluate` on an option value: a call of a task returning `ret` evaluates to the evaluated `ret`;
containers are mapped (`map_nested_value`). -/
def evalVal : Val → CVal
  | .none => .none
  | .bool b => .bool b
  | .int i => .int i
  | .str s => .str s
  | .enum c v => .enum c v
  | .list l => .list (evalL l)
  | .call _ ret => evalVal ret
def evalL : List Val → List CVal
  | [] => []
  | v :: t => evalVal v :: evalL t
end

mutual
/-- ids of the jobs created by evaluating the value (every task call inside it, arguments included) -/
def calls : Val → List String
  | .list l => callsL l
  | .call id ret => id :: calls ret
  | _ => []
def callsL : List Val → List String
  | [] => []
  | v :: t => calls v ++ callsL t
end

inductive Err where
  | typeError
  | valueError
  deriving Repr, DecidableEq, Inhabited

/-- `bool(v)` on an evaluated value -/
def CVal.truthy : CVal → Bool
  | .none => false
  | .bool b => b
  | .int i => i != 0
  | .str s => s != ""
  | .enum _ _ => true
  | .list l => !l.isEmpty

/-- `bool(v)` on a raw value: `Expression.__bool__` raises `TypeError` -/
def Val.truthy : Val → Except Err Bool
  | .none => .ok false
  | .bool b => .ok b
  | .int i => .ok (i != 0)
  | .str s => .ok (s != "")
  | .enum _ _ => .ok true
  | .list l => .ok (!l.isEmpty)
  | .call _ _ => .error .typeError

/-! ### dicts -/

abbrev Dict (α : Type) := List (String × α)

/-- `d[k] = v` -/
def dset (k : String) (v : α) : Dict α → Dict α
  | [] => [(k, v)]
  | (k', v') :: t => if k' = k then (k', v) :: t else (k', v') :: dset k v t

/-- `{**a, **b}` -/
def dmerge (a b : Dict α) : Dict α := b.foldl (fun d kv => dset kv.1 kv.2 d) a

/-- `d.pop(k)` (the dict that remains) -/
def dpop (k : String) (d : Dict α) : Dict α := d.filter fun kv => kv.1 != k

def keys (d : Dict α) : List String := d.map Prod.fst

def hasKey (k : String) (d : Dict α) : Bool := (d.lookup k).isSome

/-- what a Python dict guarantees: keys are unique -/
def WF (d : Dict α) : Prop := (keys d).Nodup

def mapVals (f : α → β) (d : Dict α) : Dict β := d.map fun kv => (kv.1, f kv.2)

/-! ### tasks (`redun/task.py`) -/

/-- the option-related state of a `Task` object -/
structure TaskV where
  base : Dict Val          -- `_task_options_base`
  over : Dict Val          -- `_task_options_override`
  exports : List String    -- `_export_options` (a set)
  deriving Repr, Inhabited

def scopeMembers : List String := ["NONE", "CSE", "BACKEND"]
def checkValidMembers : List String := ["full", "shallow"]

/-- `EnumClass(v)`: a member of the class stays, a member's value is looked up, anything else is a `ValueError` -/
def coerceEnum (cls : String) (members : List String) : Val → Except Err Val
  | .enum c v => if c = cls then .ok (.enum c v) else .error .valueError
  | .str s => if s ∈ members then .ok (.enum cls s) else .error .valueError
  | _ => .error .valueError

def scopeV (s : String) : Val := .enum "CacheScope" s
def scopeC (s : String) : CVal := .enum "CacheScope" s

/-- `if "cache" in d: v = d.pop("cache"); d["cache_scope"] = BACKEND if v else CSE` -/
def normCache (d : Dict Val) : Except Err (Dict Val) :=
  match d.lookup "cache" with
  | some v =>
    match v.truthy with
    | .ok b => .ok (dset "cache_scope" (scopeV (if b then "BACKEND" else "CSE")) (dpop "cache" d))
    | .error e => .error e
  | none => .ok d

/-- `if key in d: d[key] = EnumClass(d[key])` -/
def normEnum (key cls : String) (members : List String) (d : Dict Val) : Except Err (Dict Val) :=
  match d.lookup key with
  | some v =>
    match coerceEnum cls members v with
    | .ok e => .ok (dset key e d)
    | .error e => .error e
  | none => .ok d

/-- the loop body of `Task._validate` over one options dict -/
def normalize (d : Dict Val) : Except Err (Dict Val) :=
  normCache d >>= normEnum "cache_scope" "CacheScope" scopeMembers >>= normEnum "check_valid" "CacheCheckValid" checkValidMembers

/-- `Task._validate`: both dicts are normalised; `prov` is exported automatically -/
def validate (t : TaskV) : Except Err TaskV := do
  let b ← normalize t.base
  let o ← normalize t.over
  pure { base := b, over := o,
         exports := if hasKey "prov" b || hasKey "prov" o then t.exports ++ ["prov"] else t.exports }

/-- `@task(export_options=defExport, **opts)`; `defExport = []` stands for `None`/`{}` -/
def mkTask (opts defExport : Dict Val) : Except Err TaskV :=
  if defExport.isEmpty then validate { base := opts, over := [], exports := [] }
  else validate { base := dmerge opts defExport, over := [], exports := keys defExport }

/-- `Task.options(**upd)`: the new task is built WITHOUT `export_options` -/
def TaskV.options (t : TaskV) (upd : Dict Val) : Except Err TaskV :=
  validate { base := t.base, over := dmerge t.over upd, exports := [] }

/-- `Task.export_options(**upd)` -/
def TaskV.exportOptions (t : TaskV) (upd : Dict Val) : Except Err TaskV :=
  let ex := t.exports ++ keys upd
  let ex := if "cache" ∈ ex then ex ++ ["cache_scope"] else ex
  validate { base := t.base, over := dmerge t.over upd, exports := ex }

/-- A pickle round trip of a Task VALUE (`Task.__getstate__` / `__setstate__`; also what a cache hit of a job that
returned the task does): `_task_options_override` and `_export_options` travel in the state, `_task_options_base`
is taken from the task registered under the same name (`reg`), then `_validate` runs. -/
def TaskV.roundtrip (t reg : TaskV) : Except Err TaskV :=
  validate { base := reg.base, over := t.over, exports := t.exports }

inductive TaskOp where
  | options (upd : Dict Val)
  | exportOptions (upd : Dict Val)
  | roundtrip
  deriving Repr, Inhabited

/-- `reg`: the registered task the chain of calls started from -/
def applyOp (reg t : TaskV) : TaskOp → Except Err TaskV
  | .options u => t.options u
  | .exportOptions u => t.exportOptions u
  | .roundtrip => t.roundtrip reg

def applyOps (reg t : TaskV) : List TaskOp → Except Err TaskV
  | [] => .ok t
  | op :: ops => do
    let t' ← applyOp reg t op
    applyOps reg t' ops

/-- `Task.get_task_options` -/
def taskOptions (t : TaskV) : Dict Val := dmerge t.base t.over

/-! ### jobs (`redun/scheduler.py`) -/

/-- One task call = one job.  `reg`: the task found in the registry under the expression's task name;
`var`: the task object that was called (`reg` after `.options(..)` / `.export_options(..)`), of which the
expression keeps `_task_options_override` (`expr._options`) and `_export_options`. -/
structure Call where
  reg : TaskV
  var : TaskV
  deriving Repr, Inhabited

/-- what child jobs read from an existing job -/
structure JobInfo where
  evalOpts : Dict CVal     -- `job.eval_options` = `job.get_options()`
  exports : List String    -- `job.export_options`
  deriving Repr, Inhabited

/-- `Job.recording_provenance`: `get_options().get("prov", True)` read as a bool -/
def recProv (o : Dict CVal) : Bool :=
  match o.lookup "prov" with
  | some v => v.truthy
  | none => true

/-- `Job.get_export_options` of the parent (`{}` for a root job) -/
def inherited : Option JobInfo → Dict CVal
  | none => []
  | some p => p.evalOpts.filter fun kv => kv.1 ∈ p.exports

/-- `job_options` in `_evaluate_apply` -/
def forced (useCache : Bool) (p : Option JobInfo) : Dict CVal :=
  (if useCache then [] else [("cache_scope", scopeC "CSE")]) ++
  (match p with
   | some p => if recProv p.evalOpts then [] else [("prov", .bool false)]
   | none => [])

/-- `Job.get_raw_options`: `{**task.get_task_options(), **parent_job_options, **expr._options, **job.options}` -/
def rawOptions (useCache : Bool) (p : Option JobInfo) (c : Call) : Dict Val :=
  dmerge (dmerge (dmerge (taskOptions c.reg) (mapVals embed (inherited p))) c.var.over)
    (mapVals embed (forced useCache p))

/-- `options_then`: the evaluated raw options, with `cache_scope := NONE` when provenance is off -/
def evalOptions (useCache : Bool) (p : Option JobInfo) (c : Call) : Dict CVal :=
  let e := mapVals evalVal (rawOptions useCache p c)
  if recProv e then e else dset "cache_scope" (scopeC "NONE") e

/-- `Job.__init__`: `task._export_options | expr._export_options | parent_job.export_options` -/
def parentExports : Option JobInfo → List String
  | some p => p.exports
  | none => []

def exportsStep (p : Option JobInfo) (c : Call) : List String :=
  c.reg.exports ++ c.var.exports ++ parentExports p

def jobStep (useCache : Bool) (p : Option JobInfo) (c : Call) : JobInfo :=
  { evalOpts := evalOptions useCache p c, exports := exportsStep p c }

/-- the job at the head of an ancestor chain (self first, root last); `none` for the empty chain -/
def jobInfo (useCache : Bool) : List Call → Option JobInfo
  | [] => none
  | c :: anc => some (jobStep useCache (jobInfo useCache anc) c)

/-- exported names of the job at the head of a chain -/
def exportsOf : List Call → List String
  | [] => []
  | c :: anc => c.reg.exports ++ c.var.exports ++ exportsOf anc

/-- ids of the jobs created while evaluating the raw options of a job (they are evaluated under the PARENT) -/
def optionJobs (d : Dict Val) : List String := d.flatMap fun kv => calls kv.2

def emptyTask : TaskV := { base := [], over := [], exports := [] }

/-- the call `val(id, ret)` inside an option value: a task without options, called as is -/
def plainCall : Call := { reg := emptyTask, var := emptyTask }

/-- `with_export_options(expr, options)` = `_with_export_options.export_options(**options)(expr)` -/
def wxCall (opts : Dict Val) : Except Err Call := do
  let v ← emptyTask.exportOptions opts
  pure { reg := emptyTask, var := v }

/-! ### job trees -/

inductive JTree where
  | node (id : String) (c : Call) (children : List JTree)
  deriving Repr, Inhabited

mutual
/-- top-down walk, as the scheduler creates jobs: every job is computed from its parent's `JobInfo` -/
def walk (useCache : Bool) (p : Option JobInfo) : JTree → List (String × JobInfo)
  | .node id c ch =>
    let j := jobStep useCache p c
    (id, j) :: walkL useCache (some j) ch
def walkL (useCache : Bool) (p : Option JobInfo) : List JTree → List (String × JobInfo)
  | [] => []
  | t :: ts => walk useCache p t ++ walkL useCache p ts
end

mutual
/-- the jobs created for expression-valued options: same parent as the job whose options they are -/
def walkOpt (useCache : Bool) (p : Option JobInfo) : JTree → List (String × JobInfo)
  | .node _ c ch =>
    (optionJobs (rawOptions useCache p c)).map (fun i => (i, jobStep useCache p plainCall)) ++
      walkOptL useCache (some (jobStep useCache p c)) ch
def walkOptL (useCache : Bool) (p : Option JobInfo) : List JTree → List (String × JobInfo)
  | [] => []
  | t :: ts => walkOpt useCache p t ++ walkOptL useCache p ts
end

mutual
/-- every node of a tree with its ancestor chain (self first); `anc` = chain of the tree's parent -/
def chainsOf (anc : List Call) : JTree → List (String × List Call)
  | .node id c ch => (id, c :: anc) :: chainsOfL (c :: anc) ch
def chainsOfL (anc : List Call) : List JTree → List (String × List Call)
  | [] => []
  | t :: ts => chainsOf anc t ++ chainsOfL anc ts
end

/-! ### a whole run (`Scheduler.run` of the root call) -/

inductive RunErr where
  | keyError
  deriving Repr, DecidableEq, Inhabited

/-- Number of parentless jobs of a run that record their start in the backend: the jobs evaluating the root
call's expression-valued options (no parent, no `prov` option: they always record) and the root job itself when it
records provenance.  `RedunBackendDb.record_job_start` pops the pending `Execution` for EVERY parentless job
(`self._executions.pop(job.execution.id, None)`), so the second one's `self._executions[job.execution.id]` raises
`KeyError` (current code, finding
C27-root-option-expression-crash). -/
def parentlessRecorded (useCache : Bool) (c : Call) : Nat :=
  (optionJobs (rawOptions useCache none c)).length + (if recProv (evalOptions useCache none c) then 1 else 0)

/-- the jobs of a run (tree jobs, option-value jobs), or the error the run ends with -/
def runTree (useCache : Bool) : JTree → Except RunErr (List (String × JobInfo) × List (String × JobInfo))
  | .node id c ch =>
    if parentlessRecorded useCache c ≥ 2 then .error .keyError
    else .ok (walk useCache none (.node id c ch), walkOpt useCache none (.node id c ch))

end RedunModel.Options
