/-
Base vocabulary for C33 (status filters vs displayed statuses); hand-written, core Lean only.
`RedunModel.Generated.Status` (regenerated from /repo by harness/translate_status.py on every run)
is written in this vocabulary; `RedunModel.Model.Status` gives it its meaning.

* `Row` is what a `Job` row looks like through `CallGraphQuery._join_values`
  (`job ⟕ call_node ⟕ value`): is `end_time` NULL, the `cached` flag (NOT NULL column), and how the row
  links to a result value.
* `Term` is the fragment of SQLAlchemy filter expressions the translator understands, evaluated in
  SQL three-valued logic (`Tv`); a row is returned iff the WHERE term is *true*.
* `PyCond` is the fragment of Python conditions used by `Job.calc_status` (two-valued truthiness).
-/
namespace RedunModel.StatusSql

inductive St where
  | running | cached | failed | done
  deriving DecidableEq, Repr, Inhabited

def St.all : List St := [.running, .cached, .failed, .done]

def St.name : St → String
  | .running => "RUNNING" | .cached => "CACHED" | .failed => "FAILED" | .done => "DONE"

/-- How a job row reaches its result value:
`noCall` — `job.call_hash IS NULL`; `danglingCall` — call_hash set, no such call_node row;
`danglingValue` — call_node found, its value row missing; `error` / `other` — value row found with
type = / ≠ the error type name. -/
inductive Link where
  | noCall | danglingCall | danglingValue | error | other
  deriving DecidableEq, Repr, Inhabited

structure Row where
  endNull : Bool
  cached : Bool
  link : Link
  deriving DecidableEq, Repr, Inhabited

def Link.all : List Link := [.noCall, .danglingCall, .danglingValue, .error, .other]

def Row.all : List Row :=
  [true, false].flatMap fun e => [true, false].flatMap fun c => Link.all.map fun l => ⟨e, c, l⟩

theorem St.mem_all (s : St) : s ∈ St.all := by cases s <;> decide

theorem Row.mem_all (r : Row) : r ∈ Row.all := by
  obtain ⟨e, c, l⟩ := r
  simp only [Row.all, List.mem_flatMap, List.mem_map]
  exact ⟨e, by cases e <;> decide, c, by cases c <;> decide, l, by cases l <;> decide, rfl⟩

/-- SQL truth values -/
inductive Tv where
  | t | f | u
  deriving DecidableEq, Repr

def Tv.ofBool (b : Bool) : Tv := if b then .t else .f
def Tv.and : Tv → Tv → Tv
  | .f, _ => .f | _, .f => .f | .t, .t => .t | _, _ => .u
def Tv.or : Tv → Tv → Tv
  | .t, _ => .t | _, .t => .t | .f, .f => .f | _, _ => .u
def Tv.not : Tv → Tv
  | .t => .f | .f => .t | .u => .u

inductive Col where
  | jobEndTime | jobCallHash | jobCached | valueType
  deriving DecidableEq, Repr

inductive Term where
  | isNull (c : Col)          -- `col.is_(None)`
  | isNotNull (c : Col)       -- `col.isnot(None)` / `col.is_not(None)`
  | isTrue (c : Col)          -- `col.is_(True)`   (Boolean column only)
  | isFalse (c : Col)         -- `col.is_(False)`
  | typeEqErr                 -- `Value.type == REDUN_ERROR_TYPE_NAME`
  | typeNeErr                 -- `Value.type != REDUN_ERROR_TYPE_NAME`
  | and (a b : Term)          -- `a & b`, `sa.and_(a, b)`
  | or (a b : Term)           -- `a | b`, `sa.or_(a, b)`
  | not (a : Term)            -- `~a`, `sa.not_(a)`
  deriving Repr

/-- is the column NULL in the joined row? (`job.cached` is a NOT NULL column) -/
def colNull (r : Row) : Col → Bool
  | .jobEndTime => r.endNull
  | .jobCallHash => r.link == .noCall
  | .jobCached => false
  | .valueType => !(r.link == .error || r.link == .other)

/-- `IS TRUE` / `IS FALSE` are two-valued; only `job.cached` is Boolean (the translator rejects others,
here they are never true). -/
def colIs (r : Row) (b : Bool) : Col → Bool
  | .jobCached => r.cached == b
  | _ => false

def Term.eval (r : Row) : Term → Tv
  | .isNull c => Tv.ofBool (colNull r c)
  | .isNotNull c => Tv.ofBool (!colNull r c)
  | .isTrue c => Tv.ofBool (colIs r true c)
  | .isFalse c => Tv.ofBool (colIs r false c)
  | .typeEqErr => match r.link with | .error => .t | .other => .f | _ => .u
  | .typeNeErr => match r.link with | .error => .f | .other => .t | _ => .u
  | .and a b => (a.eval r).and (b.eval r)
  | .or a b => (a.eval r).or (b.eval r)
  | .not a => (a.eval r).not

inductive Join where
  | inner | outer
  deriving DecidableEq, Repr

/-- Python conditions of `Job.calc_status` -/
inductive PyCond where
  | resultIsErr               -- `result_type == "redun.ErrorValue"`
  | endTimeTruthy             -- `self.end_time`
  | cachedTruthy              -- `self.cached`
  | not (a : PyCond)
  | and (a b : PyCond)
  | or (a b : PyCond)
  deriving Repr

def PyCond.eval (r : Row) : PyCond → Bool
  | .resultIsErr => r.link == .error          -- `result_type` is None without a call node
  | .endTimeTruthy => !r.endNull              -- a datetime is always truthy
  | .cachedTruthy => r.cached
  | .not a => !(a.eval r)
  | .and a b => a.eval r && b.eval r
  | .or a b => a.eval r || b.eval r

end RedunModel.StatusSql
