/-
Model of the handle lineage kept by `RedunBackendDb` (redun/backends/db/__init__.py):
`advance_handle`, `rollback_handle`, `is_valid_handle`, and of the way the scheduler drives them for a chain of
handle-writing tasks (`_preprocess_args`, `_get_cache` + `_is_valid_value`, `_perform_rollbacks`,
`_postprocess_result`; redun/scheduler.py, redun/handle.py).  Core Lean only.

A handle state is identified by its hash; hashing is symbolic (`H` is any type with decidable equality: small
numbers in the raw-history driver, the terms `HT` below in the workflow model — `HandleInfo.get_hash`'s
pre-images).

Two variants of the backend are modelled, selected by `fixed : Bool`:
* `fixed = false` — the code as it was: `rollback_handle` only followed edges that leave a *currently valid*
  handle, and the fork parents that `advance_handle` records for an unrecorded forked parent got no edge;
* `fixed = true` — the code after harness/findings_proposed/C25-handles.fix.diff (in /repo as two `fix:`
  commits): every edge of the same-name lineage is followed, and the skipped fork edges are recorded.
-/
namespace RedunModel.Handles

variable {H : Type} [DecidableEq H]

/-- what the backend reads off a handle object: `__handle__.hash`, `__handle__.fullname` -/
structure HRef (H : Type) where
  hash : H
  name : String
  deriving DecidableEq, Repr

/-- row of table `handle` (`key`, `value_hash` are functions of the hash) -/
structure Row (H : Type) where
  hash : H
  name : String
  valid : Bool
  deriving DecidableEq, Repr

/-- tables `handle` and `handle_edge` -/
structure St (H : Type) where
  rows : List (Row H) := []
  edges : List (H × H) := []
  deriving Repr

inductive Err where
  | fuel      -- the descendant search did not end within the fuel (proved unreachable)
  deriving DecidableEq, Repr

/-- `get_or_create(session, Handle, {hash, fullname, key, value_hash}, {"is_valid": True})` on the rows of
table `handle`: an existing row is forced valid, a missing one is inserted valid -/
def touchRows (rows : List (Row H)) (h : HRef H) : List (Row H) :=
  if rows.any (fun r => decide (r.hash = h.hash)) then
    rows.map fun r => if r.hash = h.hash then { r with valid := true } else r
  else rows ++ [⟨h.hash, h.name, true⟩]

/-- `get_or_create(session, HandleEdge, {parent_id, child_id})` on the rows of table `handle_edge` -/
def addE (edges : List (H × H)) (e : H × H) : List (H × H) :=
  if e ∈ edges then edges else edges ++ [e]

/-- A parent handle as `advance_handle` sees it: the object's `is_recorded` flag and the chain of its
`fork_parent` pointers (`fork_parent`, `fork_parent.fork_parent`, …; empty for a handle that is not a fork). -/
structure Parent (H : Type) where
  ref : HRef H
  recorded : Bool
  forkChain : List (HRef H)
  deriving Repr

/-- `(fork_parent, fork)` links of an unrecorded forked parent, bottom up -/
def chainEdges (ref : HRef H) : List (HRef H) → List (H × H)
  | [] => []
  | fp :: rest => (fp.hash, ref.hash) :: chainEdges fp rest

/-- the parents whose fork ancestors `advance_handle` records first ("skipped recording") -/
def skipped (parents : List (Parent H)) : List (Parent H) :=
  parents.filter fun p => !p.recorded && !p.forkChain.isEmpty

/-- the handle rows `advance_handle` gets or creates, in code order: the fork ancestors of unrecorded forked
parents, the child, the parents -/
def touchedRefs (parents : List (Parent H)) (child : HRef H) : List (HRef H) :=
  (skipped parents).flatMap (·.forkChain) ++ child :: parents.map (·.ref)

/-- the edge rows it gets or creates: parent → child; the repaired code also files the skipped fork links -/
def recordedEdges (fixed : Bool) (parents : List (Parent H)) (child : HRef H) : List (H × H) :=
  parents.map (fun p => (p.ref.hash, child.hash)) ++
    (if fixed then (skipped parents).flatMap fun p => chainEdges p.ref p.forkChain else [])

/-- `advance_handle(parent_handles, child_handle)` (the two tables are written independently: all handle rows,
all edge rows) -/
def St.advance (fixed : Bool) (st : St H) (parents : List (Parent H)) (child : HRef H) : St H :=
  { rows := (touchedRefs parents child).foldl touchRows st.rows,
    edges := (recordedEdges fixed parents child).foldl addE st.edges }

/-- `lookups[x]`: children of `x` in the joined relation -/
def childrenIn (pairs : List (H × H)) (x : H) : List H :=
  (pairs.filter fun e => decide (e.1 = x)).map (·.2)

/-- the `while queue:` loop of `rollback_handle`: `queue.pop()` takes the head of `queue` here (the list is kept
in reverse), `queue.extend(l)` pushes `l` -/
def dfs (pairs : List (H × H)) : Nat → List H → List H → Option (List H)
  | 0, _, _ => none
  | _ + 1, [], vis => some vis
  | f + 1, x :: q, vis =>
    if x ∈ vis then dfs pairs f q vis
    else dfs pairs f ((childrenIn pairs x).reverse ++ q) (x :: vis)

/-- `SELECT handle.hash, handle_edge.child_id FROM handle JOIN handle_edge ON parent_id = hash
    WHERE handle.fullname = :name [AND handle.is_valid]` -/
def St.joined (fixed : Bool) (st : St H) (name : String) : List (H × H) :=
  st.edges.filter fun e => st.rows.any fun r => decide (r.hash = e.1) && decide (r.name = name) && (fixed || r.valid)

def St.rollback (fixed : Bool) (st : St H) (h : HRef H) : Except Err (St H) :=
  let pairs := st.joined fixed h.name
  let queue := (childrenIn pairs h.hash).reverse
  match dfs pairs (pairs.length + queue.length + 1) queue [] with
  | some inv => .ok { st with rows := st.rows.map fun r => if r.hash ∈ inv then { r with valid := false } else r }
  | none => .error .fuel

/-- `is_valid_handle`: recorded and flagged valid (an unrecorded handle is not valid) -/
def St.isValid (st : St H) (h : H) : Bool :=
  match st.rows.find? (fun r => decide (r.hash = h)) with
  | some r => r.valid
  | none => false

inductive Op (H : Type) where
  | advance (parents : List (Parent H)) (child : HRef H)
  | rollback (h : HRef H)
  deriving Repr

def St.step (fixed : Bool) (st : St H) : Op H → Except Err (St H)
  | .advance ps c => .ok (st.advance fixed ps c)
  | .rollback h => st.rollback fixed h

def run (fixed : Bool) : St H → List (Op H) → Except Err (St H)
  | st, [] => .ok st
  | st, op :: ops =>
    match st.step fixed op with
    | .ok st' => run fixed st' ops
    | .error e => .error e

/-! ### the reference lineage model -/

/-- `b` is derived from `a`: a non-empty chain of lineage edges -/
inductive Desc (E : List (H × H)) : H → H → Prop where
  | edge {a b : H} : (a, b) ∈ E → Desc E a b
  | step {a b c : H} : Desc E a b → (b, c) ∈ E → Desc E a c

/-- reference state: the set of valid states and the derivation edges -/
structure Spec (H : Type) where
  valid : H → Prop
  edges : List (H × H)

/-- the states an `advance` touches, and the derivation links it declares -/
def touched (parents : List (Parent H)) (child : HRef H) : List H :=
  (touchedRefs parents child).map (·.hash)

def declared (parents : List (Parent H)) (child : HRef H) : List (H × H) :=
  recordedEdges true parents child

def Spec.step (sp : Spec H) : Op H → Spec H
  | .advance ps c => { valid := fun x => sp.valid x ∨ x ∈ touched ps c, edges := sp.edges ++ declared ps c }
  | .rollback h => { valid := fun x => sp.valid x ∧ ¬ Desc sp.edges h.hash x, edges := sp.edges }

def Spec.run : Spec H → List (Op H) → Spec H
  | sp, [] => sp
  | sp, op :: ops => Spec.run (sp.step op) ops

def Spec.init : Spec H := { valid := fun _ => False, edges := [] }

/-! ### the scheduler driving the backend: a chain of handle-writing tasks `tₙ(… t₂(t₁(Handle(name))))`

Handle states are the pre-images of `HandleInfo.get_hash`: the initial state, `fork` (hash of the parent state
and the key) and `call` (the key is reset, the hash is that of the evaluation: task hash and argument hashes,
i.e. the task and the forked state it received). -/
inductive HT where
  | init (name : String)
  | fork (p : HT) (key : String)
  | call (p : HT) (task : String)
  deriving DecidableEq, Repr

def HT.name : HT → String
  | .init n => n
  | .fork p _ => p.name
  | .call p _ => p.name

def HT.ref (h : HT) : HRef HT := ⟨h, h.name⟩

/-- backend tables, the evaluation cache (keys `(task hash, argument state)`; the cached result of such an
evaluation is always `call arg task`), and the external system the handle stands for: `ext[i]` is the task
(version) whose write produced the current content at depth `i`; a write at depth `i` makes everything
deeper stale. -/
structure WSt where
  st : St HT := {}
  cache : List (String × HT) := []
  ext : List String := []
  deriving Repr

/-- One job of the chain, as `_exec_job_main_thread` runs it for a task called with the handle `v` as its
argument: `_preprocess_args` forks the handle (key `k` = the call order of this handle state under the parent job) and
records the fork;
`_get_cache` replays the cached result only if it is still valid; otherwise `_perform_rollbacks` on the fork,
the task runs (writes to the external system), `_postprocess_result` derives the result state and records it,
`set_cache`. Returns the new state, the job's result and whether the task ran. -/
def runTask (fixed : Bool) (k : String) (w : WSt) (depth : Nat) (t : String) (v : HT) : Except Err (WSt × HT × Bool) :=
  let f := HT.fork v k
  let st1 := w.st.advance fixed [⟨v.ref, true, []⟩] f.ref
  let r := HT.call f t
  if (t, f) ∈ w.cache ∧ st1.isValid r = true then .ok ({ w with st := st1 }, r, false)
  else
    match st1.rollback fixed f.ref with
    | .error e => .error e
    | .ok st2 =>
      let st3 := st2.advance fixed [⟨f.ref, true, []⟩] r.ref
      .ok ({ st := st3, cache := if (t, f) ∈ w.cache then w.cache else (t, f) :: w.cache,
             ext := w.ext.take depth ++ [t] }, r, true)

/-- evaluate the chain inside-out; returns the final handle and the tasks that ran, in order -/
def runChain (fixed : Bool) (k : String) : WSt → Nat → List String → HT → List String → Except Err (WSt × HT × List String)
  | w, _, [], v, ran => .ok (w, v, ran)
  | w, depth, t :: ts, v, ran =>
    match runTask fixed k w depth t v with
    | .error e => .error e
    | .ok (w', r, didRun) => runChain fixed k w' (depth + 1) ts r (if didRun then ran ++ [t] else ran)

/-- one execution `scheduler.run(root_task(quote(tₙ(… t₁(Handle(name))))))`: every job of the chain is a child of
the root job and every handle state is passed to exactly one call, so the call order (fork key) is `"1"`. -/
def runWorkflow (fixed : Bool) (w : WSt) (name : String) (tasks : List String) : Except Err (WSt × HT × List String) :=
  runChain fixed "1" w 0 tasks (.init name) []

def runWorkflows (fixed : Bool) (name : String) : WSt → List (List String) → Except Err WSt
  | w, [] => .ok w
  | w, ts :: rest =>
    match runWorkflow fixed w name ts with
    | .error e => .error e
    | .ok (w', _, _) => runWorkflows fixed name w' rest

/-! ### durability: what a process death leaves behind

`rollback_handle` issues its `UPDATE … SET is_valid = 0` and returns without committing; the change becomes durable
with the next `session.commit()` of the backend (`advance_handle`, `record_job_start`, … all end with one).
`ses` is the database as the backend's session sees it, `dur` what a fresh connection — or the next process,
after this one died — sees. -/
structure DB where
  ses : St HT
  dur : St HT
  deriving Repr

def DB.commit (d : DB) : DB := ⟨d.ses, d.ses⟩
/-- the process dies: everything not yet committed is lost -/
def DB.crash (d : DB) : DB := ⟨d.dur, d.dur⟩
/-- `advance_handle` ends with `session.commit()` -/
def DB.advance (fixed : Bool) (d : DB) (ps : List (Parent HT)) (c : HRef HT) : DB :=
  DB.commit ⟨d.ses.advance fixed ps c, d.dur⟩
/-- `rollback_handle` does not commit -/
def DB.rollback (fixed : Bool) (d : DB) (h : HRef HT) : Except Err DB :=
  match d.ses.rollback fixed h with
  | .ok s => .ok ⟨s, d.dur⟩
  | .error e => .error e

/-- `_perform_rollbacks`: `rollback_handle` on EVERY Handle-valued leaf of the (preprocessed) arguments, one call per
argument state — two states of one handle name are two calls -/
def DB.rollbackAll (fixed : Bool) : DB → List (HRef HT) → Except Err DB
  | d, [] => .ok d
  | d, h :: hs =>
    match d.rollback fixed h with
    | .ok d' => DB.rollbackAll fixed d' hs
    | .error e => .error e

/-- `_exec_job_main_thread` from the cache miss to the moment the task function is entered; `fs` are the handle
states among the job's arguments.
`early = true` is the code's order: `_perform_rollbacks`, (limits), `record_job_start` — which commits —, submit.
`early = false` is the other order (`record_job_start` first, `_perform_rollbacks` right before the submit): the
task then starts with the rollbacks still pending. -/
def enterTask (fixed early : Bool) (d : DB) (fs : List (HRef HT)) : Except Err DB :=
  if early then
    match d.rollbackAll fixed fs with
    | .ok d' => .ok d'.commit
    | .error e => .error e
  else d.commit.rollbackAll fixed fs

/-- The job of `runTask`, but the process dies right after the task function was entered and made its first write
to the external system (`ext`).  Returns what the next process finds, and whether the task had started (on a
cache hit there is nothing to kill). -/
def crashTask (fixed early : Bool) (k : String) (w : WSt) (depth : Nat) (t : String) (v : HT) : Except Err (WSt × Bool) :=
  let f := HT.fork v k
  let d1 := DB.advance fixed ⟨w.st, w.st⟩ [⟨v.ref, true, []⟩] f.ref
  let r := HT.call f t
  if (t, f) ∈ w.cache ∧ d1.ses.isValid r = true then .ok ({ w with st := d1.dur }, false)
  else
    match enterTask fixed early d1 [f.ref] with
    | .error e => .error e
    | .ok d2 => .ok ({ st := d2.crash.dur, cache := w.cache, ext := w.ext.take depth ++ [t] }, true)

/-- a chain execution whose process dies in the task at position `cd` (if that task runs at all) -/
def runChainCrash (fixed early : Bool) (k : String) : WSt → Nat → List String → HT → Nat → Except Err WSt
  | w, _, [], _, _ => .ok w
  | w, depth, t :: ts, v, 0 =>
    match crashTask fixed early k w depth t v with
    | .error e => .error e
    | .ok (w', true) => .ok w'
    | .ok (w', false) =>
      match runChain fixed k w' (depth + 1) ts (HT.call (HT.fork v k) t) [] with
      | .error e => .error e
      | .ok (w'', _, _) => .ok w''
  | w, depth, t :: ts, v, cd + 1 =>
    match runTask fixed k w depth t v with
    | .error e => .error e
    | .ok (w', r, _) => runChainCrash fixed early k w' (depth + 1) ts r cd

/-- an execution of a history: completes, or is killed in its `cd`-th task -/
inductive Exec where
  | ok (tasks : List String)
  | killed (tasks : List String) (cd : Nat)
  deriving Repr

def runExecs (fixed early : Bool) (name : String) : WSt → List Exec → Except Err WSt
  | w, [] => .ok w
  | w, .ok ts :: rest =>
    match runWorkflow fixed w name ts with
    | .error e => .error e
    | .ok (w', _, _) => runExecs fixed early name w' rest
  | w, .killed ts cd :: rest =>
    match runChainCrash fixed early "1" w 0 ts (.init name) cd with
    | .error e => .error e
    | .ok w' => runExecs fixed early name w' rest

end RedunModel.Handles
