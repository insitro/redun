/-
Lexicographic three-way comparison of lists and of pairs, the two steps from which the structural orders on hash
pre-images are built (`Model/Timing`: `cmpFrame`, `cmpHV`, `cmpAtom`, `H.cmp`; their laws: `Lemmas/LawfulCmp`).  Core Lean only.
-/
namespace RedunModel.Timing

/-- lexicographic order on lists -/
def cmpList {α : Type} (cmp : α → α → Ordering) : List α → List α → Ordering
  | [], [] => .eq
  | [], _ :: _ => .lt
  | _ :: _, [] => .gt
  | x :: xs, y :: ys => (cmp x y).then (cmpList cmp xs ys)

/-- lexicographic order on pairs -/
def cmpProd {α β : Type} (c1 : α → α → Ordering) (c2 : β → β → Ordering) (a b : α × β) : Ordering :=
  (c1 a.1 b.1).then (c2 a.2 b.2)

end RedunModel.Timing
