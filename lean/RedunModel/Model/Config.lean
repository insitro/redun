/-
Model of redun's configuration object (property C35).  Core Lean only.  Text is `List Char`.

Mirrors, as they are in /repo (`get_config_dict` as it is since the fixes f104c76 and a86d0e3, see `escape` and
`flattenKids`):
  * `configparser.ExtendedInterpolation._interpolate_some` / `before_get` / `before_set` (Python 3.12 source)
    with `RedunExtendedInterpolation.before_get` (environment variables take part in `${name}` lookups)
                                                          → `loop`, `getItem`, `beforeSetOk`
  * `RawConfigParser.get / options / read_dict / set`    → `rawGet`, `sectionKeys`, `readDict`
  * `Config._parse_sections`                             → `insertPath`, `parseSections`
  * `Config.get_config_dict` (`convert_to_dict`, `substitute_config_dir`) → `flattenKids`, `replaceAll`, `getConfigDict`
INI text parsing (`read_string`) is outside the model: a configuration is the parser's raw option table.
-/
namespace RedunModel.Config

abbrev Str := List Char
abbrev Opts := List (Str × Str)

/-- `parser._defaults` and `parser._sections` (insertion ordered, raw values). -/
structure Cfg where
  defaults : Opts
  sections : List (Str × Opts)
  deriving Repr

inductive Err where
  | depth      -- InterpolationDepthError
  | syntax     -- InterpolationSyntaxError
  | missing    -- InterpolationMissingOptionError
  | valueError -- before_set: invalid interpolation syntax
  | typeError  -- _parse_sections: an earlier section's name is a proper dotted prefix of this one's path
  deriving Repr, DecidableEq

def defaultSect : Str := ['D', 'E', 'F', 'A', 'U', 'L', 'T']

/-- `s.split(sep)` for a one-character separator -/
def splitOn (sep : Char) : Str → List Str
  | [] => [[]]
  | c :: t =>
    if c = sep then [] :: splitOn sep t
    else match splitOn sep t with
      | h :: r => (c :: h) :: r
      | [] => [[c]]

/-- `sep.join(parts)` -/
def joinWith (sep : Char) : List Str → Str
  | [] => []
  | [p] => p
  | p :: q :: r => p ++ sep :: joinWith sep (q :: r)

/-- text up to the first `}` and the text after it -/
def spanBrace : Str → Option (Str × Str)
  | [] => none
  | c :: t =>
    if c = '}' then some ([], t)
    else match spanBrace t with
      | some (n, r) => some (c :: n, r)
      | none => none

/-- `_KEYCRE = \$\{([^}]+)\}` matched right after the `${`: the name (non-empty) and the rest after `}` -/
def takeRef (s : Str) : Option (Str × Str) :=
  match spanBrace s with
  | some (n, r) => if n = [] then none else some (n, r)
  | none => none

theorem spanBrace_length {s n r : Str} (h : spanBrace s = some (n, r)) : r.length < s.length := by
  induction s generalizing n with
  | nil => cases h
  | cons c t ih =>
    rw [spanBrace] at h
    split at h
    · cases h; exact Nat.lt_succ_self _
    · split at h
      · next hs => cases h; exact Nat.lt_succ_of_lt (ih hs)
      · cases h

theorem takeRef_length {s n r : Str} (h : takeRef s = some (n, r)) : r.length < s.length := by
  unfold takeRef at h
  split at h
  · next hs =>
    split at h
    · cases h
    · cases h; exact spanBrace_length hs
  · cases h

/-- `parser._sections[s]`, with `DEFAULT` standing for the defaults only; `none` = `NoSectionError` -/
def sectionOpts (cfg : Cfg) (s : Str) : Option Opts :=
  if s = defaultSect then some [] else cfg.sections.lookup s

def orElse (a b : Option Str) : Option Str :=
  match a with
  | some x => some x
  | none => b

/-- `parser.get(s, opt, raw=True)`; `none` = `NoSectionError` / `NoOptionError` -/
def rawGet (cfg : Cfg) (s opt : Str) : Option Str :=
  match sectionOpts cfg s with
  | none => none
  | some o => orElse (o.lookup opt) (cfg.defaults.lookup opt)

/-- `dict(parser.items(s, raw=True))` as a lookup function (only called for a section that exists). -/
def rawMap (cfg : Cfg) (s : Str) : Str → Option Str := fun k =>
  match sectionOpts cfg s with
  | some o => orElse (o.lookup k) (cfg.defaults.lookup k)
  | none => cfg.defaults.lookup k

/-- `{**ChainMap(section, defaults), **os.environ}`: what `${name}` sees at the top level (redun's subclass) -/
def topMap (cfg : Cfg) (env : Opts) (s : Str) : Str → Option Str := fun k =>
  orElse (env.lookup k) (rawMap cfg s k)

/-- the `try:` block of `_interpolate_some`: value and the section it came from -/
def resolve (cfg : Cfg) (sect : Str) (map : Str → Option Str) : List Str → Except Err (Str × Str)
  | [opt] =>
    match map opt with
    | some v => .ok (v, sect)
    | none => .error .missing
  | [s, opt] =>
    match rawGet cfg s opt with
    | some v => .ok (v, s)
    | none => .error .missing
  | _ => .error .syntax

/-- `_interpolate_some`.  `d` = how many more nested levels are allowed (`MAX_INTERPOLATION_DEPTH = 10`, the
top level is depth 1, so the top call has `d = 9`; a nested call at `d = 0` is the `InterpolationDepthError`). -/
def loop (cfg : Cfg) (d : Nat) (rest : Str) (sect : Str) (map : Str → Option Str) : Except Err Str :=
  match rest with
  | [] => .ok []
  | c :: r =>
    if c ≠ '$' then
      match loop cfg d r sect map with
      | .ok out => .ok (c :: out)
      | .error e => .error e
    else
      match r with
      | '$' :: r' =>
        match loop cfg d r' sect map with
        | .ok out => .ok ('$' :: out)
        | .error e => .error e
      | '{' :: r' =>
        match h : takeRef r' with
        | none => .error .syntax
        | some (name, r'') =>
          match resolve cfg sect map (splitOn ':' name) with
          | .error e => .error e
          | .ok (v, sect') =>
            let sub : Except Err Str :=
              if '$' ∈ v then
                match d with
                | 0 => .error .depth
                | d' + 1 => loop cfg d' v sect' (rawMap cfg sect')
              else .ok v
            match sub with
            | .error e => .error e
            | .ok out =>
              match loop cfg d r'' sect map with
              | .ok out2 => .ok (out ++ out2)
              | .error e => .error e
      | _ => .error .syntax
termination_by (d, rest.length)
decreasing_by
  all_goals simp_wf
  · exact Prod.Lex.right _ (by show _ < _; omega)
  · exact Prod.Lex.right _ (by show _ < _; omega)
  · exact Prod.Lex.left _ _ (by show _ < _; omega)
  · exact Prod.Lex.right _ (by show _ < _; have := takeRef_length h; omega)

/-- `parser.get(sect, k)` (interpolated); the key is looked up in the section, then in DEFAULT -/
def getItem (cfg : Cfg) (env : Opts) (sect k : Str) : Except Err Str :=
  match rawGet cfg sect k with
  | none => .error .missing
  | some v => loop cfg 9 v sect (topMap cfg env sect)

/-- `parser.options(sect)`: the section's own keys, then DEFAULT keys it does not have -/
def sectionKeys (cfg : Cfg) (sect : Str) : List Str :=
  match cfg.sections.lookup sect with
  | none => []
  | some o => o.map (·.1) ++ (cfg.defaults.map (·.1)).filter fun k => !(o.any fun p => p.1 == k)

def mapMExcept {α β : Type} (f : α → Except Err β) : List α → Except Err (List β)
  | [] => .ok []
  | a :: t =>
    match f a with
    | .error e => .error e
    | .ok b =>
      match mapMExcept f t with
      | .error e => .error e
      | .ok r => .ok (b :: r)

/-- `dict(section_proxy.items())`: effective (interpolated) items of one section -/
def sectionItems (cfg : Cfg) (env : Opts) (sect : Str) : Except Err Opts :=
  mapMExcept (fun k => match getItem cfg env sect k with
                       | .ok v => .ok (k, v)
                       | .error e => .error e) (sectionKeys cfg sect)

/-- effective values of every section, in parser order -/
def effective (cfg : Cfg) (env : Opts) : Except Err (List (Str × Opts)) :=
  mapMExcept (fun (s : Str × Opts) => match sectionItems cfg env s.1 with
                                     | .ok it => .ok (s.1, it)
                                     | .error e => .error e) cfg.sections

/-- `value.replace('$$', '')` -/
def removeDD : Str → Str
  | '$' :: '$' :: t => removeDD t
  | c :: t => c :: removeDD t
  | [] => []

/-- `_KEYCRE.sub('', tmp)` (fuel = length; each step consumes at least one character) -/
def removeRefsAux : Nat → Str → Str
  | 0, s => s
  | _ + 1, [] => []
  | n + 1, '$' :: '{' :: t =>
    match takeRef t with
    | some (_, r) => removeRefsAux n r
    | none => '$' :: removeRefsAux n ('{' :: t)
  | n + 1, c :: t => c :: removeRefsAux n t

def removeRefs (s : Str) : Str := removeRefsAux s.length s

/-- `ExtendedInterpolation.before_set` (called by `set` only for a non-empty value): `true` = accepted -/
def beforeSetOk (v : Str) : Bool := !(removeRefs (removeDD v)).contains '$'

/-- the nested dict: a leaf is a `SectionProxy` (we keep the full section name), a node is a dict -/
inductive Node where
  | leaf (full : Str)
  | node (kids : List (Str × Node))
  deriving Repr

/-- `d[k] = v` on an insertion-ordered dict -/
def setKey {α : Type} (kids : List (Str × α)) (k : Str) (v : α) : List (Str × α) :=
  match kids with
  | [] => [(k, v)]
  | (k', v') :: t => if k' = k then (k, v) :: t else (k', v') :: setKey t k v

/-- the body of the `for full_section` loop: walk `parts[:-1]` creating dicts, assign `parts[-1]`.
Walking into something that is not a dict (a `SectionProxy`) ends in `TypeError`. -/
def insertPath : List (Str × Node) → List Str → Str → Except Err (List (Str × Node))
  | kids, [], _ => .ok kids            -- `split` never returns an empty list
  | kids, [p], full => .ok (setKey kids p (.leaf full))
  | kids, p :: q :: ps, full =>
    match kids.lookup p with
    | none =>
      match insertPath [] (q :: ps) full with
      | .ok sub => .ok (setKey kids p (.node sub))
      | .error e => .error e
    | some (.node sub) =>
      match insertPath sub (q :: ps) full with
      | .ok sub' => .ok (setKey kids p (.node sub'))
      | .error e => .error e
    | some (.leaf _) => .error .typeError

def parseSections : List Str → List (Str × Node) → Except Err (List (Str × Node))
  | [], acc => .ok acc
  | n :: t, acc =>
    match insertPath acc (splitOn '.' n) n with
    | .ok acc' => parseSections t acc'
    | .error e => .error e

mutual
/-- `convert_to_dict(path, obj)`: (constructed dotted path, real section name) of every leaf, depth first.
In `flattenKids`, `path = none` is the root (before the fix a86d0e3 the code used `""` for the root and tested
`if path`, which also dropped a leading empty component: `[.c]` came out as `c`). -/
def flattenNode (path : Str) : Node → List (Str × Str)
  | .leaf full => [(path, full)]
  | .node kids => flattenKids (some path) kids
def flattenKids (path : Option Str) : List (Str × Node) → List (Str × Str)
  | [] => []
  | (k, n) :: t =>
    flattenNode (match path with
                 | some p => p ++ '.' :: k
                 | none => k) n ++ flattenKids path t
end

/-- `str.replace(pat, rep)`, non-overlapping, left to right (fuel = length + 1) -/
def replaceAux (pat rep : Str) : Nat → Str → Str
  | 0, s => s
  | _ + 1, [] => if pat = [] then rep else []
  | n + 1, c :: t =>
    if pat = [] then rep ++ c :: replaceAux pat rep n t
    else if pat.isPrefixOf (c :: t) then rep ++ replaceAux pat rep n ((c :: t).drop pat.length)
    else c :: replaceAux pat rep n t

def replaceAll (pat rep s : Str) : Str := replaceAux pat rep (s.length + 1) s

/-- `escape` inside `get_config_dict` (fix f104c76): a literal `$` in an effective value is written `$$` so that
`read_dict` reads it back -/
def escape : Str → Str
  | [] => []
  | c :: t => if c = '$' then '$' :: '$' :: escape t else c :: escape t

/-- `get_config_dict(replace_config_dir)`: for every leaf of the nested sections (depth first) the
interpolated items, config-dir substituted, `$` escaped.  `localDir` = `get_config_dir()`. -/
def getConfigDict (cfg : Cfg) (env : Opts) (localDir : Str) (replace : Option Str) :
    Except Err (List (Str × Opts)) :=
  match parseSections (cfg.sections.map (·.1)) [] with
  | .error e => .error e
  | .ok trie =>
    let conv (v : Str) : Str :=
      escape (match replace with
              | some r => replaceAll localDir r v
              | none => v)
    (flattenKids none trie).foldl (fun acc pf =>
      match acc with
      | .error e => .error e
      | .ok res =>
        match sectionItems cfg env pf.2 with
        | .error e => .error e
        | .ok items => .ok (setKey res pf.1 (items.map fun kv => (kv.1, conv kv.2)))) (.ok [])

/-- `parser.set(section, k, v)` inside `read_dict` (section exists; `""`/`DEFAULT` address the defaults) -/
def setOpt (cfg : Cfg) (sect k v : Str) : Cfg :=
  if sect = [] ∨ sect = defaultSect then { cfg with defaults := setKey cfg.defaults k v }
  else
    { cfg with sections := cfg.sections.map fun s => if s.1 = sect then (s.1, setKey s.2 k v) else s }

/-- `add_section` as used by `read_dict` (`DuplicateSectionError` / `ValueError` for DEFAULT are swallowed) -/
def addSection (cfg : Cfg) (sect : Str) : Cfg :=
  if sect = defaultSect ∨ (cfg.sections.any fun s => s.1 == sect) then cfg
  else { cfg with sections := cfg.sections ++ [(sect, [])] }

def readOpts (cfg : Cfg) (sect : Str) : Opts → Except Err Cfg
  | [] => .ok cfg
  | (k, v) :: t =>
    if v ≠ [] ∧ beforeSetOk v = false then .error .valueError
    else readOpts (setOpt cfg sect k v) sect t

/-- `RawConfigParser.read_dict` -/
def readDictInto (cfg : Cfg) : List (Str × Opts) → Except Err Cfg
  | [] => .ok cfg
  | (s, opts) :: t =>
    match readOpts (addSection cfg s) s opts with
    | .error e => .error e
    | .ok cfg' => readDictInto cfg' t

/-- `Config(config_dict=d)`: read into an empty parser, then `_parse_sections` (which may raise) -/
def readDict (d : List (Str × Opts)) : Except Err Cfg :=
  match readDictInto ⟨[], []⟩ d with
  | .error e => .error e
  | .ok cfg =>
    match parseSections (cfg.sections.map (·.1)) [] with
    | .error e => .error e
    | .ok _ => .ok cfg

end RedunModel.Config
