/-
EvalCore — the redun expression language, the documented graph-reduction rules as a big-step
relation `Eval`, and an executable evaluator `evalAll` / `evalFuel`.

Mirrors (as the code is, not as it should be):
  redun/scheduler.py   Scheduler.evaluate, _evaluate_apply, get_arg_defaults, cond, catch, catch_all,
                       apply_tags, subrun / _subrun_root_task, fork_thread / join_thread
  redun/functools.py   seq, map_ (incl. the map-fusion into `compose_apply.partial(tasks)`)
  redun/expression.py  SimpleExpression operators (`_lazy_operation_registry`), ValueExpression
  redun/task.py        Task.__call__, PartialTask.__call__ (argument merge)
  redun/promise.py     Promise.all (first rejection wins: ANY failing sibling's error is admissible),
                       wait_promises (catch_all)
  docs/source/implementation/evaluation.md

What is *not* here: jobs, the event loop, limits, CSE / caching (results of deterministic tasks do not
depend on them), task options other than the context override, executors.  Task bodies are a parameter
(`Lib.task`), arbitrary deterministic functions from evaluated arguments to an expression or an error.

Outcomes.  `Out.ok v` / `Out.err e` are results the rules prescribe; `Out.unk` is only produced by the
executable evaluator and means "the model does not say" (fuel ran out, or a Python behaviour that is not
modelled, e.g. the message of a TypeError of `1 + "a"`).  `Eval` never derives `unk`.

Nondeterminism.  `Promise.all` rejects with the first rejection it *observes*; which sibling that is
depends on timing.  The relation therefore allows the error of any failing sibling (`consErrHd`,
`consErrTl`), and `evalAll` computes the *set* of admissible outcomes.  `evalFuel` answers only when that
set is a singleton.
-/
namespace RedunModel.EvalCore

/-- A Python exception instance: class name and the canonical text of `args`
(`args[0]` when `args` is a single `str`, otherwise `"!" ++ repr(args)`). -/
structure Err where
  cls : String
  msg : String
  deriving DecidableEq, Repr, Inhabited

/-- Container types `map_nested_value` descends into (dict is a separate constructor). -/
inductive CKind where
  | list | tuple | set
  | ntuple (cls : String)
  | dcls (cls : String)
  deriving DecidableEq, Repr, Inhabited

inductive Expr where
  -- concrete leaves
  | none
  | bool (b : Bool)
  | int (z : Int)
  | str (s : String)
  | errv (e : Err)                       -- exception instance as a value
  | cls (name : String)                  -- exception class object
  | pyfunc (name : String)               -- plain Python function object
  | taskv (t : String)                   -- Task object
  | partialv (t : String) (args : List Expr) (kwn : List String) (kwv : List Expr)  -- PartialTask (arguments NOT evaluated)
  | threadv (e : Expr)                   -- redun Thread holding its expression
  | objv (cls : String) (args : List Expr)  -- instance of a plain user class (a leaf for `evaluate`); bound methods too
  | vexpr (v : Expr)                     -- ValueExpression(v)
  -- nested containers
  | cont (k : CKind) (items : List Expr)
  | dict (ks vs : List Expr)
  -- applications
  /-- TaskExpression; `ovn`/`ovv`: the `_context_override` option (`task.update_context(...)`), concrete values -/
  | call (t : String) (args : List Expr) (kwn : List String) (kwv : List Expr) (ovn : List String) (ovv : List Expr)
  | op (name : String) (args : List Expr)                                        -- SimpleExpression
  -- scheduler tasks (SchedulerExpression), raw arguments
  | cond (exprs : List Expr)
  | seq (exprs : List Expr)
  | catch (e : Expr) (clss recs : List Expr)
  | catchAll (exprs cls recover : Expr)
  | map_ (f values : Expr)
  | applyTags (v tags jtags etags : Expr)
  | fork (e : Expr)
  | join (th : Expr)
  | subrun (e : Expr) (newExec : Bool)
  | getCtx (key : String) (dflt : Expr)   -- redun.get_context(var_path, default), flat keys
  -- internal: `wait_promises` — evaluate and reify the outcome as `(True, v)` / `(False, error)`
  | settle (e : Expr)
  deriving Repr, Inhabited, BEq

inductive Out where
  | ok (v : Expr)
  | err (e : Err)
  | unk
  deriving Repr, Inhabited, BEq

abbrev Outs := List Out

/-- `[e1, e2, ...]` — also used for "evaluate these expressions jointly" (one `Promise.all`). -/
abbrev L (es : List Expr) : Expr := .cont .list es

/-! ## Task table -/

inductive PKind where
  | pos        -- POSITIONAL_ONLY / POSITIONAL_OR_KEYWORD
  | varPos     -- *args
  | kwOnly
  | varKw      -- **kwargs
  deriving DecidableEq, Repr, Inhabited

structure Param where
  name : String
  kind : PKind
  dflt : Option Expr
  deriving Repr, Inhabited

structure TaskDef where
  params : List Param
  /-- `task.func(*args, **kwargs)` on evaluated arguments: returned expression, raised error, or not modelled -/
  body : List Expr → List String → List Expr → Out

/-- A job's context, as a lookup function on (flat) variable names. -/
abbrev Ctx := String → Option Expr

def Ctx.empty : Ctx := fun _ => Option.none

def kvLookup : List String → List Expr → String → Option Expr
  | k :: ks, v :: vs, key => if k == key then some v else kvLookup ks vs key
  | _, _, _ => Option.none

/-- `merge_dicts([parent_context, context_override])` on flat keys: the override wins -/
def Ctx.override (c : Ctx) (ovn : List String) (ovv : List Expr) : Ctx :=
  fun k => match kvLookup ovn ovv k with
    | some v => some v
    | Option.none => c k

/-- `merge_dicts([config_context, run_context])`: what `Scheduler.run(context=...)` starts an execution with -/
def Ctx.over (base top : Ctx) : Ctx :=
  fun k => match top k with
    | some v => some v
    | Option.none => base k

structure Lib where
  task : String → Option TaskDef
  /-- `issubclass(c, d)` on exception class names -/
  isSub : String → String → Bool
  /-- application of a plain Python function object -/
  pyfunc : String → List Expr → List String → List Expr → Out
  /-- field names of a namedtuple / dataclass type -/
  fields : String → List String
  /-- the context of the scheduler configuration (`[scheduler] context`), which `subrun` forwards with the config -/
  config : Ctx := Ctx.empty

/-- `get_arg_defaults(task, args, kwargs)`: defaults of the parameters not given positionally or by keyword. -/
def argDefaultsAux (nargs : Nat) (kwn : List String) : Nat → List Param → List (String × Expr)
  | _, [] => []
  | i, p :: ps =>
    let rest := argDefaultsAux nargs kwn (i + 1) ps
    if i < nargs ∧ p.kind = .pos then rest
    else if kwn.contains p.name then rest
    else match p.dflt with
      | some d => (p.name, d) :: rest
      | none => rest

def argDefaults (ps : List Param) (nargs : Nat) (kwn : List String) : List (String × Expr) :=
  argDefaultsAux nargs kwn 0 ps

/-! ## Values -/

def isLeaf : Expr → Bool
  | .none | .bool _ | .int _ | .str _ | .errv _ | .cls _ | .pyfunc _ | .taskv _
  | .partialv _ _ _ _ | .threadv _ | .objv _ _ => true
  | _ => false

mutual
  /-- keys / set elements the model compares structurally: int, str, None, tuples of those -/
  def simpleKey : Expr → Bool
    | .int _ | .str _ | .none => true
    | .cont .tuple xs => simpleKeys xs
    | _ => false
  def simpleKeys : List Expr → Bool
    | [] => true
    | x :: xs => simpleKey x && simpleKeys xs
end

def nodupKeys : List Expr → Bool
  | [] => true
  | x :: xs => !(xs.contains x) && nodupKeys xs

/-- evaluated dict keys / set elements the model accepts (anything else: `unk`) -/
def keysOk (ks : List Expr) : Bool := simpleKeys ks && nodupKeys ks

def contOk (k : CKind) (vs : List Expr) : Bool :=
  match k with
  | .set => keysOk vs
  | _ => true

mutual
  /-- concrete values: what an evaluation returns; evaluating one again returns it unchanged -/
  def isValue : Expr → Bool
    | .none | .bool _ | .int _ | .str _ | .errv _ | .cls _ | .pyfunc _ | .taskv _
    | .partialv _ _ _ _ | .threadv _ | .objv _ _ => true
    | .cont k items => allValues items && contOk k items
    | .dict ks vs => allValues ks && allValues vs && keysOk ks
    | _ => false
  def allValues : List Expr → Bool
    | [] => true
    | x :: xs => isValue x && allValues xs
end

/-- Python truth value of a concrete value -/
def truthy : Expr → Bool
  | .none => false
  | .bool b => b
  | .int z => z != 0
  | .str s => s != ""
  | .cont (.dcls _) _ => true
  | .cont _ items => !items.isEmpty
  | .dict ks _ => !ks.isEmpty
  | _ => true

def typeName : Expr → Option String
  | .none => some "NoneType"
  | .bool _ => some "bool"
  | .int _ => some "int"
  | .str _ => some "str"
  | .cont .list _ => some "list"
  | .cont .tuple _ => some "tuple"
  | .cont .set _ => some "set"
  | .dict _ _ => some "dict"
  | _ => Option.none

/-! ## Python-level application -/

/-- `{**kw1, **kw2}` on parallel name/value lists: positions of `kw1` kept, overridden values, new keys appended -/
def kwMerge (n1 : List String) (v1 : List Expr) (n2 : List String) (v2 : List Expr) : List (String × Expr) :=
  let p1 := n1.zip v1
  let p2 := n2.zip v2
  p1.map (fun (k, v) => match p2.reverse.find? (fun q => q.1 == k) with
                        | some q => (k, q.2)
                        | Option.none => (k, v))
  ++ p2.filter (fun q => !(n1.contains q.1))

/-- `f(*args, **kwargs)` for a concrete `f` (Task.__call__, PartialTask.__call__, python functions). -/
def applyCallable (lib : Lib) (f : Expr) (args : List Expr) (kwn : List String) (kwv : List Expr) : Out :=
  match f with
  | .taskv t => .ok (.call t args kwn kwv [] [])
  | .partialv t pargs pkwn pkwv =>
    let kw := kwMerge pkwn pkwv kwn kwv
    .ok (.call t (pargs ++ args) (kw.map Prod.fst) (kw.map Prod.snd) [] [])
  | .pyfunc name => lib.pyfunc name args kwn kwv
  | .objv cls as => lib.pyfunc ("call:" ++ cls) (as ++ args) kwn kwv      -- `obj(...)`: `__call__` / a bound method
  | v => match typeName v with
    | some tn => .err ⟨"TypeError", "'" ++ tn ++ "' object is not callable"⟩
    | Option.none => .unk

/-- `isinstance(error, c)` for a raw class / tuple of classes; `none` = not a class spec (TypeError in Python). -/
def errMatches (lib : Lib) (x : Err) : Expr → Option Bool
  | .cls c => some (lib.isSub x.cls c)
  | .cont .tuple cs =>
    cs.foldr (fun c acc => match c, acc with
      | .cls c, some b => some (lib.isSub x.cls c || b)
      | _, _ => Option.none) (some false)
  | _ => Option.none

inductive Match where
  | hit (recover : Expr)
  | miss
  | bad

/-- the loop of `catch.promise_catch` over `zip(errors, recovers)` -/
def firstMatch (lib : Lib) (x : Err) : List Expr → List Expr → Match
  | c :: cs, r :: rs =>
    match errMatches lib x c with
    | some true => .hit r
    | some false => firstMatch lib x cs rs
    | Option.none => .bad
  | _, _ => .miss

/-! ## Operators (`_lazy_operation_registry`) -/

def numOf : Expr → Option Int
  | .int z => some z
  | .bool true => some 1
  | .bool false => some 0
  | _ => Option.none

mutual
  /-- Python `==` on the fragment the model covers (`none` = not modelled) -/
  def pyEq : Expr → Expr → Option Bool
    | .none, .none => some true
    | .str a, .str b => some (a == b)
    | .int a, .int b => some (a == b)
    | .int a, .bool b => some (a == (if b then 1 else 0))
    | .bool a, .int b => some ((if a then 1 else 0) == b)
    | .bool a, .bool b => some (a == b)
    | .cont .list xs, .cont .list ys => pyEqs xs ys
    | .cont .tuple xs, .cont .tuple ys => pyEqs xs ys
    | .none, .int _ | .none, .str _ | .none, .bool _ | .int _, .none | .str _, .none | .bool _, .none
    | .int _, .str _ | .str _, .int _ | .bool _, .str _ | .str _, .bool _ => some false
    | .cont .list _, .cont .tuple _ | .cont .tuple _, .cont .list _ => some false
    | .cont .list _, .int _ | .cont .list _, .str _ | .cont .list _, .none | .cont .list _, .bool _
    | .cont .tuple _, .int _ | .cont .tuple _, .str _ | .cont .tuple _, .none | .cont .tuple _, .bool _
    | .int _, .cont .list _ | .str _, .cont .list _ | .none, .cont .list _ | .bool _, .cont .list _
    | .int _, .cont .tuple _ | .str _, .cont .tuple _ | .none, .cont .tuple _ | .bool _, .cont .tuple _ => some false
    | _, _ => Option.none
  def pyEqs : List Expr → List Expr → Option Bool
    | [], [] => some true
    | x :: xs, y :: ys =>
      match pyEq x y with
      | some true => pyEqs xs ys
      | some false => (pyEqs xs ys).map (fun _ => false)
      | Option.none => Option.none
    | _, _ => some false
end

def pyLt : Expr → Expr → Option Bool
  | .str a, .str b => some (a < b)
  | a, b => match numOf a, numOf b with
    | some x, some y => some (x < y)
    | _, _ => Option.none

/-- canonical text of `KeyError(key).args` -/
def keyErrMsg : Expr → Option String
  | .str s => some s
  | .int z => some ("!(" ++ toString z ++ ",)")
  | _ => Option.none

def seqIndex (what : String) (xs : List Expr) (i : Int) : Out :=
  let n : Int := xs.length
  let j := if i < 0 then i + n else i
  if j < 0 ∨ j ≥ n then .err ⟨"IndexError", what ++ " index out of range"⟩
  else match xs[j.toNat]? with
    | some v => .ok v
    | Option.none => .unk

def dictLookup : List Expr → List Expr → Expr → Option Expr
  | k :: ks, v :: vs, key => if k == key then some v else dictLookup ks vs key
  | _, _, _ => Option.none

def fieldIndex : List String → String → Option Nat
  | [], _ => Option.none
  | f :: fs, name => if f == name then some 0 else (fieldIndex fs name).map (· + 1)

def boolOut : Option Bool → Out
  | some b => .ok (.bool b)
  | Option.none => .unk

def unsupportedOperand (sym : String) (a b : Expr) : Out :=
  match typeName a, typeName b with
  | some ta, some tb => .err ⟨"TypeError", "unsupported operand type(s) for " ++ sym ++ ": '" ++ ta ++ "' and '" ++ tb ++ "'"⟩
  | _, _ => .unk

def cannotConcat (what : String) (b : Expr) : Out :=
  match typeName b with
  | some tb => .err ⟨"TypeError", "can only concatenate " ++ what ++ " (not \"" ++ tb ++ "\") to " ++ what⟩
  | Option.none => .unk

/-- binary `a + b` (CPython's messages for the mismatches between int/bool/None/str/list/tuple/dict/set) -/
def pyAdd (a b : Expr) : Out :=
  match a, b with
  | .str x, .str y => .ok (.str (x ++ y))
  | .cont .list x, .cont .list y => .ok (.cont .list (x ++ y))
  | .cont .tuple x, .cont .tuple y => .ok (.cont .tuple (x ++ y))
  | .str _, _ => cannotConcat "str" b
  | .cont .list _, _ => cannotConcat "list" b
  | .cont .tuple _, .cont (.ntuple _) _ => .unk
  | .cont .tuple _, _ => cannotConcat "tuple" b
  | _, _ =>
    match numOf a, numOf b with
    | some x, some y => .ok (.int (x + y))
    | _, _ => unsupportedOperand "+" a b

def pySub (a b : Expr) : Out :=
  match numOf a, numOf b with
  | some x, some y => .ok (.int (x - y))
  | _, _ =>
    match a, b with
    | .cont .set _, .cont .set _ => .unk
    | _, _ => unsupportedOperand "-" a b

def isSeqVal : Expr → Bool
  | .str _ | .cont .list _ | .cont .tuple _ => true
  | _ => false

def pyMul (a b : Expr) : Out :=
  match numOf a, numOf b with
  | some x, some y => .ok (.int (x * y))
  | _, _ => if isSeqVal a || isSeqVal b then .unk else unsupportedOperand "*" a b

def pyDiv : Expr → Expr → Out
  | .int _, .int 0 => .err ⟨"ZeroDivisionError", "division by zero"⟩
  | _, _ => .unk     -- floats are outside the model

def pyGetitem (c key : Expr) : Out :=
  match c, key with
  | .cont .list xs, .int i => seqIndex "list" xs i
  | .cont .tuple xs, .int i => seqIndex "tuple" xs i
  | .cont (.ntuple _) xs, .int i => seqIndex "tuple" xs i
  | .dict ks vs, key =>
    if simpleKey key && simpleKeys ks then
      match dictLookup ks vs key with
      | some v => .ok v
      | Option.none => match keyErrMsg key with
        | some m => .err ⟨"KeyError", m⟩
        | Option.none => .unk
    else .unk
  | .int _, _ | .bool _, _ | .none, _ =>
    match typeName c with
    | some tn => .err ⟨"TypeError", "'" ++ tn ++ "' object is not subscriptable"⟩
    | Option.none => .unk
  | _, _ => .unk

def pyGetattr (lib : Lib) (obj field : Expr) : Out :=
  match obj, field with
  | .cont (.ntuple c) xs, .str f | .cont (.dcls c) xs, .str f =>
    match fieldIndex (lib.fields c) f with
    | some i => match xs[i]? with
      | some v => .ok v
      | Option.none => .unk
    | Option.none => .unk
  | _, _ => .unk

def strKeys : List Expr → Option (List String)
  | [] => some []
  | .str s :: ks => (strKeys ks).map (s :: ·)
  | _ => Option.none

/-- `func(*args)` of a SimpleExpression on evaluated arguments; the result is evaluated again by the scheduler -/
def applyOp (lib : Lib) (name : String) (vs : List Expr) : Out :=
  match name, vs with
  | "add", [a, b] => pyAdd a b
  | "radd", [a, b] => pyAdd b a
  | "sub", [a, b] => pySub a b
  | "rsub", [a, b] => pySub b a
  | "mul", [a, b] => pyMul a b
  | "rmul", [a, b] => pyMul b a
  | "div", [a, b] => pyDiv a b
  | "rdiv", [a, b] => pyDiv b a
  | "eq", [a, b] => boolOut (pyEq a b)
  | "ne", [a, b] => boolOut ((pyEq a b).map (!·))
  | "lt", [a, b] => boolOut (pyLt a b)
  | "gt", [a, b] => boolOut (pyLt b a)
  | "le", [a, b] => boolOut ((pyLt b a).map (!·))
  | "ge", [a, b] => boolOut ((pyLt a b).map (!·))
  | "and", [a, b] => .ok (if truthy a then b else a)
  | "rand", [a, b] => .ok (if truthy b then a else b)
  | "or", [a, b] => .ok (if truthy a then a else b)
  | "ror", [a, b] => .ok (if truthy b then b else a)
  | "getitem", [.objv cls as, k] => lib.pyfunc ("getitem:" ++ cls) (as ++ [k]) [] []     -- user `__getitem__`
  | "getitem", [c, k] => pyGetitem c k
  | "getattr", [.objv cls as, f] => lib.pyfunc ("getattr:" ++ cls) (as ++ [f]) [] []
  | "getattr", [o, f] => pyGetattr lib o f
  | "call", [f, .cont .tuple args, .dict ks kvs] =>
    match strKeys ks with
    | some kwn => applyCallable lib f args kwn kvs
    | Option.none => .unk
  | _, _ => .unk

/-! ## map_ helpers -/

/-- the `while isinstance(values, SchedulerExpression) and values.task_name == "redun.map_"` loop -/
def mapFuse : List Expr → Expr → List Expr × Expr
  | acc, .map_ f v => mapFuse (acc ++ [f]) v
  | acc, v => (acc, v)

/-- the task expression `map_` evaluates first: `a_task`, or `compose(*tasks)` after fusion -/
def mapTask (tasks : List Expr) : Expr :=
  match tasks with
  | [t] => t
  | ts => .partialv "redun.compose_apply" [.cont .tuple ts] [] []

/-- `[a_task(value) for value in values]` (Python level; stops at the first raising call) -/
def mapCalls (lib : Lib) (f : Expr) : List Expr → Out
  | [] => .ok (L [])
  | x :: xs =>
    match applyCallable lib f [x] [] [] with
    | .ok c => match mapCalls lib f xs with
      | .ok (.cont .list cs) => .ok (L (c :: cs))
      | .ok _ => .unk
      | o => o
    | o => o

/-- `isinstance(values, (list, tuple))` on the raw argument -/
def rawSeq : Expr → Option (List Expr)
  | .cont .list xs | .cont .tuple xs | .cont (.ntuple _) xs => some xs
  | _ => Option.none

/-- iteration over an evaluated `values` -/
def iterOf : Expr → Out
  | .cont .list xs | .cont .tuple xs | .cont (.ntuple _) xs => .ok (L xs)
  | .dict ks _ => .ok (L ks)
  | v => match v with
    | .none | .bool _ | .int _ => match typeName v with
      | some tn => .err ⟨"TypeError", "'" ++ tn ++ "' object is not iterable"⟩
      | Option.none => .unk
    | _ => .unk

/-! ## catch_all helpers -/

/-- terms of the nested value `exprs` (only one level of list/tuple, or a dict with leaf keys, or a single term) -/
def isContainer : Expr → Bool
  | .cont _ _ | .dict _ _ => true
  | _ => false

inductive Shape where
  | single
  | seqOf (k : CKind)
  | dictOf (n : Nat)

def termsOf : Expr → Option (Shape × List Expr)
  | .cont .list xs => if xs.any isContainer then Option.none else some (.seqOf .list, xs)
  | .cont .tuple xs => if xs.any isContainer then Option.none else some (.seqOf .tuple, xs)
  | .dict ks vs =>
    if ks.any isContainer || vs.any isContainer || ks.length != vs.length then Option.none
    else some (.dictOf ks.length, ks ++ vs)
  | .cont _ _ => Option.none
  | e => some (.single, [e])

/-- read back the reified outcomes of `settle`: values with errors in place, and the errors in term order -/
def unsettle : List Expr → Option (List Expr × List Err)
  | [] => some ([], [])
  | .cont .tuple [.bool true, v] :: rest => (unsettle rest).map fun (vs, es) => (v :: vs, es)
  | .cont .tuple [.bool false, .errv x] :: rest => (unsettle rest).map fun (vs, es) => (.errv x :: vs, x :: es)
  | _ => Option.none

def rebuild : Shape → List Expr → Out
  | .single, [v] => .ok v
  | .seqOf k, vs => if contOk k vs then .ok (.cont k vs) else .unk
  | .dictOf n, vs => if keysOk (vs.take n) then .ok (.dict (vs.take n) (vs.drop n)) else .unk
  | _, _ => .unk

/-- `all(isinstance(error, error_class) ...)` / first non-matching error -/
inductive AllMatch where
  | yes
  | no (x : Err)
  | bad

def allMatch (lib : Lib) (c : Expr) : List Err → AllMatch
  | [] => .yes
  | x :: xs =>
    match errMatches lib x c with
    | some true => allMatch lib c xs
    | some false => .no x
    | Option.none => .bad

def isListVal : Expr → Bool
  | .cont .list _ => true
  | _ => false

/-! ## The executable evaluator (set of admissible outcomes) -/

def Out.isOk : Out → Bool
  | .ok _ => true
  | _ => false

def bindO (rs : Outs) (k : Expr → Outs) : Outs :=
  rs.flatMap fun
    | .ok v => k v
    | .err e => [.err e]
    | .unk => [.unk]

def onList (k : List Expr → Outs) : Expr → Outs
  | .cont .list vs => k vs
  | _ => [.unk]

/-- continue with the elements of an evaluated list -/
def bindL (rs : Outs) (k : List Expr → Outs) : Outs := bindO rs (onList k)

/-- outcome(s) of a Python-level step followed by evaluation of what it returned -/
def thenEval (rec : Expr → Outs) : Out → Outs
  | .ok e => rec e
  | o => [o]

/-- one more element in front of a `Promise.all`: all ok, or the error of either side -/
def consJoin (rs tails : Outs) : Outs :=
  (rs.flatMap fun
    | .ok v => tails.flatMap fun
      | .ok (.cont .list vs) => [.ok (L (v :: vs))]
      | .ok _ => [.unk]
      | _ => []
    | _ => [])
  ++ rs.filter (fun r => !r.isOk) ++ tails.filter (fun r => !r.isOk)

def joinList : List Outs → Outs
  | [] => [.ok (L [])]
  | rs :: rest => consJoin rs (joinList rest)

/-- `Scheduler.evaluate([e1, ..., en])` given an evaluator for the terms -/
def evalList (rec : Expr → Outs) (es : List Expr) : Outs := joinList (es.map rec)

def condGo (rec : Expr → Outs) : List Expr → Outs
  | [c, t] =>
    bindO (rec c) fun cv =>
      if truthy cv then rec t else [.err ⟨"IndexError", "tuple index out of range"⟩]
  | [c, t, e] => bindO (rec c) fun cv => if truthy cv then rec t else rec e
  | c :: t :: c2 :: t2 :: rest =>
    bindO (rec c) fun cv => if truthy cv then rec t else condGo rec (c2 :: t2 :: rest)
  | _ => [.unk]

def seqGo (rec : Expr → Outs) : List Expr → Outs
  | [] => [.ok (L [])]
  | e :: es => bindO (rec e) fun v => bindL (seqGo rec es) fun vs => [.ok (L (v :: vs))]

def settleOut : Out → Out
  | .ok v => .ok (.cont .tuple [.bool true, v])
  | .err x => .ok (.cont .tuple [.bool false, .errv x])
  | .unk => .unk

/-- two groups evaluated jointly (`Promise.all([args_promise, default_kwargs_promise])`) -/
def bind2 (xs ys : Outs) (k : List Expr → List Expr → Outs) : Outs :=
  bindL (consJoin xs (consJoin ys [.ok (L [])])) fun
    | [.cont .list a, .cont .list d] => k a d
    | _ => [.unk]

/-- One layer of evaluation with the recursive calls abstracted (`rec` = evaluation with less fuel). -/
def step (lib : Lib) (recC : Ctx → Expr → Outs) (c : Ctx) (e : Expr) : Outs :=
  match e with
  | .none | .bool _ | .int _ | .str _ | .errv _ | .cls _ | .pyfunc _ | .taskv _
  | .partialv _ _ _ _ | .threadv _ | .objv _ _ => [.ok e]
  | .vexpr v => if isValue v then [.ok v] else [.unk]
  | .cont .list es => evalList (recC c) es
  | .cont k es => bindL (evalList (recC c) es) fun vs => if contOk k vs then [.ok (.cont k vs)] else [.unk]
  | .dict ks vs =>
    bindL (evalList (recC c) (ks ++ vs)) fun all =>
      if keysOk (all.take ks.length) then [.ok (.dict (all.take ks.length) (all.drop ks.length))] else [.unk]
  | .call t args kwn kwv ovn ovv =>
    match lib.task t with
    | Option.none => [.unk]
    | some td =>
      -- arguments under the caller's context; unspecified defaults and the body's result under the job's own context
      let c' := c.override ovn ovv
      let ds := argDefaults td.params args.length kwn
      bind2 (evalList (recC c) (args ++ kwv)) (evalList (recC c') (ds.map Prod.snd)) fun akv dvs =>
        thenEval (recC c') (td.body (akv.take args.length) (ds.map Prod.fst ++ kwn) (dvs ++ akv.drop args.length))
  | .op name args => bindL (evalList (recC c) args) fun vs => thenEval (recC c) (applyOp lib name vs)
  | .cond exprs => condGo (recC c) exprs
  | .seq exprs => seqGo (recC c) exprs
  | .catch e clss recs =>
    ((recC c) e).flatMap fun
      | .ok v => [.ok v]
      | .unk => [.unk]
      | .err x =>
        match firstMatch lib x clss recs with
        | .miss => [.err x]
        | .bad => [.unk]
        | .hit r => thenEval (recC c) (applyCallable lib r [.vexpr (.errv x)] [] [])
  | .catchAll exprs cls recover =>
    match termsOf exprs with
    | Option.none => [.unk]
    | some (shape, items) =>
      bindL (evalList (recC c) (items.map .settle)) fun outs =>
        match unsettle outs with
        | Option.none => [.unk]
        | some (vals, []) => [rebuild shape vals]
        | some (vals, x :: errs) =>
          if !isValue recover then [.unk]
          else if !truthy recover then [.err x]
          else bindL (evalList (recC c) [cls, recover]) fun
            | [cv, rv] =>
              match allMatch lib cv (x :: errs) with
              | .bad => [.unk]
              | .no y => [.err y]
              | .yes =>
                match rebuild shape vals with
                | .ok nv => thenEval (recC c) (applyCallable lib rv [nv] [] [])
                | o => [o]
            | _ => [.unk]
  | .map_ f values =>
    let (tasks, vals) := mapFuse [f] values
    bindO ((recC c) (mapTask tasks)) fun av =>
      match rawSeq vals with
      | some items => thenEval (recC c) (mapCalls lib av items)
      | Option.none =>
        bindO ((recC c) vals) fun vv =>
          match iterOf vv with
          | .ok (.cont .list items) => thenEval (recC c) (mapCalls lib av items)
          | .ok _ => [.unk]
          | o => [o]
  | .applyTags v tags jtags etags =>
    bindL (evalList (recC c) [v, tags, jtags, etags]) fun
      | [vv, tv, jv, ev] => if isListVal tv && isListVal jv && isListVal ev then [.ok vv] else [.unk]
      | _ => [.unk]
  | .fork e => [.ok (.threadv e)]
  | .join th =>
    match th with
    | .threadv e => (recC c) e
    | _ => [.unk]
  | .subrun e ne =>
    -- `run_config["context"]` = the calling job's context; a new execution starts from config context + that context,
    -- an extended one from a dummy parent job whose only override is that context
    let inner : Ctx := if ne then lib.config.over c else Ctx.empty.over c
    (recC inner e).flatMap fun
      | .ok v =>
        bindO ((recC c) (.dict [.str "result"] [v])) fun
          | .dict [_] [v'] => [.ok v']
          | _ => [.unk]
      | .err x => [.err x]
      | .unk => [.unk]
  | .getCtx key dflt =>
    if key.toList.contains '.' || !isValue dflt then [.unk]
    else match c key with
      | some v => if isValue v then [.ok v] else [.unk]
      | Option.none => [.ok dflt]
  | .settle e => ((recC c) e).map settleOut

/-- all admissible outcomes of `e` found with `n` layers of fuel (`unk` = fuel ran out / not modelled) -/
def evalAll (lib : Lib) : Nat → Ctx → Expr → Outs
  | 0, _, _ => [.unk]
  | n + 1, c, e => step lib (evalAll lib n) c e

/-- the outcome of `e`, when the model determines exactly one -/
def evalFuel (lib : Lib) (n : Nat) (c : Ctx) (e : Expr) : Option Out :=
  match evalAll lib n c e with
  | [.ok v] => some (.ok v)
  | [.err x] => some (.err x)
  | _ => Option.none

/-! ## The reduction rules as a big-step relation -/

set_option autoImplicit true in
inductive Eval (lib : Lib) : Ctx → Expr → Out → Prop
  -- concrete values evaluate to themselves
  | leaf {e} : isLeaf e = true → Eval lib cx e (.ok e)
  | vexpr {v} : isValue v = true → Eval lib cx (.vexpr v) (.ok v)
  -- eval([a, b, ...]) => [eval(a), eval(b), ...]; a rejected term rejects the whole (any of them may win)
  | nil : Eval lib cx (L []) (.ok (L []))
  | cons {e es v vs} : Eval lib cx e (.ok v) → Eval lib cx (L es) (.ok (L vs)) → Eval lib cx (L (e :: es)) (.ok (L (v :: vs)))
  | consErrHd {e es x} : Eval lib cx e (.err x) → Eval lib cx (L (e :: es)) (.err x)
  | consErrTl {e es x} : Eval lib cx (L es) (.err x) → Eval lib cx (L (e :: es)) (.err x)
  -- tuples, sets, named tuples, dataclasses, dicts
  | cont {k es vs} : k ≠ .list → Eval lib cx (L es) (.ok (L vs)) → contOk k vs = true →
      Eval lib cx (.cont k es) (.ok (.cont k vs))
  | contErr {k es x} : k ≠ .list → Eval lib cx (L es) (.err x) → Eval lib cx (.cont k es) (.err x)
  | dict {ks vs all} : Eval lib cx (L (ks ++ vs)) (.ok (L all)) → keysOk (all.take ks.length) = true →
      Eval lib cx (.dict ks vs) (.ok (.dict (all.take ks.length) (all.drop ks.length)))
  | dictErr {ks vs x} : Eval lib cx (L (ks ++ vs)) (.err x) → Eval lib cx (.dict ks vs) (.err x)
  -- TaskExpression: arguments, keyword arguments and unspecified defaults are evaluated jointly, then the
  -- body runs, then its result is evaluated
  | call {t args kwn kwv ovn ovv td akv dvs e' r} : lib.task t = some td →
      Eval lib cx (L (args ++ kwv)) (.ok (L akv)) →
      Eval lib (cx.override ovn ovv) (L ((argDefaults td.params args.length kwn).map Prod.snd)) (.ok (L dvs)) →
      td.body (akv.take args.length) ((argDefaults td.params args.length kwn).map Prod.fst ++ kwn)
        (dvs ++ akv.drop args.length) = .ok e' →
      Eval lib (cx.override ovn ovv) e' r → Eval lib cx (.call t args kwn kwv ovn ovv) r
  | callRaise {t args kwn kwv ovn ovv td akv dvs x} : lib.task t = some td →
      Eval lib cx (L (args ++ kwv)) (.ok (L akv)) →
      Eval lib (cx.override ovn ovv) (L ((argDefaults td.params args.length kwn).map Prod.snd)) (.ok (L dvs)) →
      td.body (akv.take args.length) ((argDefaults td.params args.length kwn).map Prod.fst ++ kwn)
        (dvs ++ akv.drop args.length) = .err x →
      Eval lib cx (.call t args kwn kwv ovn ovv) (.err x)
  | callArgErr {t args kwn kwv ovn ovv td x} : lib.task t = some td →
      Eval lib cx (L (args ++ kwv)) (.err x) → Eval lib cx (.call t args kwn kwv ovn ovv) (.err x)
  | callDefaultErr {t args kwn kwv ovn ovv td x} : lib.task t = some td →
      Eval lib (cx.override ovn ovv) (L ((argDefaults td.params args.length kwn).map Prod.snd)) (.err x) →
      Eval lib cx (.call t args kwn kwv ovn ovv) (.err x)
  -- SimpleExpression: evaluate the arguments, apply the operator, evaluate its result
  | op {name args vs e' r} : Eval lib cx (L args) (.ok (L vs)) → applyOp lib name vs = .ok e' → Eval lib cx e' r →
      Eval lib cx (.op name args) r
  | opRaise {name args vs x} : Eval lib cx (L args) (.ok (L vs)) → applyOp lib name vs = .err x →
      Eval lib cx (.op name args) (.err x)
  | opArgErr {name args x} : Eval lib cx (L args) (.err x) → Eval lib cx (.op name args) (.err x)
  -- cond
  | condErr {c t rest x} : Eval lib cx c (.err x) → Eval lib cx (.cond (c :: t :: rest)) (.err x)
  | condThen {c t rest cv r} : Eval lib cx c (.ok cv) → truthy cv = true → Eval lib cx t r →
      Eval lib cx (.cond (c :: t :: rest)) r
  | condElse {c t e cv r} : Eval lib cx c (.ok cv) → truthy cv = false → Eval lib cx e r →
      Eval lib cx (.cond [c, t, e]) r
  | condElif {c t c2 t2 rest cv r} : Eval lib cx c (.ok cv) → truthy cv = false →
      Eval lib cx (.cond (c2 :: t2 :: rest)) r → Eval lib cx (.cond (c :: t :: c2 :: t2 :: rest)) r
  | condNoElse {c t cv} : Eval lib cx c (.ok cv) → truthy cv = false →
      Eval lib cx (.cond [c, t]) (.err ⟨"IndexError", "tuple index out of range"⟩)
  -- seq: strictly left to right
  | seqNil : Eval lib cx (.seq []) (.ok (L []))
  | seqCons {e es v vs} : Eval lib cx e (.ok v) → Eval lib cx (.seq es) (.ok (L vs)) → Eval lib cx (.seq (e :: es)) (.ok (L (v :: vs)))
  | seqErrHd {e es x} : Eval lib cx e (.err x) → Eval lib cx (.seq (e :: es)) (.err x)
  | seqErrTl {e es v x} : Eval lib cx e (.ok v) → Eval lib cx (.seq es) (.err x) → Eval lib cx (.seq (e :: es)) (.err x)
  -- catch
  | catchOk {e clss recs v} : Eval lib cx e (.ok v) → Eval lib cx (.catch e clss recs) (.ok v)
  | catchMiss {e clss recs x} : Eval lib cx e (.err x) → firstMatch lib x clss recs = .miss →
      Eval lib cx (.catch e clss recs) (.err x)
  | catchHit {e clss recs x rc e' r} : Eval lib cx e (.err x) → firstMatch lib x clss recs = .hit rc →
      applyCallable lib rc [.vexpr (.errv x)] [] [] = .ok e' → Eval lib cx e' r → Eval lib cx (.catch e clss recs) r
  | catchHitRaise {e clss recs x rc y} : Eval lib cx e (.err x) → firstMatch lib x clss recs = .hit rc →
      applyCallable lib rc [.vexpr (.errv x)] [] [] = .err y → Eval lib cx (.catch e clss recs) (.err y)
  -- wait_promises: a term's outcome reified
  | settleOk {e v} : Eval lib cx e (.ok v) → Eval lib cx (.settle e) (.ok (.cont .tuple [.bool true, v]))
  | settleErr {e x} : Eval lib cx e (.err x) → Eval lib cx (.settle e) (.ok (.cont .tuple [.bool false, .errv x]))
  -- catch_all
  | catchAllOk {exprs cls recover shape items outs vals v} : termsOf exprs = some (shape, items) →
      Eval lib cx (L (items.map .settle)) (.ok (L outs)) → unsettle outs = some (vals, []) →
      rebuild shape vals = .ok v → Eval lib cx (.catchAll exprs cls recover) (.ok v)
  | catchAllFirst {exprs cls recover shape items outs vals x errs} : termsOf exprs = some (shape, items) →
      Eval lib cx (L (items.map .settle)) (.ok (L outs)) → unsettle outs = some (vals, x :: errs) →
      isValue recover = true → truthy recover = false → Eval lib cx (.catchAll exprs cls recover) (.err x)
  | catchAllArgErr {exprs cls recover shape items outs vals x errs y} : termsOf exprs = some (shape, items) →
      Eval lib cx (L (items.map .settle)) (.ok (L outs)) → unsettle outs = some (vals, x :: errs) →
      isValue recover = true → truthy recover = true → Eval lib cx (L [cls, recover]) (.err y) →
      Eval lib cx (.catchAll exprs cls recover) (.err y)
  | catchAllNoMatch {exprs cls recover shape items outs vals x errs cv rv y} : termsOf exprs = some (shape, items) →
      Eval lib cx (L (items.map .settle)) (.ok (L outs)) → unsettle outs = some (vals, x :: errs) →
      isValue recover = true → truthy recover = true → Eval lib cx (L [cls, recover]) (.ok (L [cv, rv])) →
      allMatch lib cv (x :: errs) = .no y → Eval lib cx (.catchAll exprs cls recover) (.err y)
  | catchAllRecover {exprs cls recover shape items outs vals x errs cv rv nv e' r} :
      termsOf exprs = some (shape, items) →
      Eval lib cx (L (items.map .settle)) (.ok (L outs)) → unsettle outs = some (vals, x :: errs) →
      isValue recover = true → truthy recover = true → Eval lib cx (L [cls, recover]) (.ok (L [cv, rv])) →
      allMatch lib cv (x :: errs) = .yes → rebuild shape vals = .ok nv →
      applyCallable lib rv [nv] [] [] = .ok e' → Eval lib cx e' r → Eval lib cx (.catchAll exprs cls recover) r
  | catchAllRecoverRaise {exprs cls recover shape items outs vals x errs cv rv nv y} :
      termsOf exprs = some (shape, items) →
      Eval lib cx (L (items.map .settle)) (.ok (L outs)) → unsettle outs = some (vals, x :: errs) →
      isValue recover = true → truthy recover = true → Eval lib cx (L [cls, recover]) (.ok (L [cv, rv])) →
      allMatch lib cv (x :: errs) = .yes → rebuild shape vals = .ok nv →
      applyCallable lib rv [nv] [] [] = .err y → Eval lib cx (.catchAll exprs cls recover) (.err y)
  -- map_
  | mapTaskErr {f values x} : Eval lib cx (mapTask (mapFuse [f] values).1) (.err x) → Eval lib cx (.map_ f values) (.err x)
  | mapRaw {f values av items e' r} : Eval lib cx (mapTask (mapFuse [f] values).1) (.ok av) →
      rawSeq (mapFuse [f] values).2 = some items → mapCalls lib av items = .ok e' → Eval lib cx e' r →
      Eval lib cx (.map_ f values) r
  | mapRawRaise {f values av items x} : Eval lib cx (mapTask (mapFuse [f] values).1) (.ok av) →
      rawSeq (mapFuse [f] values).2 = some items → mapCalls lib av items = .err x →
      Eval lib cx (.map_ f values) (.err x)
  | mapValuesErr {f values av x} : Eval lib cx (mapTask (mapFuse [f] values).1) (.ok av) →
      rawSeq (mapFuse [f] values).2 = Option.none → Eval lib cx (mapFuse [f] values).2 (.err x) →
      Eval lib cx (.map_ f values) (.err x)
  | mapNotIter {f values av vv x} : Eval lib cx (mapTask (mapFuse [f] values).1) (.ok av) →
      rawSeq (mapFuse [f] values).2 = Option.none → Eval lib cx (mapFuse [f] values).2 (.ok vv) →
      iterOf vv = .err x → Eval lib cx (.map_ f values) (.err x)
  | mapEval {f values av vv items e' r} : Eval lib cx (mapTask (mapFuse [f] values).1) (.ok av) →
      rawSeq (mapFuse [f] values).2 = Option.none → Eval lib cx (mapFuse [f] values).2 (.ok vv) →
      iterOf vv = .ok (L items) → mapCalls lib av items = .ok e' → Eval lib cx e' r → Eval lib cx (.map_ f values) r
  | mapEvalRaise {f values av vv items x} : Eval lib cx (mapTask (mapFuse [f] values).1) (.ok av) →
      rawSeq (mapFuse [f] values).2 = Option.none → Eval lib cx (mapFuse [f] values).2 (.ok vv) →
      iterOf vv = .ok (L items) → mapCalls lib av items = .err x → Eval lib cx (.map_ f values) (.err x)
  -- apply_tags returns its (evaluated) first argument
  | applyTags {v tags jtags etags vv tv jv ev} : Eval lib cx (L [v, tags, jtags, etags]) (.ok (L [vv, tv, jv, ev])) →
      isListVal tv = true → isListVal jv = true → isListVal ev = true →
      Eval lib cx (.applyTags v tags jtags etags) (.ok vv)
  | applyTagsErr {v tags jtags etags x} : Eval lib cx (L [v, tags, jtags, etags]) (.err x) →
      Eval lib cx (.applyTags v tags jtags etags) (.err x)
  -- fork_thread returns a Thread at once, whatever becomes of `e`; join_thread is the thread's outcome
  | fork {e} : Eval lib cx (.fork e) (.ok (.threadv e))
  | join {e r} : Eval lib cx e r → Eval lib cx (.join (.threadv e)) r
  -- subrun: the inner scheduler evaluates `e`; a value travels back inside the record `_subrun_root_task` returns,
  -- which the outer scheduler evaluates (as any task result) before `subrun.then` unwraps it; an error makes the
  -- `_subrun_root_task` job itself fail, for a new execution (`run` raises) and for an extended one alike
  | subrunOk {e ne v k v'} : Eval lib (if ne then lib.config.over cx else Ctx.empty.over cx) e (.ok v) →
      Eval lib cx (.dict [.str "result"] [v]) (.ok (.dict [k] [v'])) → Eval lib cx (.subrun e ne) (.ok v')
  | subrunOkErr {e ne v x} : Eval lib (if ne then lib.config.over cx else Ctx.empty.over cx) e (.ok v) →
      Eval lib cx (.dict [.str "result"] [v]) (.err x) → Eval lib cx (.subrun e ne) (.err x)
  | subrunErr {e ne x} : Eval lib (if ne then lib.config.over cx else Ctx.empty.over cx) e (.err x) →
      Eval lib cx (.subrun e ne) (.err x)
  -- get_context(var, default): the value in the current job's context, else the default
  | getCtxHit {key dflt v} : key.toList.contains '.' = false → isValue dflt = true → cx key = some v → isValue v = true →
      Eval lib cx (.getCtx key dflt) (.ok v)
  | getCtxMiss {key dflt} : key.toList.contains '.' = false → isValue dflt = true → cx key = Option.none →
      Eval lib cx (.getCtx key dflt) (.ok dflt)

end RedunModel.EvalCore
