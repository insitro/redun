/-
Model of the monitor-thread start/stop protocol of redun's remote executors
(redun/executors/docker.py, aws_batch.py, k8s.py, gcp_batch.py, aws_glue.py) as a transition
system over thread interleavings (core Lean only).

Threads: `S` — the scheduler thread submitting jobs (`_submit` tail + `_start`); `M k` — the k-th
monitor thread created by `_start` (`_monitor` + the `stop()` it calls when its loop ends); for
AWS Glue `U k` — the k-th submission thread (`_submission_thread`); for the executors that use the
job arrayer (AWS Batch, K8S, GCP Batch) `A` — the array-monitor thread, modelled coarsely: one
step = one poll that hands every queued job to the executor (`stale_time < 0`), created by
`add_job`, ended by `arrayer.stop()` (its line-level behaviour is property C11's model).

One transition per LINE event of `_start`, `_monitor`, `stop` (and `_submission_thread`), plus the
insert line and the `self._start()` line of `_submit`.  The five executors are five values of
`Variant`: the protocol phases are shared, the runs of lines that do not touch the protocol state
("nops") are data (lists of line labels), and so is the order of the operations of `stop()`.
The fake cloud API completes every job it is asked about, except that the environment may arm a transient
error which the next status processing then hits (`Ev.F`).
-/
namespace RedunModel.Monitor

abbrev Job := Nat
abbrev Lbl := Nat

/-- operations of the monitor's exit path (`self.log(...)`, `self.stop()` and the body of `stop()`) -/
inductive PostOp where
  | nop
  | clearFlag      -- `self.is_running = False`
  | arrStop        -- `self.arrayer.stop()`
  | tSet           -- `self._thread`                                  (first conjunct of the join guard)
  | tAlive         -- `and self._thread.is_alive()`
  | tNotMe         -- `and threading.get_ident() != self._thread.ident`
  | join           -- `self._thread.join()`
  deriving DecidableEq, Repr

structure Variant where
  arr : Bool            -- submissions go to the arrayer first; monitor loop also tests `arrayer.num_pending`
  glue : Bool           -- Glue: queue + submission thread; `_start` restarts threads by liveness
  testThread : Bool     -- `_start` guard is `not self._thread or not self._thread.is_alive()` (GCP)
  retLine : Option Lbl  -- explicit `return` line when already running (K8S)
  lIns : Lbl            -- `_submit`: the line that records the job (pending map / add_job / append)
  lCall : Lbl           -- `_submit`: `self._start()`
  sPre : List Lbl       -- `_start`: lines before the guard
  lTest : Lbl
  sSetPre : List Lbl    -- lines between the guard and `is_running = True`
  lSet : Lbl
  sNewPre : List Lbl    -- lines between `is_running = True` and the thread creation
  lNew : Lbl
  lStart : Lbl
  lTestMon : Lbl := 0   -- Glue: `if not self._monitor_thread.is_alive():`
  lTestSub : Lbl := 0   -- Glue: `if not self._submit_thread.is_alive():`
  lNewSub : Lbl := 0
  lStartSub : Lbl := 0
  mPre : List Lbl       -- `_monitor`: lines before the loop
  lLoop : Lbl           -- `while self.is_running and (...)`
  mBodyPre : List Lbl   -- loop body lines before the snapshot of the pending keys
  lSnap : Lbl
  mSnapPost : List Lbl
  lFor : Lbl
  mProcPre : List Lbl   -- for-body lines before the status is processed
  lProc : Lbl
  mProcPostFirst : List Lbl  -- for-body lines after it when `i % 100 == 0`
  mProcPost : List Lbl       -- ... otherwise
  mSleep : List Lbl     -- lines after the for loop
  mExc : List Lbl       -- `except Exception as error:` ... `reject_job(None, error)`
  post : List (Lbl × PostOp)
  uPre : List Lbl := []     -- Glue `_submission_thread`
  lUOuter : Lbl := 0
  lUFc : Lbl := 0
  lUInner : Lbl := 0
  lUPop : Lbl := 0
  uMid : List Lbl := []
  lUPromote : Lbl := 0
  uPost : List Lbl := []
  uSleep : List Lbl := []
  reunite : Bool := false   -- `_submit` reunites a job with a listed in-flight cloud job of an earlier execution (modelled for AWS Batch)
  lReunite : Lbl := 0       -- `self.pending_batch_jobs[batch_job_id] = job`
  popFirst : Bool := true   -- `_process_job_status` removes the job from the pending map before its cloud calls (all but Glue)
  arrMax : Nat := 0         -- arrayer `max_array_size` (0 = larger than any group): a poll hands over at most this many
                            -- jobs of the (single) group and puts the remainder back, still stale

/-! ### thread states -/
inductive SPh where
  | ins | call | pre (r : List Lbl) | test | ret | setPre (r : List Lbl) | set | testMon
  | newPre (r : List Lbl) | new | start | testSub | newSub | startSub | done
  deriving DecidableEq, Repr

inductive MPh where
  | unstarted
  | pre (r : List Lbl) | loop | bodyPre (r : List Lbl) | snap | snapPost (r : List Lbl) | forHead
  | procPre (r : List Lbl) | proc | procPost (r : List Lbl) | sleep (r : List Lbl)
  | exc (r : List Lbl)
  | post (r : List (Lbl × PostOp))
  | dead
  deriving DecidableEq, Repr

structure Mon where
  ph : MPh
  iter : List Job := []
  cur : Job := 0
  idx : Nat := 0
  deriving DecidableEq, Repr

inductive UPh where
  | unstarted
  | pre (r : List Lbl) | outer | fc | inner | pop | mid (r : List Lbl) | promote | post (r : List Lbl)
  | sleep (r : List Lbl)
  | dead
  deriving DecidableEq, Repr

structure Sub where
  ph : UPh
  cur : Job := 0
  deriving DecidableEq, Repr

structure State where
  flag : Bool := false              -- is_running
  pending : List Job := []          -- jobs the monitor polls (pending map; Glue: running_glue_jobs)
  queue : List Job := []            -- arrayer.pending / Glue pending_glue_jobs
  arrAlive : Bool := false          -- coarse arrayer thread
  reported : List Job := []         -- done_job / reject_job(job, ..) calls, in order
  crashes : Nat := 0                -- reject_job(None, error) calls from a monitor
  submitted : List Job := []        -- ghost: jobs recorded by `_submit` so far
  hit : Bool := false               -- ghost: some job was recorded while a monitor was leaving
  sph : SPh
  cur : Job := 0
  todo : List Job := []
  old : List Mon := []              -- monitor threads created before the current one, in creation order
  mon : Option Mon := none          -- the thread `self._thread` (Glue: `self._monitor_thread`) refers to
  oldSubs : List Sub := []          -- Glue: earlier submission threads
  sub : Option Sub := none          -- Glue: `self._submit_thread`
  armed : Bool := false             -- environment: the next status processing hits one transient cloud error (throttling)
  faulted : Bool := false           -- ghost: such an error has been injected at some point
  dropped : List Job := []          -- ghost: jobs removed from the pending map by a processing step that then failed
  pre : List Job := []              -- environment: jobs for which the cloud listed an in-flight job of an earlier execution
                                    -- (`preexisting_batch_jobs`, filled by the first submission)
  gone : List Job := []             -- environment: listed cloud jobs the API no longer knows (describe returns nothing)
  deriving Repr

/-- all monitor / submission threads in creation order (thread `M k` / `U k` is element `k`) -/
def State.mons (s : State) : List Mon := s.old ++ s.mon.toList
def State.subs (s : State) : List Sub := s.oldSubs ++ s.sub.toList

def init (jobs : List Job) : State :=
  match jobs with
  | [] => { sph := .done }
  | j :: r => { sph := .ins, cur := j, todo := r }

/-! ### helpers -/
def monAlive (m : Mon) : Bool := m.ph != .unstarted && m.ph != .dead
def subAlive (u : Sub) : Bool := u.ph != .unstarted && u.ph != .dead

def lastMonAlive (s : State) : Bool :=
  match s.mon with
  | some m => monAlive m
  | none => false

def lastSubAlive (s : State) : Bool :=
  match s.sub with
  | some u => subAlive u
  | none => false

/-- the monitor has decided to leave its loop and a later `_start` may still take it for running -/
def exiting (V : Variant) (m : Mon) : Bool :=
  match m.ph with
  | .post r => V.testThread || V.glue || r.any (fun x => x.2 == .clearFlag)
  | .exc _ => true
  | _ => false

def sNops (r : List Lbl) (k : List Lbl → SPh) (next : SPh) : SPh :=
  match r with
  | [] => next
  | _ :: _ => k r

def mNops (r : List Lbl) (k : List Lbl → MPh) (next : MPh) : MPh :=
  match r with
  | [] => next
  | _ :: _ => k r

def mPost (r : List (Lbl × PostOp)) : MPh :=
  match r with
  | [] => .dead
  | _ :: _ => .post r

def uNops (r : List Lbl) (k : List Lbl → UPh) (next : UPh) : UPh :=
  match r with
  | [] => next
  | _ :: _ => k r

/-- end of the current `_submit` call -/
def finishS (s : State) : State :=
  match s.todo with
  | [] => { s with sph := .done }
  | j :: r => { s with sph := .ins, cur := j, todo := r }

/-! ### the scheduler thread -/
def stepS (V : Variant) (s : State) : Option State :=
  match s.sph with
  | .ins =>
    let s := { s with submitted := s.submitted ++ [s.cur], hit := s.hit || s.mons.any (exiting V), sph := .call }
    if V.reunite && s.pre.contains s.cur && !s.gone.contains s.cur then
      -- the old cloud job still exists (whatever its status): the job is monitored under the old id
      some { s with pending := s.pending ++ [s.cur], pre := s.pre.erase s.cur }
    else
    let s := { s with pre := s.pre.erase s.cur }
    if V.glue then some { s with queue := s.queue ++ [s.cur] }
    else if V.arr then some { s with queue := s.queue ++ [s.cur], arrAlive := true }
    else some { s with pending := s.pending ++ [s.cur] }
  | .call => some { s with sph := sNops V.sPre .pre .test }
  | .pre r => some { s with sph := sNops r.tail .pre .test }
  | .test =>
    let guard := if V.testThread then !lastMonAlive s else !s.flag
    if guard then some { s with sph := sNops V.sSetPre .setPre .set }
    else if V.glue then some { s with sph := .testMon }
    else match V.retLine with
      | some _ => some { s with sph := .ret }
      | none => some (finishS s)
  | .ret => some (finishS s)
  | .setPre r => some { s with sph := sNops r.tail .setPre .set }
  | .set =>
    if V.glue then some { s with flag := true, sph := .testMon }
    else some { s with flag := true, sph := sNops V.sNewPre .newPre .new }
  | .testMon => if lastMonAlive s then some { s with sph := .testSub } else some { s with sph := .new }
  | .newPre r => some { s with sph := sNops r.tail .newPre .new }
  | .new => some { s with old := s.old ++ s.mon.toList, mon := some { ph := .unstarted }, sph := .start }
  | .start =>
    -- Thread.start() of the thread object created by the line before (a started thread cannot be started again)
    let s := { s with mon := s.mon.map (fun m => if m.ph = .unstarted then { m with ph := mNops V.mPre .pre .loop } else m) }
    if V.glue then some { s with sph := .testSub } else some (finishS s)
  | .testSub => if lastSubAlive s then some (finishS s) else some { s with sph := .newSub }
  | .newSub => some { s with oldSubs := s.oldSubs ++ s.sub.toList, sub := some { ph := .unstarted }, sph := .startSub }
  | .startSub =>
    some (finishS { s with sub := s.sub.map (fun u => if u.ph = .unstarted then { u with ph := uNops V.uPre .pre .outer } else u) })
  | .done => none

/-! ### a monitor thread -/
def stepMon (V : Variant) (s : State) (isLast : Bool) (m : Mon) : Option (State × Mon) :=
  match m.ph with
  | .unstarted => none
  | .dead => none
  | .pre r => some (s, { m with ph := mNops r.tail .pre .loop })
  | .loop =>
    if s.flag && (!s.pending.isEmpty || !s.queue.isEmpty) then
      some (s, { m with ph := mNops V.mBodyPre .bodyPre .snap })
    else some (s, { m with ph := mPost V.post })
  | .bodyPre r => some (s, { m with ph := mNops r.tail .bodyPre .snap })
  | .snap => some (s, { m with iter := s.pending, idx := 0, ph := mNops V.mSnapPost .snapPost .forHead })
  | .snapPost r => some (s, { m with ph := mNops r.tail .snapPost .forHead })
  | .forHead =>
    match m.iter with
    | [] => some (s, { m with ph := mNops V.mSleep .sleep .loop })
    | j :: r => some (s, { m with cur := j, iter := r, ph := mNops V.mProcPre .procPre .proc })
  | .procPre r => some (s, { m with ph := mNops r.tail .procPre .proc })
  | .proc =>
    if s.armed then
      -- a cloud call inside `_process_job_status` raises (throttling): nothing is reported, the exception leaves the for
      -- loop and reaches `except Exception` of `_monitor`; the job has already been popped where the pop comes first
      let s1 := if V.popFirst && s.pending.contains m.cur then
          { s with pending := s.pending.erase m.cur, dropped := s.dropped ++ [m.cur] } else s
      some ({ s1 with armed := false }, { m with ph := mNops V.mExc .exc (mPost V.post) })
    else if s.pending.contains m.cur then
      some ({ s with pending := s.pending.erase m.cur, reported := s.reported ++ [m.cur] },
            { m with idx := m.idx + 1,
                     ph := mNops (if m.idx % 100 == 0 then V.mProcPostFirst else V.mProcPost) .procPost .forHead })
    else some (s, { m with ph := mNops V.mExc .exc (mPost V.post) })     -- KeyError / AssertionError
  | .procPost r => some (s, { m with ph := mNops r.tail .procPost .forHead })
  | .sleep r => some (s, { m with ph := mNops r.tail .sleep .loop })
  | .exc r =>
    match r.tail with
    | [] => some ({ s with crashes := s.crashes + 1 }, { m with ph := mPost V.post })   -- reject_job(None, error)
    | r' => some (s, { m with ph := .exc r' })
  | .post r =>
    match r with
    | [] => none
    | (_, op) :: r' =>
      match op with
      | .nop => some (s, { m with ph := mPost r' })
      | .clearFlag => some ({ s with flag := false }, { m with ph := mPost r' })
      | .arrStop => some ({ s with arrAlive := false }, { m with ph := mPost r' })
      | .tSet => some (s, { m with ph := mPost r' })
      | .tAlive => if lastMonAlive s then some (s, { m with ph := mPost r' }) else some (s, { m with ph := .dead })
      | .tNotMe => if !isLast then some (s, { m with ph := mPost r' }) else some (s, { m with ph := .dead })
      | .join => if lastMonAlive s then none else some (s, { m with ph := mPost r' })

def stepM (V : Variant) (s : State) (k : Nat) : Option State :=
  match s.old[k]? with
  | some m =>
    match stepMon V s false m with
    | none => none
    | some (s', m') => some { s' with old := s'.old.set k m' }
  | none =>
    if k = s.old.length then
      match s.mon with
      | none => none
      | some m =>
        match stepMon V s true m with
        | none => none
        | some (s', m') => some { s' with mon := some m' }
    else none

/-! ### a Glue submission thread -/
def stepSub (V : Variant) (s : State) (u : Sub) : Option (State × Sub) :=
  match u.ph with
  | .unstarted => none
  | .dead => none
  | .pre r => some (s, { u with ph := uNops r.tail .pre .outer })
  | .outer => if s.flag && !s.queue.isEmpty then some (s, { u with ph := .fc }) else some (s, { u with ph := .dead })
  | .fc => some (s, { u with ph := .inner })
  | .inner => if !s.queue.isEmpty then some (s, { u with ph := .pop }) else some (s, { u with ph := uNops V.uSleep .sleep .outer })
  | .pop =>
    match s.queue with
    | [] => none
    | j :: r => some ({ s with queue := r }, { u with cur := j, ph := uNops V.uMid .mid .promote })
  | .mid r => some (s, { u with ph := uNops r.tail .mid .promote })
  | .promote => some ({ s with pending := s.pending ++ [u.cur] }, { u with ph := uNops V.uPost .post .inner })
  | .post r => some (s, { u with ph := uNops r.tail .post .inner })
  | .sleep r => some (s, { u with ph := uNops r.tail .sleep .outer })

def stepU (V : Variant) (s : State) (k : Nat) : Option State :=
  match s.oldSubs[k]? with
  | some u =>
    match stepSub V s u with
    | none => none
    | some (s', u') => some { s' with oldSubs := s'.oldSubs.set k u' }
  | none =>
    if k = s.oldSubs.length then
      match s.sub with
      | none => none
      | some u =>
        match stepSub V s u with
        | none => none
        | some (s', u') => some { s' with sub := some u' }
    else none

/-- one poll of the (coarse) arrayer thread: the queued group is handed to the executor, at most
`max_array_size` jobs of it (`submit_pending_jobs` re-queues the remainder under its old timestamp);
`arrayer.num_pending` is the length of the queue before and after the step -/
def stepA (V : Variant) (s : State) : Option State :=
  let n := if V.arrMax = 0 then s.queue.length else V.arrMax
  if s.arrAlive then some { s with pending := s.pending ++ s.queue.take n, queue := s.queue.drop n } else none

inductive Ev where
  | S
  | M (k : Nat)
  | U (k : Nat)
  | A
  | F                      -- environment: arm one transient cloud error
  | L (j : Job)            -- environment: the listing taken by the first submission contains an in-flight cloud job for j
  | O (j : Job) (gone : Bool)   -- environment: that cloud job changes state; `gone` = the API no longer describes it
  deriving DecidableEq, Repr

def step (V : Variant) (s : State) : Ev → Option State
  | .S => stepS V s
  | .M k => stepM V s k
  | .U k => stepU V s k
  | .A => stepA V s
  | .F => if s.armed then none else some { s with armed := true, faulted := true }
  | .L j => if s.submitted.isEmpty then some { s with pre := s.pre ++ [j] } else none
  | .O j g => some { s with gone := if g then j :: s.gone else s.gone.filter (fun x => x != j) }

def run (V : Variant) : State → List Ev → State
  | s, [] => s
  | s, e :: es => match step V s e with
    | some s' => run V s' es
    | none => run V s es

inductive Reachable (V : Variant) (jobs : List Job) : State → Prop where
  | init : Reachable V jobs (init jobs)
  | step {s s' : State} (e : Ev) : Reachable V jobs s → step V s e = some s' → Reachable V jobs s'

/-! ### labels (for the line-by-line tie) -/
def labelS (V : Variant) (s : State) : Option Lbl :=
  match s.sph with
  | .ins => (if V.reunite && s.pre.contains s.cur && !s.gone.contains s.cur then some V.lReunite else some V.lIns) | .call => some V.lCall | .pre r => r.head? | .test => some V.lTest
  | .ret => V.retLine | .setPre r => r.head? | .set => some V.lSet | .testMon => some V.lTestMon
  | .newPre r => r.head? | .new => some V.lNew | .start => some V.lStart | .testSub => some V.lTestSub
  | .newSub => some V.lNewSub | .startSub => some V.lStartSub | .done => none

def labelM (V : Variant) (m : Mon) : Option Lbl :=
  match m.ph with
  | .unstarted | .dead => none
  | .pre r | .bodyPre r | .snapPost r | .procPre r | .procPost r | .sleep r | .exc r => r.head?
  | .loop => some V.lLoop | .snap => some V.lSnap | .forHead => some V.lFor | .proc => some V.lProc
  | .post r => r.head?.map Prod.fst

def labelU (V : Variant) (u : Sub) : Option Lbl :=
  match u.ph with
  | .unstarted | .dead => none
  | .pre r | .mid r | .post r | .sleep r => r.head?
  | .outer => some V.lUOuter | .fc => some V.lUFc | .inner => some V.lUInner | .pop => some V.lUPop
  | .promote => some V.lUPromote

/-! ### observables -/
/-- no thread can take a step any more (an arrayer thread with an empty queue only spins) -/
def quiescent (s : State) : Bool :=
  s.sph == .done && s.mons.all (fun m => !monAlive m) && s.subs.all (fun u => !subAlive u)
    && (!s.arrAlive || s.queue.isEmpty)

/-- jobs that were recorded by the executor and will never be reported -/
def lost (s : State) : List Job := if quiescent s then s.pending ++ s.queue else []

/-! ### the five executors (labels are indices into the harness's table of source lines) -/
def stopJoin (a b c d : Lbl) : List (Lbl × PostOp) := [(a, .tSet), (b, .tAlive), (c, .tNotMe), (d, .join)]

def docker : Variant where
  arr := false
  glue := false
  testThread := false
  retLine := none
  lIns := 1
  lCall := 2
  sPre := [3]
  lTest := 4
  sSetPre := []
  lSet := 5
  sNewPre := []
  lNew := 6
  lStart := 7
  mPre := [10, 11]
  lLoop := 12
  mBodyPre := []
  lSnap := 13
  mSnapPost := []
  lFor := 14
  mProcPre := []
  lProc := 15
  mProcPostFirst := []
  mProcPost := []
  mSleep := [16]
  mExc := [17, 18]
  post := [(19, .nop), (20, .nop), (21, .clearFlag)] ++ stopJoin 22 23 24 25

def awsBatch : Variant where
  arr := true
  glue := false
  testThread := false
  retLine := none
  reunite := true
  lReunite := 36
  lIns := 1
  lCall := 2
  sPre := []
  lTest := 4
  sSetPre := [3]
  lSet := 5
  sNewPre := []
  lNew := 6
  lStart := 7
  mPre := [10, 8, 9, 11]
  lLoop := 12
  mBodyPre := [26, 27]
  lSnap := 13
  mSnapPost := [28, 29, 27]
  lFor := 14
  mProcPre := []
  lProc := 15
  mProcPostFirst := [30, 31]
  mProcPost := [30]
  mSleep := [16]
  mExc := [17, 18]
  post := [(19, .nop), (20, .nop), (32, .nop), (33, .arrStop), (21, .clearFlag)] ++ stopJoin 22 23 24 25

def k8s : Variant where
  arr := true
  glue := false
  testThread := false
  retLine := some 3
  lIns := 1
  lCall := 2
  sPre := []
  lTest := 4
  sSetPre := []
  lSet := 5
  sNewPre := [8, 9]
  lNew := 6
  lStart := 7
  mPre := [10, 11]
  lLoop := 12
  mBodyPre := [26, 27, 28, 26, 29, 30, 31, 30, 28, 29]
  lSnap := 13
  mSnapPost := [32]
  lFor := 14
  mProcPre := []
  lProc := 15
  mProcPostFirst := []
  mProcPost := []
  mSleep := [16]
  mExc := [17, 34, 18]
  post := [(19, .nop), (20, .nop), (33, .arrStop), (21, .clearFlag)]

def gcpBatch : Variant where
  arr := true
  glue := false
  testThread := true
  retLine := none
  lIns := 1
  lCall := 2
  sPre := []
  lTest := 4
  sSetPre := []
  lSet := 5
  sNewPre := []
  lNew := 6
  lStart := 7
  mPre := [10, 8, 11]
  lLoop := 12
  mBodyPre := [26]
  lSnap := 13
  mSnapPost := []
  lFor := 14
  mProcPre := [27, 28]
  lProc := 15
  mProcPostFirst := []
  mProcPost := []
  mSleep := [16]
  mExc := [35, 17, 18]
  post := [(19, .nop), (20, .nop), (21, .clearFlag), (32, .nop), (33, .arrStop)] ++ stopJoin 22 23 24 25

def glue : Variant where
  arr := false
  glue := true
  testThread := false
  retLine := none
  lIns := 1
  lCall := 2
  sPre := []
  lTest := 4
  sSetPre := []
  lSet := 5
  sNewPre := []
  lNew := 6
  lStart := 7
  lTestMon := 8
  lTestSub := 9
  lNewSub := 26
  lStartSub := 27
  mPre := [10, 28, 11]
  lLoop := 12
  mBodyPre := [29]
  lSnap := 13
  mSnapPost := [30, 31, 29]
  lFor := 14
  mProcPre := []
  lProc := 15
  mProcPostFirst := []
  mProcPost := []
  mSleep := [16]
  mExc := [17, 18]
  post := [(20, .nop), (21, .clearFlag)]
  popFirst := false
  uPre := [40, 41]
  lUOuter := 42
  lUFc := 43
  lUInner := 44
  lUPop := 45
  uMid := [46, 47]
  lUPromote := 48
  uPost := [43]
  uSleep := [49]

end RedunModel.Monitor
