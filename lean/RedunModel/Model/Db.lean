/-
Model of redun's database backend (`redun/backends/db/__init__.py`) as finite relations.
Core Lean only.  Shared by C03 / C22 / C23 (and meant to be importable by C02, C20, C21).

* hashes and uuids are symbolic (`H = Nat`; the harness interns the real digests in first-occurrence order)
* a table is a `List` of rows; a SQLAlchemy session is `Sess` = durable tables + pending (added, not yet
  committed) row operations + the log of durable states (one entry per writing commit, in code order)
* the model has NO foreign-key enforcement at all: referential closure of every durable state is a theorem
  about the recording code (C22), not something inherited from sqlite
* `Variant` carries one flag per defect found in the recording code; `Variant.current` mirrors the unrepaired
  tree, `Variant.proposed` the tree with the `fix:` diffs applied, `Variant.repaired` that tree with `record_call_node`
  made one commit as well (a repair no tree has).  The harness probes which flags the working tree has and drives the
  model with exactly those.
-/
namespace RedunModel.Db

abbrev H := Nat

/-! ### rows -/

inductive VKind where
  | plain | task | file
  deriving DecidableEq, Repr

structure ValueRow where
  hash : H
  kind : VKind
  deriving DecidableEq, Repr

/-- `CallNode(call_hash, task_hash, args_hash, value_hash, timestamp)`; `ts` is a logical clock. -/
structure NodeRow where
  call : H
  task : H
  args : H
  value : H
  ts : Nat
  deriving DecidableEq, Repr

structure EdgeRow where
  parent : H
  child : H
  order : Nat
  deriving DecidableEq, Repr

/-- `Argument`: `slot` encodes `(arg_position, arg_key)`. -/
structure ArgRow where
  call : H
  slot : Nat
  value : H
  deriving DecidableEq, Repr

structure ArgResRow where
  call : H
  slot : Nat
  result : H
  deriving DecidableEq, Repr

structure SubRow where
  call : H
  task : H
  deriving DecidableEq, Repr

structure EvalRow where
  eval : H
  task : H
  args : H
  value : H
  deriving DecidableEq, Repr

structure JobRow where
  id : H
  task : H
  parent : Option H
  exec : H
  call : Option H
  cached : Bool
  ended : Bool
  deriving DecidableEq, Repr

structure ExecRow where
  id : H
  job : H
  deriving DecidableEq, Repr

structure TagRow where
  tag : H
  etype : Nat
  entity : H
  key : H
  value : H
  current : Bool
  deriving DecidableEq, Repr

structure TagEditRow where
  parent : H
  child : H
  deriving DecidableEq, Repr

structure SubvalueRow where
  child : H
  parent : H
  deriving DecidableEq, Repr

structure Db where
  values : List ValueRow := []
  tasks : List H := []
  files : List H := []
  subvalues : List SubvalueRow := []
  nodes : List NodeRow := []
  edges : List EdgeRow := []
  args : List ArgRow := []
  argRes : List ArgResRow := []
  subtree : List SubRow := []
  evals : List EvalRow := []
  jobs : List JobRow := []
  execs : List ExecRow := []
  tags : List TagRow := []
  tagEdits : List TagEditRow := []
  deriving DecidableEq, Repr

/-- One flag per repaired defect (`true` = repaired behaviour). -/
structure Variant where
  /-- `record_value`: File/Task row committed together with the Value row -/
  atomicValue : Bool
  /-- `record_call_node`: values first, then CallNode + edges + arguments + subtree rows in ONE commit -/
  atomicCallNode : Bool
  /-- `record_call_node` on an existing CallNode without subtree rows records them -/
  healSubtree : Bool
  /-- `_get_call_node`: an empty recorded subtree set is never current -/
  emptyNotCurrent : Bool
  /-- `_resolve_job_main_thread`: a CSE hit takes its subtree tasks from the backend, not `{task}` -/
  cseSubtreeFromDb : Bool
  /-- `record_job_start`: pending Execution forgotten only after the commit -/
  execKeep : Bool
  deriving DecidableEq, Repr

def Variant.current : Variant := ⟨false, false, false, false, false, false⟩
def Variant.repaired : Variant := ⟨true, true, true, true, true, true⟩
/-- the tree with the proposed small `fix:` diffs: everything repaired except the two-commit `record_call_node` -/
def Variant.proposed : Variant := ⟨true, false, true, true, true, true⟩

/-! ### queries (pure functions of the tables) -/

def hasValue (db : Db) (h : H) : Bool := db.values.any (fun r => r.hash == h)
def hasNode (db : Db) (c : H) : Bool := db.nodes.any (fun n => n.call == c)
def hasJob (db : Db) (j : H) : Bool := db.jobs.any (fun r => r.id == j)
def hasExec (db : Db) (e : H) : Bool := db.execs.any (fun r => r.id == e)
def hasTag (db : Db) (t : H) : Bool := db.tags.any (fun r => r.tag == t)

/-- `get_subtree_tasks(call_hash)` -/
def subtreeOf (db : Db) (c : H) : List H := (db.subtree.filter (fun r => r.call == c)).map (·.task)

/-- the `<=` test of `_get_call_node` (with the optional non-emptiness requirement) -/
def nodeCurrent (v : Variant) (db : Db) (reg : List H) (n : NodeRow) : Bool :=
  (!v.emptyNotCurrent || !(subtreeOf db n.call).isEmpty) &&
    (subtreeOf db n.call).all (fun t => reg.contains t)

/-- first row with the greatest `ts` (`ORDER BY timestamp DESC` + `[0]`) -/
def pickNewest : List NodeRow → Option NodeRow
  | [] => none
  | n :: rest =>
    match pickNewest rest with
    | none => some n
    | some m => if m.ts > n.ts then some m else some n

/-- `_get_call_node(task_hash, args_hash, scheduler_task_hashes)` (no context) -/
def getCallNode (v : Variant) (db : Db) (task args : H) (reg : List H) : Option NodeRow :=
  pickNewest ((db.nodes.filter (fun n => n.task == task && n.args == args)).filter (nodeCurrent v db reg))

/-- `get_call_cache`: the result value hash of a call node whose Value row exists -/
def getCallCache (db : Db) (c : H) : Option H :=
  match db.nodes.find? (fun n => n.call == c) with
  | some n => if hasValue db n.value then some n.value else none
  | none => none

/-- `get_eval_cache` -/
def getEvalCache (db : Db) (e : H) : Option H :=
  match db.evals.find? (fun r => r.eval == e) with
  | some r => if hasValue db r.value then some r.value else none
  | none => none

inductive Scope where
  | none | cse | backend
  deriving DecidableEq, Repr

inductive CacheKind where
  | miss | cse | ultimate | single
  deriving DecidableEq, Repr

structure CacheAns where
  value : Option H
  call : Option H
  kind : CacheKind
  deriving DecidableEq, Repr

/-- last finished job of this execution with this task whose call node has these args
(`ORDER BY Job.start_time DESC` + `first()`; jobs are kept in start order) -/
def cseNode (db : Db) (task args exec : H) : Option H :=
  let js := db.jobs.filter (fun j => j.task == task && j.exec == exec &&
    match j.call with
    | some c => db.nodes.any (fun n => n.call == c && n.args == args)
    | none => false)
  match js.getLast? with
  | some j => j.call
  | none => none

/-- `check_cache` (without context).  `allowCse/allowUlt/allowSingle` = `allowed_cache_results`. -/
def checkCache (v : Variant) (db : Db) (task args eval exec : H) (reg : List H) (scope : Scope)
    (shallow allowCse allowUlt allowSingle : Bool) : CacheAns :=
  if scope == .none then ⟨none, none, .miss⟩ else
  let cse : Option (H × H) :=
    if allowCse then
      match cseNode db task args exec with
      | some c => (getCallCache db c).map (fun r => (r, c))
      | none => none
    else none
  match cse with
  | some (r, c) => ⟨some r, some c, .cse⟩
  | none =>
    -- ultimate reduction
    let ult : Option H :=
      if scope == .backend && shallow && allowUlt then (getCallNode v db task args reg).map (·.call) else none
    let ultRes : Option H := match ult with
      | some c => getCallCache db c
      | none => none
    match ultRes with
    | some r => ⟨some r, ult, .ultimate⟩
    | none =>
      if scope == .backend && allowSingle then
        match getEvalCache db eval with
        | some r => ⟨some r, ult, .single⟩     -- `call_hash` keeps the ultimate candidate (code quirk)
        | none => ⟨none, none, .miss⟩
      else ⟨none, none, .miss⟩

/-! ### referential closure (the schema's foreign keys) -/

def fkOk (db : Db) : Bool :=
  db.tasks.all (fun t => hasValue db t) &&
  db.files.all (fun t => hasValue db t) &&
  db.subvalues.all (fun r => hasValue db r.child && hasValue db r.parent) &&
  db.nodes.all (fun n => db.tasks.contains n.task && hasValue db n.value) &&
  db.edges.all (fun e => hasNode db e.parent && hasNode db e.child) &&
  db.args.all (fun a => hasNode db a.call && hasValue db a.value) &&
  db.argRes.all (fun a => db.args.any (fun b => b.call == a.call && b.slot == a.slot) && hasNode db a.result) &&
  db.subtree.all (fun r => hasNode db r.call && db.tasks.contains r.task) &&
  db.evals.all (fun e => db.tasks.contains e.task && hasValue db e.value) &&
  db.jobs.all (fun j => db.tasks.contains j.task && hasExec db j.exec &&
    (match j.parent with | some p => hasJob db p | none => true) &&
    (match j.call with | some c => hasNode db c | none => true)) &&
  db.execs.all (fun e => hasJob db e.job) &&
  db.tagEdits.all (fun e => hasTag db e.parent && hasTag db e.child)

/-- every Task-typed Value has its Task row (what `record_value`'s early exit silently relies on) -/
def taskComplete (db : Db) : Bool :=
  db.values.all (fun r => r.kind != .task || db.tasks.contains r.hash)

/-! ### sessions -/

inductive RowOp where
  | value (r : ValueRow)
  | task (h : H)
  | file (h : H)
  | subvalue (r : SubvalueRow)
  | node (r : NodeRow)
  | edge (r : EdgeRow)
  | arg (r : ArgRow)
  | argRes (r : ArgResRow)
  | sub (r : SubRow)
  | eval (r : EvalRow)
  | evalSet (eval value : H)
  | job (r : JobRow)
  | jobEnd (id : H) (call : Option H) (cached : Bool)
  | exec (r : ExecRow)
  | tag (r : TagRow)
  | tagEdit (r : TagEditRow)
  | tagStale (tag : H)
  deriving DecidableEq, Repr

def applyOp (db : Db) : RowOp → Db
  | .value r => { db with values := db.values ++ [r] }
  | .task h => { db with tasks := db.tasks ++ [h] }
  | .file h => { db with files := db.files ++ [h] }
  | .subvalue r => { db with subvalues := db.subvalues ++ [r] }
  | .node r => { db with nodes := db.nodes ++ [r] }
  | .edge r => { db with edges := db.edges ++ [r] }
  | .arg r => { db with args := db.args ++ [r] }
  | .argRes r => { db with argRes := db.argRes ++ [r] }
  | .sub r => { db with subtree := db.subtree ++ [r] }
  | .eval r => { db with evals := db.evals ++ [r] }
  | .evalSet e val => { db with evals := db.evals.map (fun r => if r.eval == e then { r with value := val } else r) }
  | .job r => { db with jobs := db.jobs ++ [r] }
  | .jobEnd id call cached =>
    { db with jobs := db.jobs.map (fun r => if r.id == id then { r with call := call, cached := cached, ended := true } else r) }
  | .exec r => { db with execs := db.execs ++ [r] }
  | .tag r => { db with tags := db.tags ++ [r] }
  | .tagEdit r => { db with tagEdits := db.tagEdits ++ [r] }
  | .tagStale t => { db with tags := db.tags.map (fun r => if r.tag == t then { r with current := false } else r) }

def applyOps (db : Db) (ops : List RowOp) : Db := ops.foldl applyOp db

/-- A durable state together with the backend's in-memory `_executions` keys at the time of the commit. -/
structure Snap where
  db : Db
  execs : List H
  deriving DecidableEq, Repr

structure Sess where
  /-- durable tables -/
  db : Db
  /-- rows added to the session and not yet committed (a crash / rollback loses them) -/
  pend : List RowOp := []
  /-- durable states, one per writing commit, oldest first -/
  log : List Snap := []
  /-- `backend._executions`: executions announced by `record_execution` and not yet written -/
  pendingExecs : List H := []
  deriving DecidableEq, Repr

/-- what a query inside the session sees (autoflush) -/
def Sess.view (s : Sess) : Db := applyOps s.db s.pend

def Sess.add (s : Sess) (op : RowOp) : Sess := { s with pend := s.pend ++ [op] }
def Sess.addAll (s : Sess) (ops : List RowOp) : Sess := { s with pend := s.pend ++ ops }

/-- `session.commit()`; a commit with nothing to write leaves no trace -/
def Sess.commit (s : Sess) : Sess :=
  if s.pend.isEmpty then s
  else { s with db := s.view, pend := [], log := s.log ++ [⟨s.view, s.pendingExecs⟩] }

/-- process death / `session.rollback()`: pending rows are gone -/
def Sess.rollback (s : Sess) : Sess := { s with pend := [] }

def Sess.ofDb (db : Db) : Sess := { db := db }

/-! ### recording operations, statement by statement -/

def specialMissing (db : Db) (r : ValueRow) : List RowOp :=
  match r.kind with
  | .plain => []
  | .task => if db.tasks.contains r.hash then [] else [.task r.hash]
  | .file => if db.files.contains r.hash then [] else [.file r.hash]

/-- the Value row and its File/Task row (`record_value` up to `_record_special_redun_values`) -/
def recordValueCore (v : Variant) (r : ValueRow) (s : Sess) : Sess :=
  let s1 := s.add (.value r)
  if v.atomicValue then
    (s1.addAll (specialMissing s1.view r)).commit
  else
    let s2 := s1.commit
    (s2.addAll (specialMissing s2.view r)).commit

/-- new Value rows of `_record_subvalues` (`seen` = hashes added earlier in the same call) -/
def newSubValues (db : Db) : List H → List ValueRow → List RowOp
  | _, [] => []
  | seen, r :: rs =>
    if hasValue db r.hash || seen.contains r.hash then newSubValues db seen rs
    else .value r :: newSubValues db (seen ++ [r.hash]) rs

/-- new Subvalue (child, parent) links of `_record_subvalues` -/
def newSubLinks (db : Db) (parent : H) : List H → List ValueRow → List RowOp
  | _, [] => []
  | seen, r :: rs =>
    if db.subvalues.any (fun l => l.child == r.hash && l.parent == parent) || seen.contains r.hash then
      newSubLinks db parent seen rs
    else .subvalue ⟨r.hash, parent⟩ :: newSubLinks db parent (seen ++ [r.hash]) rs

/-- File/Task rows of the subvalues (`_record_special_redun_values(subvalues, ...)`; `seenF` / `seenT` are the
hashes added to `existing_file_hashes` / `existing_task_hashes` earlier in the same call) -/
def subSpecialOps (db : Db) : List H → List H → List ValueRow → List RowOp
  | _, _, [] => []
  | seenF, seenT, r :: rs =>
    match r.kind with
    | .plain => subSpecialOps db seenF seenT rs
    | .task =>
      if db.tasks.contains r.hash || seenT.contains r.hash then subSpecialOps db seenF seenT rs
      else .task r.hash :: subSpecialOps db seenF (seenT ++ [r.hash]) rs
    | .file =>
      if db.files.contains r.hash || seenF.contains r.hash then subSpecialOps db seenF seenT rs
      else .file r.hash :: subSpecialOps db (seenF ++ [r.hash]) seenT rs

/-- `_record_subvalues(subvalues, parent_value_hash)`: two commits (values + links, then File/Task rows) -/
def recordSubvalues (parent : H) (subs : List ValueRow) (s : Sess) : Sess :=
  if subs.isEmpty then s
  else
    let s1 := (s.addAll (newSubValues s.view [] subs ++ newSubLinks s.view parent [] subs)).commit
    (s1.addAll (subSpecialOps s1.view [] [] subs)).commit

/-- a value to record: its own row and its (flattened) subvalues -/
structure ValueSpec where
  row : ValueRow
  subs : List ValueRow := []
  deriving DecidableEq, Repr

/-- all rows of one value: its Value row, its File/Task row, new subvalue Values, links and their File/Task rows
(each query sees the rows added before it: autoflush) -/
def valueOps (db : Db) (x : ValueSpec) : List RowOp :=
  let o1 := [RowOp.value x.row]
  let d1 := applyOps db o1
  let o2 := specialMissing d1 x.row
  let d2 := applyOps d1 o2
  if x.subs.isEmpty then o1 ++ o2
  else
    let o3 := newSubValues d2 [] x.subs ++ newSubLinks d2 x.row.hash [] x.subs
    let d3 := applyOps d2 o3
    o1 ++ o2 ++ o3 ++ subSpecialOps d3 [] [] x.subs

/-- `record_value`.  Unrepaired: up to four commits (Value / its File-Task row / subvalues + links / their
File-Task rows).  Repaired (`atomicValue`): one commit. -/
def recordValue (v : Variant) (x : ValueSpec) (s : Sess) : Sess :=
  if hasValue s.view x.row.hash then s
  else if v.atomicValue then (s.addAll (valueOps s.view x)).commit
  else recordSubvalues x.row.hash x.subs (recordValueCore v x.row s)

def recordValues (v : Variant) (rs : List ValueSpec) (s : Sess) : Sess :=
  rs.foldl (fun s r => recordValue v r s) s

/-- `set_eval_cache(eval_hash, task_hash, args_hash, value)` -/
def setEvalCache (v : Variant) (e : EvalRow) (val : ValueSpec) (s : Sess) : Sess :=
  let s := recordValue v val s
  match s.view.evals.find? (fun r => r.eval == e.eval) with
  | some old => if old.value == e.value then s else (s.add (.evalSet e.eval e.value)).commit
  | none => (s.add (.eval e)).commit

inductive Err where
  | keyError
  deriving DecidableEq, Repr

/-- `record_job_start(job)`; `root` = the job has no parent job. -/
def recordJobStart (v : Variant) (j : JobRow) (root : Bool) (s : Sess) : Except Err Sess :=
  let s := recordValue v ⟨⟨j.task, .task⟩, []⟩ s
  if root then
    if s.pendingExecs.contains j.exec then
      let s1 : Sess := if v.execKeep then s else { s with pendingExecs := s.pendingExecs.erase j.exec }
      let s2 := ((s1.add (.exec ⟨j.exec, j.id⟩)).add (.job j)).commit
      .ok { s2 with pendingExecs := s2.pendingExecs.erase j.exec }
    else .error .keyError
  else .ok (s.add (.job j)).commit

/-- `record_job_end(job)` for a job whose start was recorded -/
def recordJobEnd (id : H) (call : Option H) (cached : Bool) (s : Sess) : Sess :=
  (s.add (.jobEnd id call cached)).commit

/-- `record_tags(entity, tags)` as the scheduler uses it (no parents): new Tag rows, then a commit.  `commit = false` is
NOT what the code does: it is the seeded design "leave the tags pending for the caller's next commit", kept to state
what goes wrong with it (C22.pending_tags_lost_on_retry). -/
def recordTags (commit : Bool) (tags : List TagRow) (s : Sess) : Sess :=
  let s1 := s.addAll ((tags.filter (fun t => !hasTag s.view t.tag)).map RowOp.tag)
  if commit then s1.commit else s1

/-! ### `db_retry`: which of the nested decorated calls retries -/

/-- The flag logic of `db_retry.wrapper` for one decorated call: given `_db_retry_active` at entry, returns
(does THIS call catch OperationalError, roll back and retry?, the flag after the call returned). -/
def retryWrapper (active : Bool) : Bool × Bool :=
  if active then (false, true)      -- nested: run the body, leave the flag alone
  else (true, false)                -- outermost: set the flag, retry, clear it in `finally`

/-- the seeded variant: one try/finally for both cases, the `finally` always clears the flag -/
def retryWrapperMerged (active : Bool) : Bool × Bool := (!active, false)

/-- the decisions of `n` decorated calls made one after the other INSIDE an operation (flag at the start: `active`) -/
def nestedRetriers (w : Bool → Bool × Bool) : Nat → Bool → List Bool
  | 0, _ => []
  | n + 1, active => (w active).1 :: nestedRetriers w n (w active).2

/-- one evaluated argument: slot, value, upstream call hashes (already a set) -/
structure ArgSpec where
  slot : Nat
  value : ValueSpec
  upstream : List H
  deriving DecidableEq, Repr

structure CallArgs where
  node : NodeRow
  children : List H
  args : List ArgSpec
  /-- `subtree_tasks` (task hashes, already a set) -/
  subtree : List H
  deriving DecidableEq, Repr

/-- the loop of `_record_args` (its final `commit` is issued by the caller below) -/
def recordArgs (v : Variant) (c : H) : List ArgSpec → Sess → Sess
  | [], s => s
  | a :: rest, s =>
    let s := recordValue v a.value s
    let s := s.add (.arg ⟨c, a.slot, a.value.row.hash⟩)
    let s := s.addAll (a.upstream.map (fun u => RowOp.argRes ⟨c, a.slot, u⟩))
    recordArgs v c rest s

def edgeOps (db : Db) (c : H) (children : List H) : List RowOp :=
  (children.zipIdx.filter (fun p => hasNode db p.1)).map (fun p => RowOp.edge ⟨c, p.1, p.2⟩)

def subOps (c : H) (tasks : List H) : List RowOp := tasks.map (fun t => RowOp.sub ⟨c, t⟩)

def taskValues (tasks : List H) : List ValueSpec := tasks.map (fun t => ⟨⟨t, .task⟩, []⟩)

/-- `record_call_node` -/
def recordCallNode (v : Variant) (a : CallArgs) (s : Sess) : Sess :=
  let c := a.node.call
  if hasNode s.view c then
    if v.healSubtree && (subtreeOf s.view c).isEmpty then
      let s := recordValues v (taskValues a.subtree) s
      (s.addAll (subOps c a.subtree)).commit
    else s
  else if v.atomicCallNode then
    let s := recordValues v (a.args.map (·.value)) s
    let s := if a.children.any (fun ch => !hasNode s.view ch) then recordValues v (taskValues a.subtree) s else s
    let s := s.add (.node a.node)
    let s := s.addAll (edgeOps s.view c a.children)
    let s := s.addAll (subOps c a.subtree)
    let s := recordArgs v c a.args s
    s.commit
  else
    let s := s.add (.node a.node)
    let s := s.addAll (edgeOps s.view c a.children)
    let s := (recordArgs v c a.args s).commit
    let s := if a.children.any (fun ch => !hasNode s.view ch) then recordValues v (taskValues a.subtree) s else s
    (s.addAll (subOps c a.subtree)).commit

/-! ### the scheduler's subtree-task bookkeeping (`Job.calc_subtree_tasks`, `_get_subtree_tasks`) -/

/-- what a parent job sees of a finished child job -/
structure JobRes where
  call : Option H
  sub : List H
  deriving DecidableEq, Repr

/-- `calc_subtree_tasks` of a job that was evaluated (own task + the sets of the children that finished) -/
def execSubtree (task : H) (children : List JobRes) : List H :=
  task :: children.flatMap (fun r => if r.call.isSome then r.sub else [])

/-- `subtree_tasks` of a job whose `call_hash` came from the cache (CSE or ultimate reduction) -/
def cachedSubtree (v : Variant) (db : Db) (reg : List H) (task : H) (shallow : Bool) (c : H) : List H :=
  if v.cseSubtreeFromDb then task :: (subtreeOf db c).filter (fun t => reg.contains t)
  else if shallow then (subtreeOf db c).filter (fun t => reg.contains t)
  else [task]

/-! ### faults -/

/-- the durable state a process death before the `k`-th new commit (0-based) of `s' = op s` leaves behind -/
def crashDb (s s' : Sess) (k : Nat) : Db :=
  match k with
  | 0 => s.db
  | k + 1 => match (s'.log.drop s.log.length)[k]? with
    | some snap => snap.db
    | none => s'.db

/-- number of writing commits `op` performed -/
def newCommits (s s' : Sess) : Nat := s'.log.length - s.log.length

/-- `db_retry` after a single transient `OperationalError` raised by the `k`-th new commit (0-based) of the
top-level operation: rollback, then run the operation again on the durable state (in-memory `_executions` as
they were when the commit was attempted). -/
def retryState (s s' : Sess) (k : Nat) : Sess :=
  { db := crashDb s s' k, pend := [], log := [],
    pendingExecs := match (s'.log.drop s.log.length)[k]? with
      | some snap => snap.execs
      | none => s'.pendingExecs }

/-! ### record transfer (`iter_record_ids`, `get_records`, `put_records`) -/

/-- serialized records (`serializers.py`): each carries the rows it owns -/
inductive Rec where
  | exec (r : ExecRow)
  | job (r : JobRow)
  | node (r : NodeRow) (children : List H) (args : List (ArgRow × List H))
  | value (r : ValueRow) (subvalues : List H) (isTask isFile : Bool)
  | tag (r : TagRow) (parents : List H)
  deriving DecidableEq, Repr

def Rec.id : Rec → H
  | .exec r => r.id
  | .job r => r.id
  | .node r _ _ => r.call
  | .value r _ _ _ => r.hash
  | .tag r _ => r.tag

/-- ownership edges walked by `get_child_record_ids` for one record id -/
def childIds (db : Db) (id : H) : List H :=
  (db.execs.filter (fun e => e.id == id)).map (·.job) ++
  (db.jobs.filter (fun j => j.id == id)).flatMap (fun j => j.task :: j.call.toList) ++
  (db.jobs.filter (fun j => j.parent == some id)).map (·.id) ++
  (db.nodes.filter (fun n => n.call == id)).flatMap (fun n => [n.task, n.value]) ++
  (db.args.filter (fun a => a.call == id)).map (·.value) ++
  (db.argRes.filter (fun a => a.call == id)).map (·.result) ++
  (db.edges.filter (fun e => e.parent == id)).map (·.child) ++
  (db.subvalues.filter (fun r => r.parent == id)).map (·.child) ++
  (db.tagEdits.filter (fun e => e.child == id)).map (·.parent) ++
  (db.tagEdits.filter (fun e => e.parent == id)).map (·.child) ++
  (db.tags.filter (fun t => t.entity == id)).map (·.tag)

/-- an id that names a record of one of the five transferable models -/
def isRecordId (db : Db) (id : H) : Bool :=
  hasExec db id || hasJob db id || hasNode db id || hasValue db id || hasTag db id

def dedupInto (seen : List H) : List H → List H × List H     -- (new ids in order, seen')
  | [] => ([], seen)
  | x :: xs =>
    if seen.contains x then dedupInto seen xs
    else
      let (nw, seen') := dedupInto (seen ++ [x]) xs
      (x :: nw, seen')

/-- `iter_record_ids`: layer-wise breadth-first walk with a `seen` set; `fuel` bounds the number of layers -/
def bfs (db : Db) : Nat → List H → List H → List H
  | 0, _, _ => []
  | fuel + 1, seen, frontier =>
    let (nw, seen') := dedupInto seen frontier
    if nw.isEmpty then [] else nw ++ bfs db fuel seen' (nw.flatMap (childIds db))

def allIds (db : Db) : List H :=
  db.execs.map (·.id) ++ db.jobs.map (·.id) ++ db.nodes.map (·.call) ++ db.values.map (·.hash) ++
  db.tags.map (·.tag) ++ db.tasks

def iterRecordIds (db : Db) (roots : List H) : List H :=
  bfs db ((allIds db).length + 2) [] (roots.filter (isRecordId db))

/-- `RecordSerializer.serialize` of the record with this id (models in `_model_pks` order) -/
def getRecord (db : Db) (id : H) : List Rec :=
  (db.execs.filter (fun e => e.id == id)).map Rec.exec ++
  (db.jobs.filter (fun j => j.id == id)).map Rec.job ++
  (db.nodes.filter (fun n => n.call == id)).map (fun n =>
    Rec.node n ((db.edges.filter (fun e => e.parent == id)).map (·.child))
      ((db.args.filter (fun a => a.call == id)).map (fun a =>
        (a, (db.argRes.filter (fun r => r.call == id && r.slot == a.slot)).map (·.result))))) ++
  (db.values.filter (fun r => r.hash == id)).map (fun r =>
    Rec.value r ((db.subvalues.filter (fun sv => sv.parent == id)).map (·.child))
      (db.tasks.contains id) (db.files.contains id)) ++
  (db.tags.filter (fun t => t.tag == id)).map (fun t =>
    Rec.tag t ((db.tagEdits.filter (fun e => e.child == id)).map (·.parent)))

def getRecords (db : Db) (ids : List H) : List Rec := ids.flatMap (getRecord db)

/-- `Serializer.deserialize`: the rows one record turns into -/
def recOps : Rec → List RowOp
  | .exec r => [.exec r]
  | .job r => [.job r]
  | .node r children args =>
    .node r :: (children.zipIdx.map (fun p => RowOp.edge ⟨r.call, p.1, p.2⟩)) ++
      args.map (fun a => RowOp.arg a.1) ++
      args.flatMap (fun a => a.2.map (fun u => RowOp.argRes ⟨a.1.call, a.1.slot, u⟩))
  | .value r subs isTask isFile =>
    .value r :: subs.map (fun c => RowOp.subvalue ⟨c, r.hash⟩) ++
      (if isFile then [.file r.hash] else []) ++ (if isTask then [.task r.hash] else [])
  | .tag r parents => .tag { r with current := true } :: parents.map (fun p => RowOp.tagEdit ⟨p, r.tag⟩)

/-- records of `rs` whose id is neither in the database nor earlier in the list -/
def newRecords (db : Db) : List H → List Rec → List Rec
  | _, [] => []
  | seen, r :: rs =>
    if isRecordId db r.id || seen.contains r.id then newRecords db seen rs
    else r :: newRecords db (seen ++ [r.id]) rs

/-- `_postprocess_new_records`: a Tag that has a child edit is not current -/
def postprocessTags (db : Db) : Db :=
  { db with tags := db.tags.map (fun t =>
      if db.tagEdits.any (fun e => e.parent == t.tag) then { t with current := false } else t) }

/-- `put_records` (one commit, constraints deferred) -/
def putRecords (rs : List Rec) (s : Sess) : Sess :=
  let nw := newRecords s.view [] rs
  let s1 := s.addAll (nw.flatMap recOps)
  if s1.pend.isEmpty then s1
  else
    let d := postprocessTags s1.view
    { s1 with db := d, pend := [], log := s1.log ++ [⟨d, s1.pendingExecs⟩] }

/-- push / pull / export+import of the records reachable from `roots` -/
def transfer (src : Db) (roots : List H) (dst : Sess) : Sess :=
  putRecords (getRecords src (iterRecordIds src roots)) dst

end RedunModel.Db
