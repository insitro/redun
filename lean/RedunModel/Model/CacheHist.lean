/-
Model of redun's result caching across executions that share one backend (C02):
`Scheduler._exec_job_main_thread` / `_get_cache` / `_is_valid_value` / `set_cache` /
`_done_job_main_thread` / `_resolve_job_main_thread` / `_reject_job_main_thread` and `catch`'s private
caching (redun/scheduler.py), `RedunBackendDb.check_cache` (CSE -> ultimate reduction when
`check_valid="shallow"` -> single reduction), `get_eval_cache`, `set_eval_cache`, `_get_call_node`,
`record_call_node` (redun/backends/db/__init__.py), `hash_args_eval` / `hash_eval` (cache key),
`Task._calc_hash` (code version), `TaskExpression.is_valid`, `File.is_valid`.  Core Lean only.

Hashes are symbolic.  A task hash is its pre-image `(name, version)` (`TH`; `Task._calc_hash` hashes the
full name and the source text or the `version=` string: "version" stands for either); the key of the
Evaluation table is `(task hash, argument value)` (`hash_eval`'s pre-image, one positional argument).
A task body is a function of the task *hash* (C17: equal hash, equal code), the argument and the file
system (a body may stat a file: `File(path)` takes size/mtime at construction).  What a body returns is an
expression over task *names* (a `TaskExpression` stores `task_name`, resolved in the registry when it is
evaluated) - that is why replaying a single reduction under edited code is sound, and why `catch`'s own
cache entry (keyed by the hash of the *expression*) is not.

`Variant` selects between the code as it was found and the repaired code for three defects
(`harness/findings_proposed/C02-*.fix.diff`, `C03-cached-job-subtree-from-backend.fix.diff`); see `Props/C02.lean`.
-/
namespace RedunModel.CacheHist

/-- pre-image of a task hash: `["Task", fullname, "version"|"source", version|source text]` -/
structure TH where
  name : Nat
  ver : Nat
  deriving DecidableEq, Repr, Inhabited

/-- values: ints, `File(path)` with the (size, mtime) stamp it had when constructed, an exception object (what
`catch` hands to the recover task), and primitives of another type that compare equal to an int in Python
(`prim 1 z` = `float(z)`, `prim 2 0` = `-0.0`, `prim 3 z` = `bool(z)`): different values with different value hashes -/
inductive Val where
  | int (z : Int)
  | file (p s : Nat)
  | exc (c : Nat)
  | prim (tag : Nat) (z : Int)
  deriving DecidableEq, Repr, Inhabited

/-- outcome of an evaluation: a value, or an error of class `c` -/
inductive Res where
  | ok (v : Val)
  | err (c : Nat)
  deriving DecidableEq, Repr, Inhabited

/-- lazy expressions: a concrete value, the lazy operator `+` (`SimpleExpression('add')`), a task call by
*name* (`TaskExpression`), `catch(expr, error_class, recover_task)` (`SchedulerExpression`) -/
inductive Expr where
  | lit (v : Val)
  | add (a b : Expr)
  | call (n : Nat) (arg : Expr)
  | catch (e : Expr) (cls : Nat) (rc : TH)
  deriving DecidableEq, Repr, Inhabited

/-- the file system as the cache sees it: path -> (size, mtime) stamp -/
abbrev FS := Nat → Nat

/-- what a task function can observe besides its argument, and what `is_valid` compares cached values with:
the stamp of each file (`File(path)` built in the body) and the registry's current version of each task
(a `Task` object mentioned in the body, e.g. the recover task handed to `catch`, is pickled with its hash) -/
structure World where
  fs : FS
  ver : Nat → Nat
  /-- tasks defined with an explicit `version=`: a pickled `Task` of such a task re-computes its hash from its own
  pickled version string, so `Task.is_valid` cannot see that the registry moved on -/
  pinned : Nat → Bool

/-- what running a task function gives: an expression (the single reduction) or a raised error -/
inductive Out where
  | ret (e : Expr)
  | raise (c : Nat)
  deriving DecidableEq, Repr, Inhabited

/-- the code universe: the body belonging to each task hash (C17) -/
structure Prog where
  body : TH → Val → World → Out

/-- the task registry at one moment: current version of each task name and its `check_valid` option
(a base option: it is not part of the task hash) -/
structure Code where
  ver : Nat → Nat
  shallow : Nat → Bool
  /-- the task is defined with an explicit `version=` (see `World.pinned`) -/
  pinned : Nat → Bool := fun _ => false

def Code.th (c : Code) (n : Nat) : TH := ⟨n, c.ver n⟩

/-- `subtree task hashes <= scheduler_task_hashes`: a task hash contains the task's name and the registry
holds one task per name, so `h` is in the registry iff the registry's version of `h.name` is `h.ver` -/
def Code.current (c : Code) (s : List TH) : Bool := s.all fun h => c.ver h.name == h.ver

structure Variant where
  /-- `SimpleExpression.is_valid` checks its arguments (repaired) / is always true (as found) -/
  simpleExprValid : Bool
  /-- a CSE-served job contributes its call node's recorded subtree tasks (repaired, C03 diff) / only its
  own task (as found) to the parent's `subtree_tasks` -/
  cseSubtreeFromDb : Bool
  /-- `catch` without its private Evaluation entry (no repair of this kind is proposed: it is the reference
  design the stale-recovery finding is measured against) / with it (as found) -/
  noCatchCache : Bool
  deriving DecidableEq, Repr, Inhabited

/-- the code as it is after the proposed repairs (`catch` keeps its private cache) -/
def Variant.repaired : Variant := ⟨true, true, false⟩

/-- `File.is_valid`: the recorded stamp is still the file's stamp -/
def validV (w : World) : Val → Bool
  | .file p s => w.fs p == s
  | _ => true

/-- `_is_valid_value` on a cached single reduction: `TaskExpression.is_valid` checks every `Value` among the
arguments (recursively for nested expressions); `SimpleExpression` inherits `Value.is_valid` = True as found -/
def validE (V : Variant) (w : World) : Expr → Bool
  | .lit v => validV w v
  | .add a b => if V.simpleExprValid then validE V w a && validE V w b else true
  | .call _ a => validE V w a
  | .catch e _ rc => (w.pinned rc.name || w.ver rc.name == rc.ver) && validE V w e   -- `Task.is_valid`

abbrev Key := TH × Val

/-- a `CallNode` row with its `CallSubtreeTask` rows (children are not modelled: C20/C07) -/
structure Node where
  key : Key
  res : Res
  sub : List TH
  deriving DecidableEq, Repr, Inhabited

/-- pre-image of the eval hash `catch` computes for itself: `hash_args_eval(catch, (expr, error_class,
recover))`.  The hash of `expr` (an `Expression`) contains task *names*; the hash of `recover` (a `Task`) is
its task hash. -/
structure CKey where
  e : Expr
  cls : Nat
  rc : TH
  deriving DecidableEq, Repr, Inhabited

structure St where
  /-- table Evaluation: eval hash -> single reduction (newest entry first; an update shadows) -/
  evals : List (Key × Expr) := []
  /-- the Evaluation rows written by `catch` -/
  catches : List (CKey × Expr) := []
  /-- table CallNode + CallSubtreeTask, newest first -/
  nodes : List Node := []
  /-- what the CSE query of `check_cache` can see: jobs of *this* execution that ended with a call hash:
  key, result, and the subtree task set a job served from it passes to its parent -/
  cse : List (Key × Res × List TH) := []
  /-- task functions actually called in this execution, oldest first (observable, not used by the cache) -/
  log : List Key := []
  /-- scheduling fact of the running execution: the failed jobs whose rejection the event loop still processed
  (`_reject_job_main_thread` records the error CallNode; the loop stops as soon as the root promise is rejected,
  so which of several queued rejections are processed depends on their order in the queue) -/
  errRec : List Key := []
  deriving DecidableEq, Repr, Inhabited

def lookup {α β : Type} [DecidableEq α] (k : α) : List (α × β) → Option β
  | [] => none
  | (k', v) :: r => if k' = k then some v else lookup k r

/-- `record_call_node`: nothing happens when the call hash exists (the old row keeps its timestamp) -/
def addNode (st : St) (nd : Node) : St :=
  if nd ∈ st.nodes then st else { st with nodes := nd :: st.nodes }

/-- `_get_call_node`: newest CallNode of this task hash and args hash whose subtree tasks are all current -/
def findNode (c : Code) (k : Key) (nodes : List Node) : Option Node :=
  nodes.find? fun nd => decide (nd.key = k) && c.current nd.sub

def insertTH (h : TH) (l : List TH) : List TH := if h ∈ l then l else h :: l
def unionTH (a b : List TH) : List TH := a.foldr insertTH b

def typeErr : Nat := 99

/-- Python `+` on two evaluated operands (the generator only builds int + int) -/
def addV : Val → Val → Res
  | .int x, .int y => .ok (.int (x + y))
  | _, _ => .err typeErr

abbrev R := Option (St × Res × List TH)

/-- is the CallNode of a job that ended with `r` recorded?  (always for a result; for an error see `St.errRec`) -/
def recorded (st : St) (k : Key) : Res → Bool
  | .ok _ => true
  | .err _ => decide (k ∈ st.errRec)

/-- what a CSE hit on this job's call node will pass on as subtree tasks -/
def cseSub (V : Variant) (h : TH) (sub : List TH) : List TH := if V.cseSubtreeFromDb then sub else [h]

/-- end of a job whose (cached or fresh) single reduction has been evaluated to `r` with children's subtree
tasks `ue`: `_resolve_job_main_thread` / `_reject_job_main_thread` -/
def finishJob (V : Variant) (st : St) (k : Key) (r : Res) (ue : List TH) : St × Res × List TH :=
  let sub := insertTH k.1 ue
  let st1 := if recorded st k r then addNode st ⟨k, r, sub⟩ else st
  ({ st1 with cse := (k, r, cseSub V k.1 sub) :: st1.cse }, r, sub)

/-- cache miss: submit the job; the task function runs (`done_job` -> `set_cache`, or `reject_job`) -/
def runBody (V : Variant) (P : Prog) (w : World) (ev : St → Expr → R) (st : St) (k : Key) : R :=
  let st0 := { st with log := st.log ++ [k] }
  match P.body k.1 k.2 w with
  | .raise cl => some (finishJob V st0 k (.err cl) [])
  | .ret e =>
    match ev { st0 with evals := (k, e) :: st0.evals } e with
    | none => none
    | some (st2, r, ue) => some (finishJob V st2 k r ue)

/-- one job: `_exec_job_main_thread` from the cache lookup on, for the call of task `nm` on value `va` -/
def jobStep (V : Variant) (P : Prog) (c : Code) (w : World) (ev : St → Expr → R) (st : St) (nm : Nat)
    (va : Val) : R :=
  let h := c.th nm
  let k : Key := (h, va)
  match lookup k st.cse with
  | some (r, sub) =>
    -- CSE hit: the result (or error) is final.  A rejected cached job records an error node of its own.
    match r with
    | .ok _ => some (st, r, sub)
    | .err _ => some (if recorded st k r then addNode st ⟨k, r, [h]⟩ else st, r, sub)
  | none =>
    match (if c.shallow nm then findNode c k st.nodes else none) with
    | some nd =>
      -- ultimate reduction: errors and invalid values are not used, and the single reduction is not tried
      match nd.res with
      | .ok v =>
        if validV w v then some ({ st with cse := (k, .ok v, nd.sub) :: st.cse }, .ok v, nd.sub)
        else runBody V P w ev st k
      | .err _ => runBody V P w ev st k
    | none =>
      match lookup k st.evals with
      | some e =>
        if validE V w e then
          match ev st e with
          | none => none
          | some (st2, r, ue) => some (finishJob V st2 k r ue)
        else runBody V P w ev st k
      | none => runBody V P w ev st k

/-- The evaluator (`Scheduler.evaluate` under one parent job), sequential, left to right, aborting at the
first error as the execution does.  Returns the new backend state, the outcome and the subtree task hashes
of the jobs that ended under this expression.  `none` = out of fuel. -/
def eval (V : Variant) (P : Prog) (c : Code) (w : World) : Nat → St → Expr → R
  | 0, _, _ => none
  | _ + 1, st, .lit v => some (st, .ok v, [])
  | n + 1, st, .add a b =>
    match eval V P c w n st a with
    | none => none
    | some (st1, .err x, u1) => some (st1, .err x, u1)
    | some (st1, .ok va, u1) =>
      match eval V P c w n st1 b with
      | none => none
      | some (st2, .err x, u2) => some (st2, .err x, unionTH u1 u2)
      | some (st2, .ok vb, u2) => some (st2, addV va vb, unionTH u1 u2)
  | n + 1, st, .call nm a =>
    match eval V P c w n st a with
    | none => none
    | some (st1, .err x, u1) => some (st1, .err x, u1)
    | some (st1, .ok va, u1) =>
      match jobStep V P c w (eval V P c w n) st1 nm va with
      | none => none
      | some (st2, r, u2) => some (st2, r, unionTH u1 u2)
  | n + 1, st, .catch e cls rc =>
    let ck : CKey := ⟨e, cls, rc⟩
    let recover (st1 : St) (u1 : List TH) : R :=
      -- promise_catch: recover_expr = recover(error); cached under catch's key once it succeeded (on_recover)
      let re := Expr.call rc.name (.lit (.exc cls))
      match eval V P c w n st1 re with
      | none => none
      | some (st2, .ok v, u2) => some ({ st2 with catches := (ck, re) :: st2.catches }, .ok v, unionTH u1 u2)
      | some (st2, .err x, u2) => some (st2, .err x, unionTH u1 u2)
    match (if V.noCatchCache then none else lookup ck st.catches) with
    | some ce =>
      -- cached expression (`expr` or `recover_expr`): evaluated without a validity check, `.catch(promise_catch)`
      match eval V P c w n st ce with
      | none => none
      | some (st1, .ok v, u1) => some (st1, .ok v, u1)
      | some (st1, .err x, u1) => if x = cls then recover st1 u1 else some (st1, .err x, u1)
    | none =>
      match eval V P c w n st e with
      | none => none
      | some (st1, .ok v, u1) => some ({ st1 with catches := (ck, e) :: st1.catches }, .ok v, u1)   -- on_success
      | some (st1, .err x, u1) => if x = cls then recover st1 u1 else some (st1, .err x, u1)

/-! ### Histories -/

/-- one execution: the registry and file system it runs under (i.e. after the edits made since the
previous execution), the root expression (argument changes) and the fuel -/
structure RunIn where
  code : Code
  fs : FS
  root : Expr
  fuel : Nat
  /-- see `St.errRec` -/
  errRec : List Key := []

/-- a new `Scheduler.run`: new execution id (nothing of earlier executions is visible to the CSE query) -/
def St.newExec (st : St) (errRec : List Key := []) : St := { st with cse := [], log := [], errRec := errRec }

def RunIn.world (ri : RunIn) : World := ⟨ri.fs, ri.code.ver, ri.code.pinned⟩

def runOne (V : Variant) (P : Prog) (st : St) (ri : RunIn) : R :=
  eval V P ri.code ri.world ri.fuel (st.newExec ri.errRec) ri.root

/-- the same execution against an empty backend (the property's oracle) -/
def fresh (V : Variant) (P : Prog) (ri : RunIn) (fuel : Nat) : Option Res :=
  (eval V P ri.code ri.world fuel {} ri.root).map fun x => x.2.1

/-- run a history on one backend; collects each execution's outcome -/
def runHist (V : Variant) (P : Prog) : St → List RunIn → Option (St × List Res)
  | st, [] => some (st, [])
  | st, ri :: rest =>
    match runOne V P st ri with
    | none => none
    | some (st1, r, _) =>
      match runHist V P st1 rest with
      | none => none
      | some (st2, rs) => some (st2, r :: rs)

/-! ### Task bodies given by templates (what the driver and the generated workflows use) -/

inductive Tm where
  | arg                       -- the task's argument, passed on as it is
  | numarg                    -- its number: the int itself / the content of the file (a function of the stamp)
  | kindarg                   -- what kind of value it is (type and sign): 0 for an int, the tag of a `prim`
  | lit (z : Int)
  | file (p : Nat)            -- `File(PATH[p])` constructed in the body: stats the file now
  | add (a b : Tm)
  | call (n : Nat) (t : Tm)
  | catch (t : Tm) (cls : Nat) (rc : Nat)
  deriving DecidableEq, Repr, Inhabited

def num : Val → Int
  | .int z => z
  | .file _ s => s
  | .exc c => c
  | .prim _ z => z

def kindOf : Val → Int
  | .int _ => 0
  | .prim t _ => t
  | .exc _ => 8
  | .file _ _ => 9

/-- Python builds the returned expression: `+` on two concrete ints is computed at once, anything involving
an Expression stays lazy -/
def inst (a : Val) (w : World) : Tm → Expr
  | .arg => .lit a
  | .numarg => .lit (.int (num a))
  | .kindarg => .lit (.int (kindOf a))
  | .lit z => .lit (.int z)
  | .file p => .lit (.file p (w.fs p))
  | .add s t =>
    match inst a w s, inst a w t with
    | .lit (.int x), .lit (.int y) => .lit (.int (x + y))
    | es, et => .add es et
  | .call n t => .call n (inst a w t)
  | .catch t cls rc => .catch (inst a w t) cls ⟨rc, w.ver rc⟩

inductive Spec where
  | ret (t : Tm)
  | raise (c : Nat)
  deriving DecidableEq, Repr, Inhabited

/-- program given by a finite table task hash -> body template (a missing entry raises class 98) -/
def tableProg (tbl : List (TH × Spec)) : Prog where
  body h a w :=
    match lookup h tbl with
    | some (.ret t) => .ret (inst a w t)
    | some (.raise c) => .raise c
    | none => .raise 98

end RedunModel.CacheHist
