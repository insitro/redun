/-
Nested values — model of `iter_nested_value_children`, `iter_nested_value` and the structural part of
`map_nested_value` (redun/utils.py).  Core Lean only; shared by several properties.

A nested value is a tree whose inner nodes are the container types the code descends into
(exact `list`, exact `tuple`, namedtuple, exact `set`, exact `dict`, dataclass instance) and whose
leaves are everything else (scalars, `frozenset`, subclasses of list/dict, expressions, files ...).

Classification of a Python value (both functions use the same tests, in this order): exact `list`, exact `tuple`,
namedtuple, exact `set`, exact `dict`, dataclass instance, else leaf.  `ntuple cls xs` is a NAMEDTUPLE in the sense
of the predicate `isNamedtuple(v) := isinstance(v, tuple) and hasattr(v, "_fields")` — any instance of a tuple
subclass whose type has `_fields`: classes made by `collections.namedtuple` / `typing.NamedTuple` AND their
subclasses (with or without extra methods); not "a class whose direct base is `tuple`".  `cls` is the concrete
class, which is what the rebuild calls (`value_type(*items)`).

Conventions
* `set xs`      — the elements in the set's iteration order.
* `dict ks vs`  — keys and values in insertion order (`value.keys()`, `value.values()`); a value that
                  comes from Python has `ks.length = vs.length` (`NV.WF`).
* `dcls c xs`   — field values in declaration order (`dataclasses.fields`); the field names and their
                  `init` flags are class data (`DClass.fields`); well-formed when
                  `xs.length = c.fields.length`.
-/
namespace RedunModel.Nested

/-- What the code depends on of a dataclass *type*. -/
structure DClass where
  name : String
  /-- (field name, `field.init`) in declaration order -/
  fields : List (String × Bool)
  /-- `@dataclass(frozen=True)` -/
  frozen : Bool := false
  /-- instances have a `__dict__` (false for `slots=True`) -/
  hasDict : Bool := true
  deriving DecidableEq, Repr, Inhabited

inductive NV (α : Type) where
  | leaf (a : α)
  | list (xs : List (NV α))
  | tuple (xs : List (NV α))
  | ntuple (cls : String) (xs : List (NV α))
  | set (xs : List (NV α))
  | dict (ks vs : List (NV α))
  | dcls (cls : DClass) (xs : List (NV α))
  deriving Repr, Inhabited

namespace NV
variable {α β γ : Type}

/-- Convenience constructor from key/value pairs. -/
def dictOf (kvs : List (NV α × NV α)) : NV α := .dict (kvs.map Prod.fst) (kvs.map Prod.snd)

/-- `iter_nested_value_children` for a container (in yield order); a leaf has no children here
(the code yields the leaf itself with `is_leaf = True`). -/
def children : NV α → List (NV α)
  | .leaf _ => []
  | .list xs => xs
  | .tuple xs => xs
  | .ntuple _ xs => xs
  | .set xs => xs
  | .dict ks vs => ks ++ vs
  | .dcls _ xs => xs

def isLeaf : NV α → Bool
  | .leaf _ => true
  | _ => false

mutual
  /-- Number of nodes. -/
  def size : NV α → Nat
    | .leaf _ => 1
    | .list xs => 1 + sizes xs
    | .tuple xs => 1 + sizes xs
    | .ntuple _ xs => 1 + sizes xs
    | .set xs => 1 + sizes xs
    | .dict ks vs => 1 + (sizes ks + sizes vs)
    | .dcls _ xs => 1 + sizes xs
  def sizes : List (NV α) → Nat
    | [] => 0
    | x :: xs => size x + sizes xs
end

mutual
  /-- The structural part of `map_nested_value`: same container at every node, `f` at every leaf. -/
  def mapNV (f : α → β) : NV α → NV β
    | .leaf a => .leaf (f a)
    | .list xs => .list (mapNVs f xs)
    | .tuple xs => .tuple (mapNVs f xs)
    | .ntuple c xs => .ntuple c (mapNVs f xs)
    | .set xs => .set (mapNVs f xs)
    | .dict ks vs => .dict (mapNVs f ks) (mapNVs f vs)
    | .dcls c xs => .dcls c (mapNVs f xs)
  def mapNVs (f : α → β) : List (NV α) → List (NV β)
    | [] => []
    | x :: xs => mapNV f x :: mapNVs f xs
end

/-- The shape of a nested value: its container skeleton with the leaves erased. -/
def shape (v : NV α) : NV Unit := mapNV (fun _ => ()) v

mutual
  /-- Leaves in depth-first, left-to-right order (children in `iter_nested_value_children` order). -/
  def leavesDfs : NV α → List α
    | .leaf a => [a]
    | .list xs => leavesDfsL xs
    | .tuple xs => leavesDfsL xs
    | .ntuple _ xs => leavesDfsL xs
    | .set xs => leavesDfsL xs
    | .dict ks vs => leavesDfsL ks ++ leavesDfsL vs
    | .dcls _ xs => leavesDfsL xs
  def leavesDfsL : List (NV α) → List α
    | [] => []
    | x :: xs => leavesDfs x ++ leavesDfsL xs
end

/-- The order in which `iter_nested_value` yields the leaves: the explicit stack pops the *last*
pushed child first, so it is the mirror image of depth-first order (`iterLoop_eq` proves that
the stack machine below computes exactly this). -/
def leaves (v : NV α) : List α := (leavesDfs v).reverse

theorem sizes_append (a b : List (NV α)) : sizes (a ++ b) = sizes a + sizes b := by
  induction a with
  | nil => simp [sizes]
  | cons x xs ih => simp [sizes, ih, Nat.add_assoc]

theorem sizes_reverse (a : List (NV α)) : sizes a.reverse = sizes a := by
  induction a with
  | nil => rfl
  | cons x xs ih => simp [sizes_append, sizes, ih, Nat.add_comm]

/-- One `while stack:` run of `iter_nested_value`.  The list head is the top of the Python stack
(`stack.pop()` takes the last element, `stack.extend(children)` leaves the last child on top).
A popped leaf is yielded (the code first re-pushes it as `(True, leaf)` and yields it on the next
pop; the two steps are merged here). -/
def iterLoop : List (NV α) → List α
  | [] => []
  | .leaf a :: st => a :: iterLoop st
  | .list xs :: st => iterLoop (xs.reverse ++ st)
  | .tuple xs :: st => iterLoop (xs.reverse ++ st)
  | .ntuple _ xs :: st => iterLoop (xs.reverse ++ st)
  | .set xs :: st => iterLoop (xs.reverse ++ st)
  | .dict ks vs :: st => iterLoop (vs.reverse ++ (ks.reverse ++ st))   -- = (ks ++ vs).reverse ++ st
  | .dcls _ xs :: st => iterLoop (xs.reverse ++ st)
termination_by st => sizes st
decreasing_by
  all_goals simp only [List.unattach_reverse, List.unattach_attach, sizes, size, sizes_append, sizes_reverse]
  all_goals omega

/-- `iter_nested_value(value)` -/
def iterNested (v : NV α) : List α := iterLoop [v]

/-! ### The order in which `map_nested_value` calls `func` -/

/-- `a₁ b₁ a₂ b₂ …` (dict comprehension `{map(k): map(v) for k, v in items()}`); total on lists of
different lengths so that no well-formedness hypothesis is needed. -/
def interleave {γ : Type} : List γ → List γ → List γ
  | a :: as, b :: bs => a :: b :: interleave as bs
  | [], bs => bs
  | as, [] => as

/-- The entries of `xs` whose flag equals `want`; entries without a flag count as `init = True`. -/
def pick {γ : Type} (want : Bool) : List Bool → List γ → List γ
  | _, [] => []
  | [], x :: xs => if want then x :: xs else []
  | fl :: fls, x :: xs => if fl = want then x :: pick want fls xs else pick want fls xs

/-- `field.init` flags of a dataclass in declaration order. -/
def _root_.RedunModel.Nested.DClass.initFlags (c : DClass) : List Bool := c.fields.map Prod.snd

mutual
  /-- Leaves in the order `map_nested_value` applies `func` to them: containers left to right, a dict
  as key₁ value₁ key₂ value₂ …, a dataclass first its `init` fields then its non-`init` fields. -/
  def visited : NV α → List α
    | .leaf a => [a]
    | .list xs => (visitedEach xs).flatten
    | .tuple xs => (visitedEach xs).flatten
    | .ntuple _ xs => (visitedEach xs).flatten
    | .set xs => (visitedEach xs).flatten
    | .dict ks vs => (interleave (visitedEach ks) (visitedEach vs)).flatten
    | .dcls c xs => (pick true c.initFlags (visitedEach xs)).flatten ++ (pick false c.initFlags (visitedEach xs)).flatten
  def visitedEach : List (NV α) → List (List α)
    | [] => []
    | x :: xs => visited x :: visitedEach xs
end

mutual
  /-- Well-formed: what a Python value can be (dict has as many keys as values, a dataclass instance
  has one value per declared field). -/
  def WF : NV α → Prop
    | .leaf _ => True
    | .list xs => WFs xs
    | .tuple xs => WFs xs
    | .ntuple _ xs => WFs xs
    | .set xs => WFs xs
    | .dict ks vs => ks.length = vs.length ∧ WFs ks ∧ WFs vs
    | .dcls c xs => xs.length = c.fields.length ∧ WFs xs
  def WFs : List (NV α) → Prop
    | [] => True
    | x :: xs => WF x ∧ WFs xs
end

end NV
end RedunModel.Nested
