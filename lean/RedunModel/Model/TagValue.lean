/-
Model of redun's tag value display / command-line parsing (property C34).  Core Lean only.

Mirrors `redun/tags.py`: `str2literal`, `parse_tag_value`, `parse_tag_key_value`, `format_tag_value`.
Text is `List Char`.

The lexical functions of Python that the code calls — `int(str)`, `float(str)`, `json.loads`,
`json.dumps(v, sort_keys=True)` — are *parameters* (`Lex`); the control flow around them is what is modelled.
The laws the proofs need (`LexLaws`) are stated in `Props/C34.lean`; the harness exercises every law against the
real `int`/`float`/`json` on the generated cases and feeds the real answers to the driver.

`format` mirrors the code as it is since the fix eb07f20 (a string that starts with `[`, `{` or `"` is always
displayed as JSON); `formatOld` is the code before that fix, kept for the refutation theorems.
-/
namespace RedunModel.TagValue

abbrev Str := List Char

/-- JSON-compatible tag values.  `F` = Python floats, `C` = compound values (lists / dicts, compared with
Python `==`); both opaque. -/
inductive JV (F C : Type) where
  | null
  | bool (b : Bool)
  | int (z : Int)
  | float (f : F)
  | str (s : Str)
  | compound (c : C)
  deriving Repr, DecidableEq

inductive Err where
  | valueError
  deriving Repr, DecidableEq

/-- Python / json functions the code calls (`none` = `ValueError` resp. `JSONDecodeError`). -/
structure Lex (F C : Type) where
  pyInt : Str → Option Int
  pyFloat : Str → Option F
  loads : Str → Option (JV F C)
  dumps : JV F C → Str

variable {F C : Type}

/-- `value_str[0] in ("[", "{", '"')` (false for the empty text, as `value[:1]` would be) -/
def startsBracket : Str → Bool
  | [] => false
  | c :: _ => c == '[' || c == '{' || c == '"'

def sTrue : Str := ['t', 'r', 'u', 'e']
def sFalse : Str := ['f', 'a', 'l', 's', 'e']
def sNull : Str := ['n', 'u', 'l', 'l']

/-- `str2literal`: `none` = its `ValueError` -/
def str2literal (s : Str) : Option (JV F C) :=
  if s = sTrue then some (.bool true)
  else if s = sFalse then some (.bool false)
  else if s = sNull then some .null
  else none

/-- `parse_tag_value` -/
def parse (L : Lex F C) (s : Str) : Except Err (JV F C) :=
  if s = [] then .ok .null
  else if startsBracket s then
    match L.loads s with
    | some v => .ok v
    | none => .error .valueError
  else
    match L.pyInt s with
    | some z => .ok (.int z)
    | none =>
      match L.pyFloat s with
      | some f => .ok (.float f)
      | none =>
        match str2literal s with
        | some v => .ok v
        | none => .ok (.str s)

/-- `re.match(".*[ ,].*", value)`: `.` does not match a newline and the match is anchored at the start, so
this holds iff the first line contains a space or a comma. -/
def hasSpaceComma : Str → Bool
  | [] => false
  | c :: t => if c == '\n' then false else if c == ' ' || c == ',' then true else hasSpaceComma t

def isStr : JV F C → Bool
  | .str _ => true
  | _ => false

/-- `format_tag_value` with the repair: the conjunction is evaluated left to right, the new conjunct
`value[:1] not in ("[", "{", '"')` comes before the call of `parse_tag_value`. -/
def format (L : Lex F C) (v : JV F C) : Except Err Str :=
  match v with
  | .str s =>
    if hasSpaceComma s then .ok (L.dumps v)
    else if startsBracket s then .ok (L.dumps v)
    else
      match parse L s with
      | .error e => .error e
      | .ok p => if isStr p then .ok s else .ok (L.dumps v)
  | _ => .ok (L.dumps v)

/-- `format_tag_value` as it is before the repair. -/
def formatOld (L : Lex F C) (v : JV F C) : Except Err Str :=
  match v with
  | .str s =>
    if hasSpaceComma s then .ok (L.dumps v)
    else
      match parse L s with
      | .error e => .error e
      | .ok p => if isStr p then .ok s else .ok (L.dumps v)
  | _ => .ok (L.dumps v)

/-- `key_value.split("=", 1)` when `"=" in key_value` -/
def splitEq : Str → Option (Str × Str)
  | [] => none
  | c :: t =>
    if c == '=' then some ([], t)
    else match splitEq t with
      | some (k, v) => some (c :: k, v)
      | none => none

/-- result of `parse_tag_key_value`: the value is `none` for `ANY_VALUE` -/
def parseKeyValue (L : Lex F C) (kv : Str) (valueRequired : Bool) : Except Err (Str × Option (JV F C)) :=
  if kv = [] then .error .valueError
  else
    match splitEq kv with
    | none => if valueRequired then .error .valueError else .ok (kv, none)
    | some (k, v) =>
      if k = [] then .error .valueError
      else
        match parse L v with
        | .ok p => .ok (k, some p)
        | .error e => .error e

end RedunModel.TagValue
