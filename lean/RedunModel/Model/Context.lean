/-
Model of redun's context machinery (property C26).  Core Lean only.

Mirrors, as they are in /repo:
  * `redun/utils.py::merge_dicts`            → `mergeDicts`
  * `redun/context.py::get_context_value`    → `getPath` / `getContextValue`
  * `redun/task.py::Task.update_context`     → `updateContext`
  * `redun/scheduler.py::Scheduler.run`      → `execContext` (configured context merged with the run context)
  * `redun/scheduler.py::Job.get_context`    → `jobContext` (recursion over the ancestor chain)

A context is a JSON-like value: either a mapping (Python `dict`, insertion ordered, string keys) or anything
else (`leaf`; the payload is an opaque text — the harness sends the JSON dump of the value — only equality
of leaves matters to the code).  `deepMerge` is the *specification* the property talks about ("later keys
win, nested mappings merged"); `Props/C26.lean` proves that the code's n-ary grouping algorithm agrees with it.
-/
namespace RedunModel.Context

inductive Ctx where
  | leaf (v : String)
  | obj (kvs : List (String × Ctx))
  deriving Repr, Inhabited

mutual
def Ctx.size : Ctx → Nat
  | .leaf _ => 1
  | .obj kvs => 1 + sizeKvs kvs
def sizeKvs : List (String × Ctx) → Nat
  | [] => 0
  | (_, v) :: t => v.size + sizeKvs t
end

def sizeL : List Ctx → Nat
  | [] => 0
  | c :: t => c.size + sizeL t

/-- `isinstance(x, dict)` -/
def isObj : Ctx → Bool
  | .obj _ => true
  | .leaf _ => false

/-- `dct.items()` (empty for a non-dict; only used under `all isObj`) -/
def items : Ctx → List (String × Ctx)
  | .obj kvs => kvs
  | .leaf _ => []

/-- `key2values[k]`: the values appended for key `k`, in the order the dicts were visited. -/
def valuesFor (k : String) (its : List (String × Ctx)) : List Ctx :=
  its.filterMap fun p => if p.1 = k then some p.2 else none

/-- Key order of the `defaultdict` `key2values`: first occurrence order. `seen` is reversed. -/
def keyOrder : List String → List String → List String
  | seen, [] => seen.reverse
  | seen, k :: t => if k ∈ seen then keyOrder seen t else keyOrder (k :: seen) t

theorem sizeL_valuesFor_le (k : String) (its : List (String × Ctx)) :
    sizeL (valuesFor k its) ≤ sizeKvs its := by
  induction its with
  | nil => exact Nat.le_refl 0
  | cons p t ih =>
    obtain ⟨k', v⟩ := p
    rw [valuesFor, List.filterMap_cons, ← valuesFor, sizeKvs]
    dsimp only
    by_cases hk : k' = k
    · rw [if_pos hk, sizeL]; omega
    · rw [if_neg hk]; dsimp only; omega

theorem sizeKvs_append (a b : List (String × Ctx)) : sizeKvs (a ++ b) = sizeKvs a + sizeKvs b := by
  induction a with
  | nil => exact (Nat.zero_add _).symm
  | cons p t ih => rw [List.cons_append, sizeKvs, sizeKvs, ih, Nat.add_assoc]

theorem sizeKvs_flatMap_items_lt (ds : List Ctx) (h : ds ≠ []) (hall : ds.all isObj = true) :
    sizeKvs (ds.flatMap items) < sizeL ds := by
  induction ds with
  | nil => exact absurd rfl h
  | cons c t ih =>
    rw [List.all_cons, Bool.and_eq_true] at hall
    cases c with
    | leaf v => cases hall.1
    | obj kvs =>
      rw [List.flatMap_cons, items, sizeKvs_append, sizeL, Ctx.size]
      cases t with
      | nil => rw [List.flatMap_nil, sizeKvs, sizeL]; omega
      | cons d t' => have := ih (List.cons_ne_nil _ _) hall.2; omega

/-- `merge_dicts(dicts)`, line by line:
    `len(dicts) == 1` ⇒ the element; any non-dict ⇒ the last element; otherwise group values by key in
    first-occurrence order and merge each group recursively.  (`merge_dicts([])` falls through both tests —
    `any([])` is false — and yields `{}`.) -/
def mergeDicts (ds : List Ctx) : Ctx :=
  match ds with
  | [] => .obj []
  | [d] => d
  | d1 :: d2 :: rest =>
    if h : (d1 :: d2 :: rest).all isObj then
      let its := (d1 :: d2 :: rest).flatMap items
      .obj ((keyOrder [] (its.map (·.1))).map fun k => (k, mergeDicts (valuesFor k its)))
    else
      (d1 :: d2 :: rest).getLast (by simp)
termination_by sizeL ds
decreasing_by
  have h1 := sizeL_valuesFor_le k ((d1 :: d2 :: rest).flatMap items)
  have h2 := sizeKvs_flatMap_items_lt (d1 :: d2 :: rest) (by simp) h
  omega

/-! ### Specification: binary deep merge ("later keys win, nested mappings merged") -/

mutual
/-- `deepMerge a b`: if both are mappings, every key of `a` keeps its position and gets the merged value when
    `b` also has it; keys only in `b` follow in `b`'s order.  Otherwise `b` wins. -/
def deepMerge : Ctx → Ctx → Ctx
  | .obj da, .obj db => .obj (mergeKvs da db ++ db.filter fun p => !(da.any fun q => q.1 == p.1))
  | .obj _, .leaf w => .leaf w
  | .leaf _, b => b
def mergeKvs : List (String × Ctx) → List (String × Ctx) → List (String × Ctx)
  | [], _ => []
  | (k, v) :: t, db =>
    (k, match db.lookup k with
        | some w => deepMerge v w
        | none => v) :: mergeKvs t db
end

/-- The loop of `get_context_value`: `none` = the `return default` / `KeyError` exits. -/
def getPath : Ctx → List String → Option Ctx
  | v, [] => some v
  | .leaf _, _ :: _ => none
  | .obj kvs, p :: ps =>
    match kvs.lookup p with
    | some v => getPath v ps
    | none => none

/-- `get_context_value(context, var_path, default)`; `var_path.split(".")` is `String.splitOn`. -/
def getContextValue (ctx : Ctx) (varPath : String) (default : Ctx) : Ctx :=
  match getPath ctx (varPath.splitOn ".") with
  | some v => v
  | none => default

/-- `Task.update_context(context, **kwargs)`: new `_context_override` from the previous one. -/
def updateContext (prev ctx kwargs : Ctx) : Ctx := mergeDicts [prev, ctx, kwargs]

/-- The `_context_override` a call carries after a chain `task.update_context(c₁, **k₁)…update_context(cₙ, **kₙ)`
with `.partial(..)` / `.options(..)` anywhere in between (they leave the override alone: `PartialTask.update_context`
and `PartialTask.options` delegate to the wrapped task): each step updates the previous override, starting from `{}`. -/
def overrideOfChain (steps : List (Ctx × Ctx)) : Ctx :=
  steps.foldl (fun prev s => updateContext prev s.1 s.2) (.obj [])

/-- `Execution(context=merge_dicts([self._context, context]))` in `Scheduler.run`. -/
def execContext (config run : Ctx) : Ctx := mergeDicts [config, run]

/-- `Job.get_context`: the argument lists the `_context_override` of the job itself, then of its parent, …,
    up to the root job (a job without the option contributes `{}`); the root's parent context is the
    execution context. -/
def jobContext (execCtx : Ctx) : List Ctx → Ctx
  | [] => execCtx
  | o :: ancestors => mergeDicts [jobContext execCtx ancestors, o]

/-! ### well-formedness: what a Python dict guarantees (unique keys, recursively) -/

mutual
def Ctx.WF : Ctx → Prop
  | .leaf _ => True
  | .obj kvs => wfKvs kvs ∧ (kvs.map (·.1)).Nodup
def wfKvs : List (String × Ctx) → Prop
  | [] => True
  | (_, v) :: t => v.WF ∧ wfKvs t
end

end RedunModel.Context
